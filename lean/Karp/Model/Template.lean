/-
Model of `NodeClaimTemplate.ToNodeClaim` / `resolveCustomLabelsFromRequirements`
(pkg/controllers/provisioning/scheduling/nodeclaimtemplate.go): which labels, taints, annotations and
requirement entries end up on the NodeClaim written to the API.  Instance-type truncation is modelled in
`Karp/Model/Catalog.lean` (C19); here the instance-type requirement is just one more key of `reqs`.
-/
import Karp.Model.Req
import Karp.Gen.Template

namespace Karp.Template
open Karp.Req

def simulationKeys : List String := Karp.Gen.Template.simulationKeys

/-- keys for which `resolveCustomLabelsFromRequirements` materialises a label -/
def customKey (k : String) : Bool :=
  !(Karp.Gen.Labels.wellKnownLabels.contains k || Karp.Gen.Labels.restrictedLabels.contains k || simulationKeys.contains k)

structure Tmpl where
  labels        : List (String × String)   -- NodeClaimTemplate.Labels (template labels + nodepool + nodeclass label)
  taints        : List String
  startupTaints : List String
  hash          : String
  hashVersion   : String
  reqs          : Reqs                     -- NodeClaimTemplate.Requirements after scheduling
deriving Repr

structure NC where
  labels          : List (String × String)
  taints          : List String
  startupTaints   : List String
  hash            : String
  hashVersion     : String
  requirementKeys : List String
  selectors       : List Sel

/-- `lo.Assign(a, b)`: entries of `b` take precedence -/
def assign (a b : List (String × String)) : List (String × String) := b ++ a

/-- `resolveCustomLabelsFromRequirements` is random (`Any()`): `resolved` is an allowed outcome iff every entry
    is a custom key with a non-empty value `Any()` may return, and every custom key without an entry may
    return the empty string -/
def resolvedAllowed (t : Tmpl) (resolved : List (String × String)) : Bool :=
  resolved.all (fun (k, v) => customKey k && v != "" &&
    (match t.reqs.lookup k with | some r => r.anyAllowed v | none => false))
  && t.reqs.all (fun (k, r) => !customKey k || (resolved.lookup k).isSome || r.anyAllowed "")

def toNodeClaim (t : Tmpl) (resolved : List (String × String)) : NC :=
  let kept := t.reqs.filter (fun (k, _) => !simulationKeys.contains k)
  { labels := assign t.labels resolved, taints := t.taints, startupTaints := t.startupTaints,
    hash := t.hash, hashVersion := t.hashVersion,
    requirementKeys := kept.map (·.1),
    selectors := kept.flatMap (fun (_, r) => r.toSelectors) }

theorem lookup_assign (a b : List (String × String)) (k : String) :
    (assign a b).lookup k = (b.lookup k).or (a.lookup k) := List.lookup_append

theorem lookup_assign_right (a b : List (String × String)) (k v : String) (h : b.lookup k = some v) :
    (assign a b).lookup k = some v := by
  rw [lookup_assign, h]; rfl

theorem lookup_assign_left (a b : List (String × String)) (k v : String) (h : a.lookup k = some v)
    (hb : b.lookup k = none) : (assign a b).lookup k = some v := by
  rw [lookup_assign, hb, h]; rfl

theorem filtered_keys (t : Tmpl) (resolved : List (String × String)) (k : String)
    (hk : simulationKeys.contains k = true) : ((toNodeClaim t resolved).requirementKeys.contains k) = false := by
  rw [Bool.eq_false_iff]
  intro hc
  obtain ⟨⟨k', r⟩, hp, rfl⟩ := List.mem_map.mp (List.contains_iff_mem.mp hc)
  have : (!simulationKeys.contains k') = true := (List.mem_filter.mp hp).2
  rw [hk] at this
  cases this

end Karp.Template
