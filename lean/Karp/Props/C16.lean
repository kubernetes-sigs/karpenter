/-
C16 — Forceful reapers act only on their documented trigger.

Property theorems (helper lemmas live in `Karp/Proofs/Reapers.lean`).
Model: `Karp/Model/Reapers.lean` (expiration, garbage collection, liveness inside the lifecycle pass, node
repair; every API / provider call outcome and the clock are inputs).
Spec:  `Karp/Spec/Reapers.lean` (when may each reaper issue a Delete, from the property text).

All theorems quantify over ALL inputs: every NodeClaim / Node / provider state, every clock position and
every vector of call outcomes (fault sequences of any length).
-/
import Karp.Proofs.Reapers

namespace Karp.C16
open Karp.Reapers Karp.Spec.Reapers

/-! ## Fact expectations over the constants generated from the source -/

theorem fact_launch_timeout : Karp.Gen.Reapers.launchTimeoutNs = 5 * 60 * 1000000000 := by decide
theorem fact_registration_timeout : Karp.Gen.Reapers.registrationTimeoutNs = 15 * 60 * 1000000000 := by decide
/-- property text: "at most 20% (rounded up) of the pool's nodes are unhealthy" -/
theorem fact_breaker_percent :
    Karp.Gen.Reapers.allowedUnhealthyPercent = 20 ∧ Karp.Gen.Reapers.unhealthyRoundUp = true := by decide

/-- property text: "... and not when that cannot be established" — the collector's two list calls (NodeClaims,
    `cloudProvider.List`) are each followed by an early return on the plain `err != nil`: no error type is
    filtered out (`client.IgnoreNotFound`, `cloudprovider.IgnoreNodeClaimNotFoundError`, …) before the test.
    `gcWith` ends the pass on `listClaimsFault` / `providerListFault` whatever the error (`GCErrFrame`); that is
    the code's behaviour exactly as long as this holds. -/
theorem fact_gc_list_guards :
    Karp.Gen.Reapers.gcListGuards =
      [("nodeclaimutils.ListManaged", "err != nil"), ("c.cloudProvider.List", "err != nil")] := rfl

/-! ## Expiration -/

theorem C16_expiration_exact (i : ExpIn) :
    (expiration i).deletes =
      if i.managed = true ∧ i.deleting = false ∧ expirationMayDelete i.expireAfter i.created i.now = true then 1 else 0 := by
  fun_cases expiration i
  -- in the order of `expiration`: not managed, deleting, expiry disabled, before the expiry instant, at or after it
  case case1 hm => exact (if_neg fun h => by rw [h.1] at hm; cases hm).symm
  case case2 hd => exact (if_neg fun h => by rw [h.2.1] at hd; cases hd).symm
  case case3 he => exact (if_neg fun h => by rw [he] at h; cases h.2.2).symm
  case case4 d he _ hlt =>
    exact (if_neg fun h => by rw [he] at h; exact absurd hlt (Int.not_lt.mpr (of_decide_eq_true h.2.2))).symm
  case case5 hm hd d he _ hge =>
    exact (if_pos ⟨by simpa using hm, by simpa using hd, by rw [he]; exact decide_eq_true (Int.not_lt.mp hge)⟩).symm

/-- **C16_expiration** — a Delete is issued only when expiry is enabled and the clock has reached
    creation + expireAfter. -/
theorem C16_expiration (i : ExpIn) (h : 0 < (expiration i).deletes) :
    expirationMayDelete i.expireAfter i.created i.now = true := by
  rw [C16_expiration_exact] at h
  split at h
  · rename_i hc; exact hc.2.2
  · exact absurd h (Nat.lt_irrefl 0)

theorem C16_expiration_never_when_disabled (i : ExpIn) (h : i.expireAfter = none) :
    (expiration i).deletes = 0 := by
  rw [C16_expiration_exact, if_neg]
  rw [h]
  exact fun hc => Bool.noConfusion hc.2.2

theorem C16_expiration_requeue (i : ExpIn) (d : Int) (hm : i.managed = true) (hd : i.deleting = false)
    (he : i.expireAfter = some d) (hlt : i.now < i.created + d) :
    (expiration i).requeue = i.created + d - i.now ∧ (expiration i).deletes = 0 := by
  unfold expiration
  simp [hm, hd, he, hlt]

/-- **C16_expiration_frame** — nothing but the documented trigger decides: whatever else the NodeClaim and its
    surroundings carry (`spec.terminationGracePeriod`, the NodePool's own expireAfter / terminationGracePeriod,
    condition transition times, the termination-timestamp annotation, the Node, its pods, do-not-disrupt, …)
    leaves the whole outcome (Delete, requeue delay, error) unchanged. -/
theorem C16_expiration_frame (i : ExpIn) (f : ExpFrame) :
    expiration { i with frame := f } = expiration i := by
  unfold expiration
  rfl

/-- two NodeClaims that agree on the trigger (and on the Delete outcome) are treated alike, whatever their frames -/
theorem C16_expiration_frame_ext (i j : ExpIn) (hm : i.managed = j.managed) (hd : i.deleting = j.deleting)
    (he : i.expireAfter = j.expireAfter) (hc : i.created = j.created) (hn : i.now = j.now)
    (hf : i.deleteFault = j.deleteFault) :
    expiration i = expiration j := by
  unfold expiration
  rw [hm, hd, he, hc, hn, hf]

/-- **C16_expiration_grace_period_window** — the terminationGracePeriod does not pull the Delete forward: a
    NodeClaim with terminationGracePeriod `g` (any `g`, also `g ≥ expireAfter`) that is reconciled inside
    `[creation + expireAfter − g, creation + expireAfter)` is kept, and requeued for creation + expireAfter —
    not for an earlier instant. (The same holds for every other duration / instant of the frame: it is the
    instance of `C16_expiration_requeue` the frame theorem gives.) -/
theorem C16_expiration_grace_period_window (i : ExpIn) (d g : Int) (hm : i.managed = true) (hd : i.deleting = false)
    (he : i.expireAfter = some d) (_hg : i.frame.terminationGracePeriod = some g)
    (_hwin : i.created + d - g ≤ i.now) (hlt : i.now < i.created + d) :
    (expiration i).deletes = 0 ∧ (expiration i).requeue = i.created + d - i.now ∧
      expirationMayDelete i.expireAfter i.created i.now = false := by
  refine ⟨(C16_expiration_requeue i d hm hd he hlt).2, (C16_expiration_requeue i d hm hd he hlt).1, ?_⟩
  unfold expirationMayDelete
  simp [he]
  omega

/-! ## Garbage collection

NOT a theorem of this file — the full statement the property demands would be: for `d ∈ (gc i).1`,

    ∃ c ∈ i.claims, c.name = d ∧ gcMayDelete i c = true

It FAILS for the code in two ways (both replayed on the real controller, see the negation witnesses below
and `corpus/c16.gc_lookup/`). Way 1 is there when the control-flow fact `gcReturnsOnNodeLookupError`, read off
the source, is false; way 2 is there for either value:
 1. a failed Node lookup is recorded in `errs[i]` but the closure does not `return`: the NodeClaim is deleted
    although "Node absent or not Ready" was not established (its Node may be Ready);
 2. a *duplicate* Node error is deliberately ignored, so a NodeClaim with two Nodes, one of them Ready, is
    deleted.
Proved instead: the statement with exactly these two escape clauses (`C16_gc_partial`), the full statement
for a collector that returns on a lookup error when no provider id is shared by two Nodes
(`C16_gc_full_when_repaired`), and that nothing is deleted when either list call fails. -/

/-- **C16_gc_partial** — for the collector as written (either value of the control-flow fact): a deleted
    NodeClaim is Registered, both lists were obtained, the provider lists no live instance for it, and its
    Node was established absent / not Ready — *unless* the Node lookup failed (and the closure does not
    return) or the lookup found duplicate Nodes. -/
theorem C16_gc_partial (flag : Bool) (i : GCIn) (d : String) (h : d ∈ (gcWith flag i).1) :
    ∃ c ∈ i.claims, c.name = d ∧ c.registered = .true_ ∧ i.listClaimsFault = false ∧ providerLacks i c = true ∧
      (nodeAbsentOrNotReady i c = true ∨ (flag = false ∧ lookup i c = .failed) ∨ lookup i c = .duplicate) := by
  obtain ⟨hl, hp, c, hc, hname, hcand, hdel⟩ := mem_gcWith flag i d h
  obtain ⟨hreg, hlacks⟩ := candidate_providerLacks i c hp hcand
  exact ⟨c, hc, hname, hreg, hl, hlacks, gcOne_deleted hdel⟩

/-- the same about `gc`, the collector with the control-flow fact generated from the source -/
theorem C16_gc_as_is (i : GCIn) (d : String) (h : d ∈ (gc i).1) :
    ∃ c ∈ i.claims, c.name = d ∧ c.registered = .true_ ∧ i.listClaimsFault = false ∧ providerLacks i c = true ∧
      (nodeAbsentOrNotReady i c = true ∨
        (Karp.Gen.Reapers.gcReturnsOnNodeLookupError = false ∧ lookup i c = .failed) ∨ lookup i c = .duplicate) :=
  C16_gc_partial _ i d h

theorem gc_full_of_partial (flag : Bool) (i : GCIn) (d : String) (h : d ∈ (gcWith flag i).1)
    (hok : ∀ c ∈ i.claims, (flag = false → lookup i c ≠ .failed) ∧ lookup i c ≠ .duplicate) :
    ∃ c ∈ i.claims, c.name = d ∧ gcMayDelete i c = true := by
  obtain ⟨c, hc, hname, hreg, hl, hlacks, hrest⟩ := C16_gc_partial flag i d h
  have hest : nodeAbsentOrNotReady i c = true := by
    rcases hrest with h1 | ⟨hf, h2⟩ | h3
    · exact h1
    · exact absurd h2 ((hok c hc).1 hf)
    · exact absurd h3 (hok c hc).2
  refine ⟨c, hc, hname, ?_⟩
  unfold gcMayDelete
  simp [hreg, hl, hlacks, hest]

/-- **C16_gc_full_when_established** — the full statement holds of the collector as written on every run in
    which no Node lookup of a NodeClaim fails and none finds duplicate Nodes (i.e. with a healthy API server
    and a consistent cluster: exactly the runs the example-based tests exercise). -/
theorem C16_gc_full_when_established (flag : Bool) (i : GCIn) (d : String)
    (hok : ∀ c ∈ i.claims, lookup i c ≠ .failed ∧ lookup i c ≠ .duplicate) (h : d ∈ (gcWith flag i).1) :
    ∃ c ∈ i.claims, c.name = d ∧ gcMayDelete i c = true :=
  gc_full_of_partial flag i d h fun c hc => ⟨fun _ => (hok c hc).1, (hok c hc).2⟩

/-- **C16_gc_full_when_repaired** — once the closure returns on a failed lookup (the proposed repair;
    `gcReturnsOnNodeLookupError = true`) and no two Nodes share a provider id, the full statement holds. -/
theorem C16_gc_full_when_repaired (i : GCIn) (d : String)
    (huniq : ∀ pid, (nodesOf i pid).length ≤ 1) (h : d ∈ (gcWith true i).1) :
    ∃ c ∈ i.claims, c.name = d ∧ gcMayDelete i c = true :=
  gc_full_of_partial true i d h fun c _ => ⟨nofun, lookup_not_duplicate i c huniq⟩

theorem C16_gc_list_guards (flag : Bool) (i : GCIn)
    (h : i.listClaimsFault = true ∨ i.providerListFault = true) : (gcWith flag i).1 = [] :=
  congrArg Prod.fst (gcWith_list_failed flag i h)

/-- **C16_gc_error_class_frame** — WHICH error a failing guarding read returned (kube API NotFound / Conflict /
    Timeout / …, the provider's typed NodeClaimNotFoundError / InsufficientCapacityError / NodeClassNotReadyError,
    bare, wrapped or joined, …) and whether a failing `cloudProvider.List` handed back a partial result next to
    its error decides nothing: neither what the collector does nor what the specification permits. -/
theorem C16_gc_error_class_frame (flag : Bool) (i : GCIn) (e : GCErrFrame) :
    gcWith flag { i with errs := e } = gcWith flag i ∧
    ∀ c, gcMayDelete { i with errs := e } c = gcMayDelete i c :=
  ⟨rfl, fun _ => rfl⟩

/-- **C16_gc_failed_list_is_not_an_empty_list** — for every error class (`i.errs` is arbitrary) and whatever the
    provider would have listed: when `cloudProvider.List` (or the NodeClaim list) fails, the collector issues no
    Delete and the specification permits none — "the provider no longer lists its instance" has not been
    established. -/
theorem C16_gc_failed_list_is_not_an_empty_list (flag : Bool) (i : GCIn)
    (h : i.listClaimsFault = true ∨ i.providerListFault = true) :
    (gcWith flag i).1 = [] ∧ (gcWith flag i).2 = true ∧ ∀ c, gcMayDelete i c = false := by
  refine ⟨C16_gc_list_guards flag i h, congrArg Prod.snd (gcWith_list_failed flag i h), fun c => ?_⟩
  unfold gcMayDelete providerLacks
  rcases h with h | h <;> simp [h]

/-- the specification is *tight* about it: with a failed provider List no set of Deletes but the empty one is
    acceptable (so the driver's oracle rejects any Delete the real collector issues after such a failure) -/
theorem C16_gc_spec_rejects_deletes_after_failed_list (i : GCIn) (d : String) (ds : List String)
    (h : i.listClaimsFault = true ∨ i.providerListFault = true) : gcDeletesOk i (d :: ds) = false := by
  have hno := (C16_gc_failed_list_is_not_an_empty_list true i h).2.2
  unfold gcDeletesOk
  simp [hno]

theorem C16_gc_ready_guard (flag : Bool) (i : GCIn) (c : Claim) (h : lookup i c = .one true) :
    (gcOne flag i c).1 = false := by
  unfold gcOne; rw [h]

/-- **C16_gc_terminating_node_is_present** — a Node that carries a deletion timestamp but still exists (it is
    draining under the termination finalizer) is a *present* Node: rewriting the Nodes' deletion timestamps in
    any way changes neither what the collector does (deleted NodeClaims, error) nor what the specification
    permits. "Node absent" means absent. -/
theorem C16_gc_terminating_node_is_present (flag : Bool) (i : GCIn) (f : GNode → Bool) :
    gcWith flag (i.withTerminating f) = gcWith flag i ∧
    ∀ c, gcMayDelete (i.withTerminating f) c = gcMayDelete i c :=
  ⟨gcWith_withTerminating flag i f, gcMayDelete_withTerminating i f⟩

/-- **C16_gc_ready_terminating_node_kept** — the NodeClaim of a Ready Node is kept whatever the Node's deletion
    timestamp says: if the lookup works and finds exactly the Node `n`, and `n` is Ready, no Delete is issued
    (for `n.terminating = true` as for `false`). -/
theorem C16_gc_ready_terminating_node_kept (flag : Bool) (i : GCIn) (c : Claim) (n : GNode)
    (hpid : (c.pid == "") = false) (hlk : i.lookupFault.contains c.pid = false)
    (hn : nodesOf i c.pid = [n]) (hr : n.ready = true) :
    (gcOne flag i c).1 = false ∧ gcMayDelete i c = false := by
  have hl : lookup i c = .one true := by
    unfold lookup
    rw [hpid, hlk, hn]
    exact congrArg Lookup.one hr
  refine ⟨C16_gc_ready_guard flag i c hl, ?_⟩
  unfold gcMayDelete
  rw [nodeAbsentOrNotReady_eq, hpid, hlk, hn, List.all_cons, hr]
  exact Bool.and_false _

/-! ### The two defects, as machine-checked negations of the full statement on concrete witnesses -/

/-- one Registered NodeClaim, instance gone, its single Node is Ready, the Node lookup fails -/
def gcWitnessLookup : GCIn :=
  { claims := [{ name := "nc-00", pid := "fake://i-00", registered := .true_, deleting := false, managed := true }],
    provider := [], nodes := [{ name := "node-00", pid := "fake://i-00", ready := true }],
    listClaimsFault := false, providerListFault := false, lookupFault := ["fake://i-00"], deleteFaults := [] }

/-- the collector that does not return on a failed lookup (`gcWith false`) deletes it; the specification forbids
    it; the collector that returns (`gcWith true`) does not -/
theorem C16_gc_violated_by_lookup_error :
    (gcWith false gcWitnessLookup).1 = ["nc-00"] ∧
    gcDeletesOk gcWitnessLookup (gcWith false gcWitnessLookup).1 = false ∧
    (gcWith true gcWitnessLookup).1 = [] := by
  decide

/-- one Registered NodeClaim, instance gone, two Nodes carry its provider id and both are Ready -/
def gcWitnessDuplicate : GCIn :=
  { claims := [{ name := "nc-00", pid := "fake://i-00", registered := .true_, deleting := false, managed := true }],
    provider := [], nodes := [{ name := "node-00", pid := "fake://i-00", ready := true },
                              { name := "node-01", pid := "fake://i-00", ready := true }],
    listClaimsFault := false, providerListFault := false, lookupFault := [], deleteFaults := [] }

theorem C16_gc_violated_by_duplicate_nodes (flag : Bool) :
    (gcWith flag gcWitnessDuplicate).1 = ["nc-00"] ∧
    gcDeletesOk gcWitnessDuplicate (gcWith flag gcWitnessDuplicate).1 = false := by
  cases flag <;> decide

/-! ## Liveness -/

/-- **C16_liveness** — the lifecycle pass issues a Delete only for a NodeClaim that failed to launch within
    `LaunchTimeout` or failed to register within `registrationTimeout` (measured from the condition's last
    transition; for a never-set condition that is the creation time). -/
theorem C16_liveness (i : LiveIn) (h : 0 < (lifecycle i).deletes) :
    livenessMayDelete launchTimeout registrationTimeout i.launched i.launchedAt i.registered i.registeredAt i.now = true := by
  rcases lifecycle_cases i with h0 | ⟨_, hreg, hor⟩
  · rw [h0] at h; cases h
  unfold livenessMayDelete
  simp only [Bool.or_eq_true, Bool.and_eq_true, bne_iff_ne, ne_eq, decide_eq_true_eq]
  rcases hor with ⟨hl, hto⟩ | hto
  · obtain ⟨hl', he⟩ := launchStep_pending hl
    exact Or.inl ⟨hl', he ▸ hto⟩
  · exact Or.inr ⟨hreg, hto⟩

/-- **C16_liveness_documented** — the same against the documented timeouts (5 min / 15 min), through the
    fact expectations; this is the predicate the driver evaluates on the real controller's Deletes. -/
theorem C16_liveness_documented (i : LiveIn) (h : 0 < (lifecycle i).deletes) :
    livenessMayDelete documentedLaunchTimeout documentedRegistrationTimeout
      i.launched i.launchedAt i.registered i.registeredAt i.now = true := by
  have hl : launchTimeout = documentedLaunchTimeout := by
    unfold launchTimeout documentedLaunchTimeout; rw [fact_launch_timeout]; rfl
  have hr : registrationTimeout = documentedRegistrationTimeout := by
    unfold registrationTimeout documentedRegistrationTimeout; rw [fact_registration_timeout]; rfl
  rw [← hl, ← hr]
  exact C16_liveness i h

/-- at most one Delete per pass (the launch-timeout branch returns after its Delete; before the repair recorded in
    known_findings.json a claim whose launch failed and that was reconciled after BOTH timeouts was deleted twice) -/
theorem C16_liveness_at_most_one (i : LiveIn) : (lifecycle i).deletes ≤ 1 := by
  rcases lifecycle_cases i with h | h
  · rw [h]; exact Nat.zero_le 1
  · rw [h.1]; exact (timeoutBranch_dels i (initState i)).2.1

/-- **C16_liveness_read_guard** — when the NodePool read that precedes the Delete fails (any failure other than
    NotFound), no Delete is issued in that pass. -/
theorem C16_liveness_read_guard (i : LiveIn) (hp : i.pool ≠ .none)
    (hf : faultAt i.getFaults 0 = .err ∨ faultAt i.getFaults 0 = .conflict) :
    (lifecycle i).deletes = 0 := by
  rcases lifecycle_cases i with h | h
  · exact h
  · exact h.1.trans ((timeoutBranch_dels i (initState i)).2.2 (updateHealth_read_failed hp hf))

/-! ## Node repair -/

/-- **C16_repair** — node repair issues a Delete only when some condition of the node has matched a provider
    repair policy for at least that policy's toleration, the pool's (cluster's, for a standalone claim) nodes
    could be listed, and at most 20% of them, rounded up, are unhealthy. -/
theorem C16_repair (i : RepairIn) (h : 0 < (repair i).deletes) :
    repairMayDelete Karp.Gen.Reapers.allowedUnhealthyPercent i = true := by
  obtain ⟨c, tol, hf, hnow, _, hn, h4, _⟩ := repair_delete_cases i h
  unfold repairMayDelete breakerClosed
  rw [tolerationLasted_of_found hf hnow, hn]
  exact (nodesHealthy_iff i).mp h4

/-- **C16_repair_documented** — against the documented 20% (through `fact_breaker_percent`); the predicate the
    driver evaluates on the real controller's Deletes. -/
theorem C16_repair_documented (i : RepairIn) (h : 0 < (repair i).deletes) :
    repairMayDelete documentedUnhealthyPercent i = true := by
  have : Karp.Gen.Reapers.allowedUnhealthyPercent = documentedUnhealthyPercent := fact_breaker_percent.1
  rw [← this]
  exact C16_repair i h

/-- **C16_repair_terminating_nodes_count** — a Node of the pool that carries a deletion timestamp but still
    exists (e.g. draining after an earlier repair) is still one of "the pool's nodes", and still unhealthy if
    its condition says so: rewriting the Nodes' deletion timestamps in any way changes neither what node repair
    does nor what the specification permits.  (Otherwise every repaired node would free budget for the next
    one and repair would cascade through a pool that is far above 20% unhealthy.) -/
theorem C16_repair_terminating_nodes_count (i : RepairIn) (f : RNode → Bool) :
    repair (i.withTerminating f) = repair i ∧
    ∀ pct, repairMayDelete pct (i.withTerminating f) = repairMayDelete pct i := by
  refine ⟨?_, fun pct => repairMayDelete_withTerminating pct i f⟩
  unfold repair
  rw [repairB_withTerminating]

theorem C16_repair_at_most_one (i : RepairIn) : (repair i).deletes ≤ 1 := by
  by_cases h : 0 < (repair i).deletes
  · obtain ⟨_, _, _, _, _, _, _, _, h1⟩ := repair_delete_cases i h
    exact Nat.le_of_eq h1
  · omega

/-- **C16_repair_read_guards** — no Delete when the NodeClaim lookup or the node listing that guards the
    decision fails -/
theorem C16_repair_read_guards (i : RepairIn)
    (h : i.claimListFault = true ∨ i.nodeListFault ≠ .none) : (repair i).deletes = 0 := by
  refine Nat.eq_zero_of_not_pos fun hpos => ?_
  obtain ⟨_, _, _, _, hc, hn, _⟩ := repair_delete_cases i hpos
  rcases h with h | h
  · rw [hc] at h; cases h
  · exact h hn

/-! ### Node repair acts on the Node's own NodeClaim (clusters with launching NodeClaims and Nodes without a
    provider id) -/

/-- `nodeutils.GetNodeClaims` returns "no NodeClaim" for a Node without `spec.providerID` *before* it lists the
    NodeClaims by provider id (the `status.providerID` index lists every NodeClaim that is still launching under
    the empty provider id). `repairT` is the guarded lookup exactly as long as this holds. -/
theorem fact_nodeclaim_lookup_skips_empty_provider_id :
    Karp.Gen.Reapers.nodeClaimLookupSkipsEmptyProviderID = true := by decide

/-- **C16_repair_target** — in a cluster with any number of NodeClaims (the Node's own, other Nodes', NodeClaims
    still launching without a provider id), every NodeClaim node repair issues a Delete for is the reconciled
    Node's own (same, non-empty provider id) and the repair trigger holds for that Node: its unhealthy condition
    lasted the toleration and the breaker of that NodeClaim's pool is closed. -/
theorem C16_repair_target (i : RepairTIn) (d : String) (h : d ∈ (repairT i).deleted) :
    repairTargetMayDelete Karp.Gen.Reapers.allowedUnhealthyPercent i d = true := by
  rw [repairT_eq_guarded fact_nodeclaim_lookup_skips_empty_provider_id] at h
  obtain ⟨c, hc, hn, hp, hpid, _, hdel⟩ := repairTWith_deleted i d h
  exact (repairTargetMayDelete_iff ..).mpr ⟨c, hc, hn, hp, hpid, C16_repair _ hdel⟩

/-- against the documented 20% — the predicate the driver evaluates on the real controller's Deletes -/
theorem C16_repair_target_documented (i : RepairTIn) (d : String) (h : d ∈ (repairT i).deleted) :
    repairTargetMayDelete documentedUnhealthyPercent i d = true := by
  have : Karp.Gen.Reapers.allowedUnhealthyPercent = documentedUnhealthyPercent := fact_breaker_percent.1
  rw [← this]
  exact C16_repair_target i d h

/-- **C16_repair_target_no_provider_id** — reconciling a Node that has no provider id does nothing (no Delete, no
    termination timestamp, no error — the NodeClaim LIST is not even issued, so its outcome is irrelevant),
    whichever NodeClaims exist — in particular however many are still launching with an equally empty provider
    id — and the specification permits no Delete at all. -/
theorem C16_repair_target_no_provider_id (i : RepairTIn) (h : i.nodePid = "") :
    repairT i = {} ∧ ∀ pct d, repairTargetMayDelete pct i d = false := by
  constructor
  · rw [repairT_eq_guarded fact_nodeclaim_lookup_skips_empty_provider_id]
    unfold repairTWith nodeClaimsForWith; simp [h]
  · intro pct d
    rw [Bool.eq_false_iff]
    intro hm
    obtain ⟨_, _, _, hne, _⟩ := (repairTargetMayDelete_iff ..).mp hm
    exact hne h

/-- **C16_repair_target_launching_claims_untouched** — a NodeClaim that is still launching (no provider id) is
    never deleted by node repair, whichever Node is reconciled, and the specification never permits it. -/
theorem C16_repair_target_launching_claims_untouched (i : RepairTIn) (c : TClaim) (hc : c ∈ i.claims)
    (hp : c.pid = "") (huniq : ∀ c' ∈ i.claims, c'.name = c.name → c' = c) :
    c.name ∉ (repairT i).deleted ∧ ∀ pct, repairTargetMayDelete pct i c.name = false := by
  -- a claim of that name carrying the provider id of a Node that has one would be `c`
  have key : ∀ c' ∈ i.claims, c'.name = c.name → i.nodePid ≠ "" → c'.pid ≠ i.nodePid := by
    intro c' hc' hn hne hpid
    cases huniq c' hc' hn
    exact hne (hpid ▸ hp)
  constructor
  · intro hd
    rw [repairT_eq_guarded fact_nodeclaim_lookup_skips_empty_provider_id] at hd
    obtain ⟨c', hc', hn, hne, hpid, _⟩ := repairTWith_deleted i c.name hd
    exact key c' hc' hn hne hpid
  · intro pct
    rw [Bool.eq_false_iff]
    intro hm
    obtain ⟨c', hc', hn, hne, hpid, _⟩ := (repairTargetMayDelete_iff ..).mp hm
    exact key c' hc' hn hne hpid

/-- **C16_repair_target_frame** — NodeClaims that do not carry the Node's provider id decide nothing (with or
    without the early return of the lookup). -/
theorem C16_repair_target_frame (flag : Bool) (i : RepairTIn) (extra : List TClaim) (h : ∀ c ∈ extra, c.pid ≠ i.nodePid) :
    repairTWith flag { i with claims := i.claims ++ extra } = repairTWith flag i := by
  have hf : nodeClaimsForWith flag { i with claims := i.claims ++ extra } = nodeClaimsForWith flag i := by
    have he : extra.filter (fun c => c.pid == i.nodePid) = [] :=
      List.filter_eq_nil_iff.mpr fun c hc => by simpa using h c hc
    unfold nodeClaimsForWith
    dsimp only
    rw [List.filter_append, he, List.append_nil]
  unfold repairTWith
  rw [hf]
  rfl

theorem C16_repair_target_at_most_one (flag : Bool) (i : RepairTIn) : (repairTWith flag i).deleted.length ≤ 1 := by
  fun_cases repairTWith flag i
  case case2 =>  -- the lookup returned exactly one NodeClaim
    dsimp only
    split
    · exact Nat.le_refl 1
    · exact Nat.zero_le 1
  all_goals exact Nat.zero_le 1

/-- an unhealthy Node (toleration lasted, it is the pool's only Node) without provider id, next to one NodeClaim
    that is still launching -/
def repairTargetWitnessUnguarded : RepairTIn :=
  { policies := [{ type := "BadNode", status := "False", toleration := 1800 }],
    node := { pool := "a", conds := [{ type := "BadNode", status := "False", since := 1000 }] }, nodePid := "",
    claims := [{ name := "nc-launching", pid := "", pool := some "a" }], others := [], now := 2800,
    claimListFault := false, nodeListFault := .none, patchFault := .none, deleteFault := .none }

/-- **C16_repair_target_needs_the_guard** — the early return is what the property rests on: a lookup that lists
    by the Node's provider id without it resolves a Node that has no provider id to the launching NodeClaim and
    node repair deletes it, which the specification forbids (machine-checked negation on a concrete witness;
    corpus/c16.repair_target/001). -/
theorem C16_repair_target_needs_the_guard :
    (repairTWith false repairTargetWitnessUnguarded).deleted = ["nc-launching"] ∧
    repairTargetDeletesOk documentedUnhealthyPercent repairTargetWitnessUnguarded
      (repairTWith false repairTargetWitnessUnguarded).deleted = false ∧
    (repairTWith true repairTargetWitnessUnguarded).deleted = [] := by decide

/-! ### Node repair over an evolving cluster (one controller, many reconciles, Nodes terminating in between) -/

/-- **C16_repair_seq** — in any run (any cluster, any interleaving of reconciles — with any Node-list / Delete
    outcomes —, condition changes, Nodes starting to terminate and Nodes disappearing), every reconcile that
    issues a Delete was permitted to by the cluster as it was at that moment: toleration lasted, pool listed,
    at most 20% (rounded up) of the pool's nodes — terminating ones included — unhealthy. -/
theorem C16_repair_seq (ps : List Policy) (st : List SNode) (evs : List REvent)
    (i : RepairIn) (o : Out) (b : RBranch) (h : some (i, o, b) ∈ runSeq ps st evs) (hd : 0 < o.deletes) :
    repairMayDelete documentedUnhealthyPercent i = true := by
  have ho := runSeq_entries ps evs st i o b h
  subst ho
  exact C16_repair_documented i hd

/-- **C16_repair_no_cascade** — a pool whose nodes keep their conditions: however often and in whatever order
    its Nodes are reconciled, and whichever of them start terminating in between (after an earlier repair or
    for any other reason), node repair issues at most ⌈20%·n⌉ Deletes in total.  Repaired nodes that are
    draining do not free budget for further repairs. -/
theorem C16_repair_no_cascade (ps : List Policy) (p : String) (st : List SNode) (evs : List REvent)
    (hu : Uniform p st) (hq : ∀ ev ∈ evs, Quiet ev) :
    atMostPercentRoundedUp documentedUnhealthyPercent (totalDeletes (runSeq ps st evs)) st.length = true := by
  obtain ⟨h1, h2⟩ := runSeq_quiet ps p evs st hu hq
  by_cases hz : totalDeletes (runSeq ps st evs) = 0
  · unfold atMostPercentRoundedUp; simp [hz]
  · have h3 := h2 (by omega)
    have h4 := pending_le_unh ps st
    have : totalDeletes (runSeq ps st evs) ≤ scaled documentedUnhealthyPercent st.length true := by
      have hthr : threshold st.length = scaled documentedUnhealthyPercent st.length true := by
        rw [threshold_eq, fact_breaker_percent.1]; rfl
      omega
    exact (scaled_roundUp_iff _ _ _).mp this

/-! ## Non-vacuity: concrete inputs on which each reaper does issue a Delete (hypotheses satisfiable),
    and boundary behaviour at threshold ± 1 ns -/

example : (expiration { managed := true, deleting := false, expireAfter := some 3600, created := 10, now := 3610, deleteFault := .none }).deletes = 1 := by decide
example : (expiration { managed := true, deleting := false, expireAfter := some 3600, created := 10, now := 3609, deleteFault := .none }) = { deletes := 0, requeue := 1, err := false } := by decide
example : (expiration { managed := true, deleting := false, expireAfter := none, created := 10, now := 99999999, deleteFault := .none }).deletes = 0 := by decide
-- expireAfter = 1h, terminationGracePeriod = 10m, clock at creation + 55m (inside the grace-period window): kept,
-- requeued for the remaining 5m; terminationGracePeriod = 2h > expireAfter, one minute after creation: kept
example : (expiration { managed := true, deleting := false, expireAfter := some 3600, created := 10, now := 3310, deleteFault := .none, frame := { terminationGracePeriod := some 600, durations := [("nodepool.expireAfter", 1800)], instants := [("Drifted", 2000)] } }) = { deletes := 0, requeue := 300, err := false } := by decide
example : (expiration { managed := true, deleting := false, expireAfter := some 3600, created := 10, now := 70, deleteFault := .none, frame := { terminationGracePeriod := some 7200 } }) = { deletes := 0, requeue := 3540, err := false } := by decide
example : (expiration { managed := true, deleting := false, expireAfter := some 3600, created := 10, now := 3610, deleteFault := .none, frame := { terminationGracePeriod := some 7200 } }).deletes = 1 := by decide

def liveWitness (now : Int) : LiveIn :=
  { managed := true, deleting := false, launched := .unknown, launchedAt := 0, registered := .unknown, registeredAt := 0,
    now := now, createOk := false, pool := .owned, poolCondFalse := false, prior := [false],
    getFaults := [], patchFaults := [], deleteFaults := [] }

example : (lifecycle (liveWitness 299999999999)).deletes = 0 := by decide
example : (lifecycle (liveWitness 300000000000)).deletes = 1 := by decide
-- both timeouts passed: ONE Delete (the launch-timeout branch returns; before the repair this was 2)
example : (lifecycle (liveWitness 900000000000)).deletes = 1 := by decide
example : (lifecycle { liveWitness 900000000000 with getFaults := [.err] }).deletes = 0 := by decide
example : (lifecycle { liveWitness 900000000000 with launched := .true_, createOk := true }).deletes = 1 := by decide

/-- the witness cluster without the fault and with the Node gone: a legitimate collection -/
example : (gcWith true { gcWitnessLookup with lookupFault := [], nodes := [] }).1 = ["nc-00"] := by decide
example : gcDeletesOk { gcWitnessLookup with lookupFault := [], nodes := [] } ["nc-00"] = true := by decide
/-- … and with the Node Ready and the lookup working: kept -/
example : (gcWith false { gcWitnessLookup with lookupFault := [] }).1 = [] := by decide
-- error classes: the provider List fails with a (wrapped) NodeClaimNotFoundError next to a partial result while
-- the claim's Node is absent - nothing is deleted, the pass reports the error, the spec permits no Delete
def gcWitnessListNotFound : GCIn :=
  { gcWitnessLookup with
    lookupFault := [], nodes := [], providerListFault := true,
    errs := { providerList := "nodeclaim-notfound-wrapped", providerListPartial := true } }
example : gcWith true gcWitnessListNotFound = ([], true) := by decide
example : gcDeletesOk gcWitnessListNotFound ["nc-00"] = false := by decide
example : (gcWith true { gcWitnessListNotFound with providerListFault := false }).1 = ["nc-00"] := by decide

/-- the witness cluster with the lookup working and the Ready Node terminating (deletion timestamp set, still
    present): kept, and the specification forbids the Delete -/
def gcWitnessTerminating : GCIn :=
  { gcWitnessLookup with lookupFault := [], nodes := [{ name := "node-00", pid := "fake://i-00", ready := true, terminating := true }] }
example : (gcWith false gcWitnessTerminating).1 = [] ∧ (gcWith true gcWitnessTerminating).1 = [] := by decide
example : gcDeletesOk gcWitnessTerminating ["nc-00"] = false := by decide
/-- … a NotReady terminating Node does not keep it -/
example : (gc { gcWitnessTerminating with nodes := [{ name := "node-00", pid := "fake://i-00", ready := false, terminating := true }] }).1 = ["nc-00"] := by decide

/-- pool "a": the target and one more node unhealthy, `healthyOthers` healthy ones; toleration 1800 since 1000 -/
def repairWitness (now : Int) (healthyOthers : Nat) : RepairIn :=
  { policies := [{ type := "BadNode", status := "False", toleration := 1800 }],
    node := { pool := "a", conds := [{ type := "BadNode", status := "False", since := 1000 }] },
    claims := 1, claimPool := some "a", claimDeleting := false, annot := .none,
    others := { pool := "a", conds := [{ type := "BadNode", status := "False", since := 1000 }] } ::
              List.replicate healthyOthers { pool := "a", conds := [] },
    now := now, claimListFault := false, nodeListFault := .none, patchFault := .none, deleteFault := .none }

example : (repair (repairWitness 2800 4)).deletes = 1 := by decide          -- 2 of 6 = ⌈20%⌉, toleration reached
example : (repair (repairWitness 2799 4)) = { deletes := 0, requeue := 1, err := false } := by decide
example : (repair (repairWitness 2800 3)).deletes = 0 := by decide          -- 2 of 5 > ⌈20%⌉ = 1: breaker open
example : (repair { repairWitness 2800 4 with nodeListFault := .err }).deletes = 0 := by decide

/-- pool "a" of 10: the target and one more node unhealthy, two further unhealthy nodes already terminating
    (draining after an earlier repair): 4 of 10 unhealthy > ⌈20%⌉ = 2, the breaker is open … -/
def repairWitnessTerminating (terminatingToo : List RNode) : RepairIn :=
  { repairWitness 2800 (8 - terminatingToo.length) with
    others := (repairWitness 2800 (8 - terminatingToo.length)).others ++ terminatingToo }
def badTerminating : RNode :=
  { pool := "a", conds := [{ type := "BadNode", status := "False", since := 1000 }], terminating := true }
example : (repair (repairWitnessTerminating [badTerminating, badTerminating])).deletes = 0 := by decide
example : repairMayDelete documentedUnhealthyPercent (repairWitnessTerminating [badTerminating, badTerminating]) = false := by decide
/-- … while without them (2 of 10) the same node is repaired -/
example : (repair (repairWitnessTerminating [])).deletes = 1 := by decide

/-- a pool of 10 in which 4 nodes are unhealthy past the toleration is not touched, in whatever order it is
    reconciled and whichever nodes terminate; with 2 unhealthy both are repaired, and no third Delete follows
    (the hypotheses of `C16_repair_no_cascade` hold of these runs, and its bound is attained) -/
def seqPool (unhealthy : Nat) : List SNode :=
  List.replicate unhealthy { node := { pool := "a", conds := [{ type := "BadNode", status := "False", since := 1000 }] }, claimPool := some "a" } ++
  List.replicate (10 - unhealthy) { node := { pool := "a", conds := [] }, claimPool := some "a" }
def seqPolicies : List Policy := [{ type := "BadNode", status := "False", toleration := 1800 }]
def seqEvents : List REvent :=
  [.reconcile 0 2800 .none .none, .terminate 0, .reconcile 1 2801 .none .none, .terminate 1,
   .reconcile 0 2802 .none .none, .reconcile 2 2803 .none .none, .reconcile 3 2804 .none .none, .reconcile 9 2805 .none .none]
example : totalDeletes (runSeq seqPolicies (seqPool 2) seqEvents) = 2 := by decide
example : totalDeletes (runSeq seqPolicies (seqPool 4) seqEvents) = 0 := by decide
example : ∀ ev ∈ seqEvents, Quiet ev := by
  simp only [seqEvents, List.forall_mem_cons]
  exact ⟨rfl, trivial, rfl, trivial, rfl, rfl, rfl, rfl, fun _ h => nomatch h⟩
example : Uniform "a" (seqPool 2) := by
  intro s hs
  simp only [seqPool, List.mem_append, List.mem_replicate] at hs
  rcases hs with ⟨_, rfl⟩ | ⟨_, rfl⟩ <;> simp
/-- a node that turns unhealthy while two repaired nodes are still draining (3 of 10 unhealthy) is left alone … -/
example : totalDeletes (runSeq seqPolicies (seqPool 2)
    (seqEvents ++ [.setCond 5 { type := "BadNode", status := "False", since := 2900 }, .reconcile 5 9000 .none .none])) = 2 := by decide
/-- … and is repaired once they are gone (1 of 8) -/
example : totalDeletes (runSeq seqPolicies (seqPool 2)
    (seqEvents ++ [.setCond 5 { type := "BadNode", status := "False", since := 2900 }, .gone 0, .gone 1, .reconcile 5 9000 .none .none])) = 3 := by decide

/-- the cluster of `repairWitness 2800 4` with NodeClaims: the Node's own ("nc-own", provider id "i-1"), another
    Node's, and one still launching (no provider id) -/
def repairTargetWitness (nodePid : String) : RepairTIn :=
  { policies := (repairWitness 2800 4).policies, node := (repairWitness 2800 4).node, nodePid := nodePid,
    claims := [{ name := "nc-launching", pid := "", pool := some "a" }, { name := "nc-own", pid := "i-1", pool := some "a" },
               { name := "nc-other", pid := "i-2", pool := some "a" }],
    others := (repairWitness 2800 4).others, now := 2800, claimListFault := false, nodeListFault := .none,
    patchFault := .none, deleteFault := .none }
example : (repairT (repairTargetWitness "i-1")).deleted = ["nc-own"] ∧ (repairT (repairTargetWitness "i-1")).patched = ["nc-own"] := by decide
example : repairTargetDeletesOk documentedUnhealthyPercent (repairTargetWitness "i-1") ["nc-own"] = true := by decide
/-- the same unhealthy Node without a provider id: nothing is touched, and the oracle rejects a Delete of the
    launching NodeClaim (what a lookup by the empty provider id would resolve the Node to) -/
example : repairT (repairTargetWitness "") = {} := by decide
example : repairTargetDeletesOk documentedUnhealthyPercent (repairTargetWitness "") ["nc-launching"] = false := by decide
example : repairTargetDeletesOk documentedUnhealthyPercent (repairTargetWitness "i-1") ["nc-other"] = false := by decide

end Karp.C16
