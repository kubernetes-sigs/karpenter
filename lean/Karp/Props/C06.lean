/-
C06 — Consolidation keeps pods schedulable and strictly lowers cost.

Property theorems only (helper lemmas: `Karp/Proofs/Consolidate*.lean`).
Model: `Karp/Model/Consolidate.lean` (computeConsolidation, spot-to-spot, the price filter, WorstLaunchPrice,
       filterOutSameInstanceType, validateCommand, IsEmpty; the scheduling simulation is an input).
Spec:  `Karp/Spec/Consolidation.lean` (evaluated by the driver on the commands of the real code).

Every theorem is stated for ALL catalogs, requirement sets, candidate lists, simulation results and feature-gate
values; `ridKey` is the provider's reservation-id label (any key other than the capacity-type key).
-/
import Karp.Proofs.Consolidate
import Karp.Proofs.ConsolidateValidate
import Karp.Proofs.ConsolidateSpec
import Karp.Proofs.ConsolidateEmpty
import Karp.Spec.Consolidation

namespace Karp.C06
open Karp.Req Karp.Consolidate

/-! ## Fact expectations over the regenerated facts -/

/-- "enough cheaper alternatives": 15 -/
theorem fact_min_spot_to_spot : Karp.Gen.C06Facts.minInstanceTypesForSpotToSpot = 15 := rfl
theorem fact_spec_floor : Karp.Spec.Consolidation.spotFloor = minSpot := rfl
/-- capacity-type precedence of `WorstLaunchPrice`: reserved, then spot, then on-demand -/
theorem fact_precedence : Karp.Gen.C06Facts.worstLaunchPrecedence = ["reserved", "spot", "on-demand"] := rfl
theorem fact_capacity_types :
    Karp.Gen.C06Facts.capacityTypeKey = "karpenter.sh/capacity-type" ∧ Karp.Gen.C06Facts.ctSpot = "spot" ∧
    Karp.Gen.C06Facts.ctOnDemand = "on-demand" ∧ Karp.Gen.C06Facts.ctReserved = "reserved" := ⟨rfl, rfl, rfl, rfl⟩
theorem fact_spec_keys : Karp.Spec.Consolidation.ctKey = ctKey ∧ Karp.Spec.Consolidation.zoneKey = zoneKey := ⟨rfl, rfl⟩
/-- the reservation-id label of the harness's provider is not the capacity-type key -/
theorem fact_rid_key : Karp.Gen.C06Facts.testReservationIDLabel ≠ ctKey := by
  simp [Karp.Gen.C06Facts.testReservationIDLabel, ctKey, Karp.Gen.C06Facts.capacityTypeKey]
/-- commands are re-validated after 15 s -/
theorem fact_validation_delay : Karp.Gen.C06Facts.commandValidationDelayNs = 15 * 1000000000 := rfl
theorem fact_per_node_base : Karp.Gen.C06Facts.perNodeBaseCostNum = 1 ∧ Karp.Gen.C06Facts.perNodeBaseCostDen = 1 := ⟨rfl, rfl⟩

/-- the price filter keeps an option iff its launch price is STRICTLY below the bound, computed over the AVAILABLE
    offerings, then checks minValues -/
theorem fact_price_filter :
    Karp.Gen.C06Facts.removeByPriceCmps = ["launchPrice < maxPrice"] ∧
    Karp.Gen.C06Facts.removeByPriceCalls = ["WorstLaunchPrice", "Available", "SatisfiesMinValues"] := ⟨rfl, rfl⟩

theorem fact_worst_launch_price :
    Karp.Gen.C06Facts.worstLaunchPriceCmps = ["len(compatOfs) != 0"] ∧
    Karp.Gen.C06Facts.mostExpensiveCmps = ["a.Price > b.Price"] ∧
    Karp.Gen.C06Facts.cheapestCmps = ["a.Price < b.Price"] := ⟨rfl, rfl, rfl⟩

/-- the candidate's price: first offering with the node's zone and capacity type -/
theorem fact_offering_price :
    Karp.Gen.C06Facts.offeringPriceCmps = ["o.Zone() == zone", "o.CapacityType() == capacityType"] ∧
    Karp.Gen.C06Facts.resolveNodePriceCmps = ["instanceType == nil"] := ⟨rfl, rfl⟩

/-- the guards of `computeConsolidation`, in source order, and its essential call order: simulate, all-scheduled test,
    price sum, sort, spot-to-spot branch, price filter, spot pin (`Add`) AFTER the filter -/
theorem fact_compute_consolidation :
    Karp.Gen.C06Facts.computeConsolidationCmps =
      ["len(results.NewNodeClaims) == 0", "len(results.NewNodeClaims) != 1", "cn.capacityType != v1.CapacityTypeSpot",
       "len(results.NewNodeClaims[0].InstanceTypeOptions) == 0"] ∧
    Karp.Gen.C06Facts.computeConsolidationCalls =
      ["SimulateScheduling", "AllNonPendingPodsScheduled", "sumCandidatePrices", "OrderByPrice", "computeSpotToSpotConsolidation",
       "RemoveInstanceTypeOptionsByPriceAndMinValues", "Add"] := ⟨rfl, rfl⟩

/-- spot-to-spot: the spot pin (`Add`) comes BEFORE the filter; the guards in source order -/
theorem fact_spot_to_spot :
    Karp.Gen.C06Facts.spotToSpotCmps =
      ["len(results.NewNodeClaims[0].InstanceTypeOptions) == 0", "len(candidates) > 1",
       "len(results.NewNodeClaims[0].InstanceTypeOptions) < MinInstanceTypesForSpotToSpotConsolidation"] ∧
    Karp.Gen.C06Facts.spotToSpotCalls = ["Add", "RemoveInstanceTypeOptionsByPriceAndMinValues"] := ⟨rfl, rfl⟩

theorem fact_same_type :
    Karp.Gen.C06Facts.sameTypeCmps =
      ["len(compatibleOfferings) == 0", "p < existingPrice", "pricesByInstanceType[it.Name] < maxPrice"] ∧
    Karp.Gen.C06Facts.firstNCalls = ["computeConsolidation", "filterOutSameInstanceType"] := ⟨rfl, rfl⟩

/-- `validateCommand`: the comparisons and the essential calls in source order; after the all-scheduled and the
    NodeClaim-count tests it rejects unless the command's instance types are a subset of the re-simulated ones AND the
    command's replacement requirements are a subset of the re-simulated requirements — command first, re-simulation
    second in both calls — and accepts otherwise -/
theorem fact_validate_command :
    Karp.Gen.C06Facts.validateCommandCmps =
      ["len(candidates) == 0", "len(results.NewNodeClaims) == 0", "len(cmd.Replacements) == 0",
       "len(results.NewNodeClaims) > 1", "len(cmd.Replacements) == 0"] ∧
    Karp.Gen.C06Facts.validateCommandCalls =
      ["SimulateScheduling", "AllNonPendingPodsScheduled", "instanceTypesAreSubset", "requirementsAreSubset"] ∧
    Karp.Gen.C06Facts.subsetCmps = ["len(rhsNames.Intersection(lhsNames)) == len(lhsNames)"] ∧
    Karp.Gen.C06Facts.isValidCalls = ["After", "validateCommand"] := ⟨rfl, rfl, rfl, rfl⟩

theorem fact_validate_guards :
    Karp.Gen.C06Facts.validateCommandGuards =
      ["len(candidates) == 0 => return NewValidationError(…)",
       "err != nil => return fmt.Errorf(…)",
       "!results.AllNonPendingPodsScheduled() => return NewSchedulingValidationError(…)",
       "len(results.NewNodeClaims) == 0 => return NewSchedulingValidationError(…)",
       "len(cmd.Replacements) == 0 => return nil",
       "len(results.NewNodeClaims) > 1 => return NewSchedulingValidationError(…)",
       "len(cmd.Replacements) == 0 => return NewSchedulingValidationError(…)",
       "!instanceTypesAreSubset(cmd.Replacements[0].InstanceTypeOptions, results.NewNodeClaims[0].InstanceTypeOptions) => return NewSchedulingValidationError(…)",
       "!requirementsAreSubset(cmd.Replacements[0].Requirements, results.NewNodeClaims[0].Requirements) => return NewSchedulingValidationError(…)",
       "end => return nil"] := rfl

/-- `requirementsAreSubset(lhs, rhs)`: ranges over `rhs`, reads `lhs.Get(key)` (an undefined key is `Exists`) and
    compares `Len` of the intersection with `Len` of the `lhs` requirement (the model's `reqsSubset`) -/
theorem fact_requirements_subset :
    Karp.Gen.C06Facts.reqSubsetSkeletonParams = ["lhs", "rhs"] ∧
    Karp.Gen.C06Facts.reqSubsetSkeleton =
      ["for key, r := range rhs", "l := lhs.Get(key)", "if l.Intersection(r).Len() != l.Len()", "return false", "return true"] ∧
    Karp.Gen.C06Facts.reqSubsetCmps = ["l.Intersection(r).Len() != l.Len()"] := ⟨rfl, rfl, rfl⟩

/-- every method releases a command only after validation -/
theorem fact_methods :
    Karp.Gen.C06Facts.singleComputeCalls = ["computeConsolidation", "Validate"] ∧
    Karp.Gen.C06Facts.multiComputeCalls = ["firstNConsolidationOption", "Validate"] ∧
    Karp.Gen.C06Facts.emptinessComputeCalls = ["Validate"] ∧
    Karp.Gen.C06Facts.decisionCmps =
      ["len(c.Candidates) > 0", "len(c.Replacements) > 0", "len(c.Candidates) > 0", "len(c.Replacements) == 0"] := ⟨rfl, rfl, rfl, rfl⟩

/-- Emptiness releases THE VALIDATOR'S command: `ComputeCommands` keeps the command `Validate` returns (`validCmd`) and
    that is what its last statement hands back; a validation error yields no command; only candidates that are empty go
    into the command in the first place.  `EmptinessValidator.Validate` waits, re-derives the candidates and returns the
    command WITH ITS CANDIDATES REPLACED by the validated ones; `validateCandidates` takes the current candidates
    (`GetCandidates` under `Emptiness.ShouldDisrupt`, which asks `IsEmpty`), keeps those of the command (`mapCandidates`),
    fails when none is left, then filters by nomination and budget (the model's `emptinessValidate`). -/
theorem fact_emptiness_release :
    Karp.Gen.C06Facts.emptinessValidateAssign = ["validCmd, err := e.validator.Validate(ctx, cmd, commandValidationDelay)"] ∧
    Karp.Gen.C06Facts.emptinessComputeReturns = "return []Command{validCmd}, nil" ∧
    Karp.Gen.C06Facts.emptinessComputeGuards =
      ["e.IsConsolidated() => return []Command{}, nil",
       "!candidate.IsEmpty() => continue",
       "disruptionBudgetMapping[candidate.NodePool.Name] == 0 => continue",
       "len(empty) == 0 => return []Command{}, nil",
       "!constrainedByBudgets => (falls through)",
       "err != nil => return []Command{}, err",
       "IsValidationError(err) => return []Command{}, nil",
       "end => return []Command{…}, nil"] := ⟨rfl, rfl, rfl⟩

theorem fact_emptiness_validator :
    Karp.Gen.C06Facts.emptinessValidateSkeletonParams = ["ctx", "cmd", "validationPeriod"] ∧
    Karp.Gen.C06Facts.emptinessValidateSkeleton =
      ["if validationPeriod > 0", "(other statement)",
       "validatedCandidates, err := e.validateCandidates(ctx, cmd.Candidates...)",
       "if err != nil", "return Command{}, err",
       "cmd.Candidates = validatedCandidates", "return cmd, nil"] ∧
    Karp.Gen.C06Facts.emptinessValidateCandidatesCalls =
      ["GetCandidates", "mapCandidates", "BuildDisruptionBudgetMapping", "IsNodeNominated"] ∧
    Karp.Gen.C06Facts.emptinessValidateCandidatesCmps =
      ["len(validatedCandidates) == 0", "disruptionBudgetMapping[cn.NodePool.Name] == 0", "len(valid) > 0"] ∧
    Karp.Gen.C06Facts.emptinessShouldDisruptCalls = ["IsEmpty"] := ⟨rfl, rfl, rfl, rfl, rfl⟩

/-- the simulation: solve, truncate, then turn placements on uninitialized nodes into pod errors -/
theorem fact_simulate :
    Karp.Gen.C06Facts.simulateSchedulingCalls =
      ["Solve", "TruncateInstanceTypes", "Initialized", "NewUninitializedNodeError"] := rfl

/-- `IsEmpty`: reschedule cost at most the per-node base; cost = base + Σ max(0, EvictionCost) -/
theorem fact_is_empty :
    Karp.Gen.C06Facts.isEmptyCmps = ["c.RescheduleDisruptionCost <= PerNodeBaseDisruptionCost"] ∧
    Karp.Gen.C06Facts.rescheduleCostCalls = ["Max", "EvictionCost"] := ⟨rfl, rfl⟩

/-- eviction cost = 1 + deletion-cost / 2^27 + priority / 2^25, clamped to [-10, 10] -/
theorem fact_eviction_cost :
    Karp.Gen.C06Facts.evictionBase = 1 ∧ Karp.Gen.C06Facts.evictionDelExp = 27 ∧ Karp.Gen.C06Facts.evictionPrioExp = 25 ∧
    Karp.Gen.C06Facts.evictionClampLo = -10 ∧ Karp.Gen.C06Facts.evictionClampHi = 10 := ⟨rfl, rfl, rfl, rfl, rfl⟩

/-! ## A small catalog used by the non-vacuity examples and the validation witnesses -/

def ofr (z ct : String) (p : Nat) (av : Bool := true) (rid : String := "") : Offering :=
  { zone := z, ct := ct, price := p, available := av, resID := rid }

def big : IType := { name := "big", offerings := [ofr "z1" "on-demand" 1000, ofr "z1" "spot" 400] }
def small : IType := { name := "small", offerings := [ofr "z1" "on-demand" 300, ofr "z1" "spot" 100, ofr "z2" "spot" 120 false] }
def mid : IType := { name := "mid", offerings := [ofr "z1" "on-demand" 1200, ofr "z1" "spot" 350] }

/-! ## Strictly cheaper -/

/-- **C06_price** — whenever `computeConsolidation` decides to replace, EVERY launch the replacement request permits
    (every available offering of every listed instance type that the FINAL requirements admit — not only the
    capacity type `WorstLaunchPrice` looked at) costs strictly less than the removed nodes together.
    Hypotheses on the claim handed over by the scheduler (`ClaimHyps`): offerings are reserved / spot / on-demand,
    and a claim that can launch into a reservation was pinned to `reserved` (derived for the scheduler's last step in
    `C06_reserved_pin`). -/
theorem C06_price (ridKey : String) (hrid : ridKey ≠ ctKey) (gate : Bool) (cands : List Cand) (sim : Sim)
    (R' : Reqs) (kept : List IType) (n : Nat)
    (h : compute ridKey gate cands sim = .replace R' kept n) :
    ∃ c, sim.claims = [c] ∧
      (ClaimHyps ridKey c →
        ∀ it ∈ kept, ∀ o ∈ it.offerings, o.available = true → offeringCompat ridKey R' o = true →
          o.price < sumPrices cands) := by
  obtain ⟨_, c, hc, _⟩ := compute_replace_inv h
  exact ⟨c, hc, replace_price hrid h hc⟩

/-- **C06_od_no_fallback** — in particular no permitted ON-DEMAND launch costs as much as (or more than) the removed
    nodes: an on-demand node is never replaced by a request that can fall back to an equal-or-dearer on-demand launch. -/
theorem C06_od_no_fallback (ridKey : String) (hrid : ridKey ≠ ctKey) (gate : Bool) (cands : List Cand) (sim : Sim)
    (R' : Reqs) (kept : List IType) (n : Nat) (c : Claim)
    (h : compute ridKey gate cands sim = .replace R' kept n) (hc : sim.claims = [c]) (hyp : ClaimHyps ridKey c)
    (it : IType) (hit : it ∈ kept.take n) (o : Offering) (ho : o ∈ it.offerings)
    (hav : o.available = true) (hcomp : offeringCompat ridKey R' o = true) (_hod : o.ct = onDemand) :
    ¬ (sumPrices cands ≤ o.price) := by
  exact Nat.not_le_of_lt
    (replace_price hrid h hc hyp it (List.mem_of_mem_take hit) o ho hav hcomp)

/-- **C06_pin** — when the simulated claim could launch both spot and on-demand, the final requirements admit spot
    only: the cheaper-than filter was computed on the spot prices, so the on-demand fallback is removed. -/
theorem C06_pin (ridKey : String) (hrid : ridKey ≠ ctKey) (gate : Bool) (cands : List Cand) (sim : Sim)
    (R' : Reqs) (kept : List IType) (n : Nat) (c : Claim)
    (h : compute ridKey gate cands sim = .replace R' kept n) (hc : sim.claims = [c])
    (hboth : (c.reqs.get ctKey).has spot = true ∧ (c.reqs.get ctKey).has onDemand = true)
    (o : Offering) (hcomp : offeringCompat ridKey R' o = true) : o.ct = spot := by
  cases compute_replace_branch h hc with
  | spot => exact ((compat_add1_spot_iff hrid).mp hcomp).2
  | general => exact ((compat_spotPinned_iff hrid).mp hcomp).2 hboth.1 hboth.2

/-! ## Spot-to-spot -/

/-- **C06_spot_to_spot** — a replacement of spot-only candidates by a request that may launch spot needs the
    feature gate; the request is pinned to spot, every option has an available spot offering it can launch, and for
    a single candidate at least 15 (strictly cheaper, by `C06_price`) options remain after the cut. -/
theorem C06_spot_to_spot (ridKey : String) (gate : Bool) (cands : List Cand) (sim : Sim)
    (R' : Reqs) (kept : List IType) (n : Nat) (c : Claim)
    (h : compute ridKey gate cands sim = .replace R' kept n) (hc : sim.claims = [c])
    (hspot : cands.all (fun cn => cn.ct == spot) = true) (hmay : (c.reqs.get ctKey).has spot = true) :
    gate = true ∧ R' = c.reqs.add1 spotReq ∧
    (∀ it ∈ kept, ∃ o ∈ it.offerings, o.available = true ∧ offeringCompat ridKey R' o = true) ∧
    (cands.length ≤ 1 → minSpot ≤ (kept.take n).length) := by
  cases compute_replace_branch h hc with
  | general hs _ _ => rw [hspot, hmay] at hs; cases hs
  | spot _ hg hk _ hn =>
    refine ⟨hg, rfl, fun it hit => ?_, fun hle => ?_⟩
    · exact (compatibleTypes_mem (removeByPrice_mem hk hit).1).2
    · rcases hn with ⟨h1, _⟩ | ⟨_, h2, h3⟩
      · omega
      · rw [List.length_take]; omega

/-! ## Feasible home: what the decision guarantees about the simulation it was built from -/

/-- **C06_feasible** — a command is produced only from a simulation in which every non-pending pod was scheduled
    (placements on uninitialized nodes count as failures) and that opened at most one NodeClaim: none for a delete,
    exactly one for a replace.  The replacement only NARROWS the simulated claim: its options are among the claim's
    options and every launch its final requirements permit was already permitted by the simulated requirements — so
    whatever holds for every launch of the simulated claim (C01: each pod has an admissible home there) holds for every
    launch of the command's replacement. -/
theorem C06_feasible (ridKey : String) (hrid : ridKey ≠ ctKey) (gate : Bool) (cands : List Cand) (sim : Sim) :
    (compute ridKey gate cands sim = .delete → sim.allScheduled = true ∧ sim.claims = []) ∧
    (∀ R' kept n, compute ridKey gate cands sim = .replace R' kept n →
      sim.allScheduled = true ∧ ∃ c, sim.claims = [c] ∧ kept ≠ [] ∧
        (∀ it ∈ kept.take n, it ∈ c.its) ∧
        (∀ o, offeringCompat ridKey R' o = true → offeringCompat ridKey c.reqs o = true)) := by
  refine ⟨compute_delete_inv, fun R' kept n h => ?_⟩
  obtain ⟨ha, c, hc, hb⟩ := compute_replace_inv h
  refine ⟨ha, c, hc, ?_⟩
  cases hb with
  | spot _ _ hk hne _ =>
    exact ⟨hne, fun it hit => (compatibleTypes_mem (removeByPrice_mem hk (List.mem_of_mem_take hit)).1).1,
      fun o ho => ((compat_add1_spot_iff hrid).mp ho).1⟩
  | general _ hk hne =>
    exact ⟨hne, fun it hit => (removeByPrice_mem hk (List.mem_of_mem_take hit)).1, fun _ ho => ((compat_spotPinned_iff hrid).mp ho).1⟩

/-- **C06_at_most_one** — no decision is taken from a simulation that opened two or more NodeClaims -/
theorem C06_at_most_one (ridKey : String) (gate : Bool) (cands : List Cand) (sim : Sim)
    (h : 2 ≤ sim.claims.length) : compute ridKey gate cands sim = .noop := by
  rcases compute_cases (d := compute ridKey gate cands sim) rfl with h0 | ⟨_, _, hc⟩ | ⟨_, _, _, _, _, _, hc, _⟩
  · exact h0
  · rw [hc] at h; simp at h
  · rw [hc] at h; simp at h

/-- a simulation with an unscheduled non-pending pod (or a placement on an uninitialized node) yields no command -/
theorem C06_unscheduled_noop (ridKey : String) (gate : Bool) (cands : List Cand) (sim : Sim)
    (h : sim.allScheduled = false) : compute ridKey gate cands sim = .noop := by
  unfold compute
  rw [h]
  rfl

/-! ## Multi-node -/

/-- **C06_multi** — a multi-node step keeps a replacement only by narrowing `computeConsolidation`'s (so `C06_price`,
    `C06_spot_to_spot`, `C06_feasible` carry over to every candidate prefix the binary search tries), and, as the last
    conjunct, the clause C06_same_type: every kept option is strictly cheaper, by its worst-case launch price, than the cheapest
    removed node of any instance type that was itself among the options. -/
theorem C06_multi (ridKey : String) (gate : Bool) (cands : List Cand) (sim : Sim) (R : Reqs) (kept : List IType) (n : Nat)
    (h : multiStep ridKey gate cands sim = .replace R kept n) :
    ∃ kept0 n0, compute ridKey gate cands sim = .replace R kept0 n0 ∧ kept ≠ [] ∧ n = kept.length ∧
      (∀ it ∈ kept, it ∈ kept0.take n0) ∧
      (∀ it ∈ kept, ∀ it' ∈ kept0.take n0, cands.any (fun c => c.itName == it'.name) = true →
        ∃ p, launchPrice ridKey R it = some p ∧ p < (typePrice cands it'.name).getD 0) := by
  rcases multiStep_cases h with h0 | ⟨h0, _⟩ | ⟨R0, kept0, n0, k, h0, hc, hr, hne⟩
  · cases h0
  · cases h0
  cases h0
  refine ⟨kept0, n0, hc, hne, rfl, ?_, ?_⟩
  · intro it hit
    rw [(removeByPrice_eq hr).1] at hit
    exact (List.mem_filter.mp hit).1
  · intro it hit it' hit' hcand
    obtain ⟨m, hm, hle⟩ := sameTypeMax_le hit' hcand
    rw [hm] at hr
    obtain ⟨_, p, hp, hlt⟩ := removeByPrice_mem hr hit
    exact ⟨p, hp, Nat.lt_of_lt_of_le hlt hle⟩

theorem C06_multi_delete (ridKey : String) (gate : Bool) (cands : List Cand) (sim : Sim)
    (h : multiStep ridKey gate cands sim = .delete) : sim.allScheduled = true ∧ sim.claims = [] := by
  rcases multiStep_cases h with h0 | ⟨_, hc⟩ | ⟨_, _, _, _, h0, _⟩
  · cases h0
  · exact compute_delete_inv hc
  · cases h0

/-! ## Validation -/

/-- **C06_validate_subset** — validation accepts a command only if the re-simulation schedules every non-pending pod,
    opens exactly as many NodeClaims as the command has replacements, offers every instance type of the command's
    replacement, and passes `requirementsAreSubset` against the command's replacement requirements. -/
theorem C06_validate_subset (re : Sim) :
    (∀ R names, validateCommand (some (R, names)) re = true →
      re.allScheduled = true ∧ ∃ c, re.claims = [c] ∧ (∀ n ∈ names, n ∈ c.its.map (·.name)) ∧ reqsSubset R c.reqs = true) ∧
    (validateCommand none re = true → re.allScheduled = true ∧ re.claims = []) :=
  ⟨fun _ _ => validateCommand_replace, validateCommand_delete⟩

/-- **C06_validate_requirements** — the replacement that is released is still what the pods need: if validation accepts
    a replace command, every instance type of the command is one the RE-SIMULATED NodeClaim offers and every launch the
    command's replacement requirements permit (every offering — in particular every available offering of a listed
    instance type) is a launch the re-simulated NodeClaim's requirements permit.  So whatever C01 guarantees for every launch
    of the re-simulated claim (each pod placed on it has an admissible home there) holds for every launch of the
    command's replacement.

    `lenExact` (decidable, `Karp/Proofs/ConsolidateValidate.lean`) names the conditions under which the size comparison
    `l.Intersection(r).Len() == l.Len()` of `requirementsAreSubset` is exact on the three offering keys (zone, capacity
    type, reservation id):
    * no `Gt`/`Lt`/`Gte`/`Lte` bound on them in either requirement set — needed: `C06_len_test_inexact_for_bounds`;
    * the value sets on them hold fewer than 2^63 - 1 values together (`Len` of a complement set is `MaxInt64 - |excluded|`;
      a Go set cannot be that large);
    * the re-simulated claim tolerates an absent reservation-id label, or is pinned to reserved capacity (as
      `FinalizeScheduling` leaves it, `C06_reserved_pin`) — needed: `C06_len_test_ignores_absence`. -/
theorem C06_validate_requirements (ridKey : String) (cmdReqs : Reqs) (names : List String) (re : Sim) (c : Claim)
    (h : validateCommand (some (cmdReqs, names)) re = true) (hc : re.claims = [c])
    (hex : lenExact ridKey cmdReqs c.reqs = true) :
    (∀ n ∈ names, ∃ it ∈ c.its, it.name = n) ∧
    (∀ o, offeringCompat ridKey cmdReqs o = true → offeringCompat ridKey c.reqs o = true) ∧
    (∀ it ∈ c.its, it.name ∈ names → ∀ o ∈ it.offerings, o.available = true →
      offeringCompat ridKey cmdReqs o = true → offeringCompat ridKey c.reqs o = true) := by
  obtain ⟨_, c', hc', hn, hsub⟩ := validateCommand_replace h
  cases hc.symm.trans hc'
  have hall := fun o => reqsSubset_offeringCompat (o := o) hsub hex
  exact ⟨fun n hn' => List.mem_map.mp (hn n hn'), hall, fun _ _ _ o _ _ ho => hall o ho⟩

/-- the same in the specification's vocabulary: every launch the specification's `permits` allows the released
    replacement, it allows the re-simulated NodeClaim -/
theorem C06_validate_requirements_spec (ridKey : String) (cmdReqs : Reqs) (names : List String) (re : Sim) (c : Claim)
    (h : validateCommand (some (cmdReqs, names)) re = true) (hc : re.claims = [c])
    (hex : lenExact ridKey cmdReqs c.reqs = true) (o : Karp.Scn.Offering)
    (ho : Karp.Spec.Consolidation.permits ridKey cmdReqs o = true) :
    Karp.Spec.Consolidation.permits ridKey c.reqs o = true := by
  rw [permits_eq] at ho ⊢
  exact (C06_validate_requirements ridKey cmdReqs names re c h hc hex).2.1 _ ho

/-! ### The witness of the repaired finding, and why the hypotheses of `C06_validate_requirements` are needed

`C06-validation-stale-replacement-requirements` (repaired by `fix: consolidation validation released a replacement whose
requirements had gone stale`): validation compared instance-type names only.  The command below — a zone-unrestricted
replacement, re-simulated claim pinned to `z2` — was accepted; it is rejected now (`corpus/c06.validate/001-…` replays the
cluster on the real code). -/

def staleCmdReqs : Reqs := []
def zoneIn (zs : List String) : String × Req := (zoneKey, { key := zoneKey, complement := false, values := zs })
def ctIn (cts : List String) : String × Req := (ctKey, { key := ctKey, complement := false, values := cts })
def staleResim : Sim := { allScheduled := true, claims := [{ reqs := [zoneIn ["z2"]], its := [small, big] }] }

/-- the stale command is rejected; the launch that made it wrong (`small` in `z1`) is exactly what the new conjunct sees -/
theorem C06_validate_rejects_stale_requirements :
    validateCommand (some (staleCmdReqs, ["small"])) staleResim = false ∧
    namesSubset ["small"] ["small", "big"] = true ∧
    ∃ o, o ∈ small.offerings ∧ o.available = true ∧
      offeringCompat "rid" staleCmdReqs o = true ∧ offeringCompat "rid" [zoneIn ["z2"]] o = false := by
  refine ⟨by decide, by decide, ofr "z1" "spot" 100, by decide, by decide, by decide, by decide⟩

/-- non-vacuity of `C06_validate_requirements`: a command pinned to spot in `z2` (what `computeConsolidation` leaves after
    its spot pin) against a re-simulated claim that still allows spot and on-demand in `z2`/`z3` is accepted and meets
    `lenExact`; so is a claim pinned to its reservation -/
example : validateCommand (some ([zoneIn ["z2"], ctIn ["spot"]], ["small"]))
      { allScheduled := true, claims := [{ reqs := [zoneIn ["z2", "z3"], ctIn ["spot", "on-demand"]], its := [small, big] }] } = true ∧
    lenExact "rid" [zoneIn ["z2"], ctIn ["spot"]] [zoneIn ["z2", "z3"], ctIn ["spot", "on-demand"]] = true := by decide
example :
    let pinned : Reqs := [ctIn ["reserved"], ("rid", { key := "rid", complement := false, values := ["r-1"] })]
    validateCommand (some (pinned, ["small"])) { allScheduled := true, claims := [{ reqs := pinned, its := [small] }] } = true ∧
    lenExact "rid" pinned pinned = true := by decide
/-- … and the converse direction is rejected: a command that still allows on-demand against a re-simulated claim that
    needs spot -/
example : validateCommand (some ([ctIn ["spot", "on-demand"]], ["small"]))
      { allScheduled := true, claims := [{ reqs := [ctIn ["spot"]], its := [small, big] }] } = false := by decide

/-- **the size test is inexact for numeric bounds**: `zone Gt 3` against a re-simulated `zone Gt 5` — both are complement
    sets excluding nothing, `Len` is `MaxInt64` on both sides of the comparison, validation accepts, and the command
    permits a launch in zone "4" that the re-simulated claim does not -/
theorem C06_len_test_inexact_for_bounds :
    let gt (n : Int) : String × Req := (zoneKey, { key := zoneKey, complement := true, values := [], gte := some (n + 1) })
    let re : Sim := { allScheduled := true, claims := [{ reqs := [gt 5], its := [small] }] }
    validateCommand (some ([gt 3], ["small"])) re = true ∧
    lenExact "rid" [gt 3] [gt 5] = false ∧
    offeringCompat "rid" [gt 3] (ofr "4" "spot" 1) = true ∧ offeringCompat "rid" [gt 5] (ofr "4" "spot" 1) = false := by
  decide

/-- **the size test does not see absence**: `Get` reads an undefined key as `Exists`, so a command that says nothing about
    the reservation id passes against a re-simulated claim that REQUIRES one (`rid Exists`), although only the command
    permits a launch without a reservation; likewise the empty set (`rid DoesNotExist`) is a subset of `rid In [r-1]` -/
theorem C06_len_test_ignores_absence :
    let ridExists : Reqs := [("rid", { key := "rid", complement := true, values := [] })]
    let ridNone : Reqs := [("rid", { key := "rid", complement := false, values := [] })]
    let ridIn : Reqs := [("rid", { key := "rid", complement := false, values := ["r-1"] })]
    (validateCommand (some ([], ["small"])) { allScheduled := true, claims := [{ reqs := ridExists, its := [small] }] } = true ∧
     lenExact "rid" [] ridExists = false ∧
     offeringCompat "rid" [] (ofr "z1" "spot" 100) = true ∧ offeringCompat "rid" ridExists (ofr "z1" "spot" 100) = false) ∧
    (validateCommand (some (ridNone, ["small"])) { allScheduled := true, claims := [{ reqs := ridIn, its := [small] }] } = true ∧
     lenExact "rid" ridNone ridIn = false ∧
     offeringCompat "rid" ridNone (ofr "z1" "spot" 100) = true ∧ offeringCompat "rid" ridIn (ofr "z1" "spot" 100) = false) := by
  decide

/-! ## The scheduler's reserved pin (discharges `ClaimHyps.pinned`) -/

/-- **C06_reserved_pin** — with the `ReservedCapacity` gate on, a claim whose last placement left it an available,
    compatible reserved offering comes out of `FinalizeScheduling` admitting neither spot nor on-demand. -/
theorem C06_reserved_pin (ridKey : String) (hrid : ridKey ≠ ctKey) (R0 : Reqs) (its : List IType) :
    let c : Claim := { reqs := finalize ridKey R0 (offeringsToReserve ridKey true R0 its), its := its }
    ∀ it ∈ c.its, ∀ o ∈ it.offerings, o.available = true → offeringCompat ridKey c.reqs o = true → o.ct = reserved →
      (c.reqs.get ctKey).has spot = false ∧ (c.reqs.get ctKey).has onDemand = false := by
  intro c it hit o ho hav hcomp hres
  exact finalize_pins hrid hit ho hav hcomp hres

/-! ## minValues -/

/-- **C06_min_values** — the options of a non-truncating replacement still meet every minValues floor of the final
    filter's requirements (the filter returns an error otherwise and no command is produced). -/
theorem C06_min_values (ridKey : String) (R : Reqs) (m : Option Nat) (its kept : List IType)
    (h : removeByPrice ridKey R m its = some kept) (hmk : hasMinValues R = true) (hne : kept ≠ []) :
    ∃ i, 1 ≤ i ∧ i ≤ kept.length ∧ minSatisfied (minKeys R) (kept.take i) = true :=
  ⟨_, satisfiesMinValues_ok (removeByPrice_eq h).2 hmk hne⟩

/-! ## Emptiness -/

/-- **C06_empty** — `IsEmpty` holds exactly when no reschedulable pod has a positive eviction cost
    (1 + deletion-cost/2^27 + priority/2^25 > 0; the clamp to [-10, 10] never changes the sign). -/
theorem C06_empty (pods : List PodCost) :
    isEmpty pods = true ↔ ∀ p ∈ pods, ¬ (0 < (2 : Int) ^ 27 + p.delCost.getD 0 + 4 * p.prio.getD 0) := by
  unfold isEmpty
  rw [decide_eq_true_iff, podCostSum_le_zero]
  exact forall₂_congr fun p _ => Int.not_lt.symm.trans (not_congr (evictionCost_pos_iff p))

/-- the model's rule and the specification's `evictionCostPositive` are the same predicate -/
theorem C06_empty_spec (infos : List (Karp.Spec.Consolidation.PodInfo)) :
    isEmpty (infos.map (fun i => { delCost := i.delCost, prio := i.prio })) =
      infos.all (fun i => !Karp.Spec.Consolidation.evictionCostPositive i) := by
  rw [Bool.eq_iff_iff, C06_empty, List.all_eq_true, List.forall_mem_map]
  simp only [Karp.Spec.Consolidation.evictionCostPositive, Bool.not_eq_true', decide_eq_false_iff_not]

/-! ### Emptiness: the command that is released after the validation delay -/

/-- **C06_empty_validated** — the Emptiness command that is RELEASED after the validation delay removes only nodes that
    were in the computed command AND are still candidates after the wait (`current`: what `GetCandidates` returns under
    `Emptiness.ShouldDisrupt`, i.e. nodes that are empty THEN) and are not nominated; it is never empty; and no NodePool
    loses more nodes than its budget at that moment allows.  So a node that received a pod during the wait — and for that
    reason is no longer among `current` — is not deleted, whatever happens to the other candidates of the command. -/
theorem C06_empty_validated (poolOf : String → String) (nominated : String → Bool) (budgets : List (String × Nat))
    (cmd current rel : List String) (h : emptinessValidate poolOf nominated budgets cmd current = some rel) :
    rel ≠ [] ∧ (∀ n ∈ rel, n ∈ cmd ∧ n ∈ current ∧ nominated n = false) ∧
    (∀ p, (rel.filter (fun n => poolOf n == p)).length ≤ (budgets.lookup p).getD 0) := by
  obtain ⟨hne, rfl⟩ := emptinessValidate_some h
  refine ⟨hne, fun n hn => ?_, fun p => ?_⟩
  · obtain ⟨hm, hnom⟩ := budgetFilter_mem _ _ n hn
    obtain ⟨hc, hp⟩ := mapCandidates_mem.mp hm
    exact ⟨hp, hc, hnom⟩
  · rw [← List.countP_eq_length_filter]
    exact budgetFilter_budget _ budgets p

/-- … and `Emptiness.ComputeCommands` returns exactly that command, or none: nothing outside `cmd ∩ current` is ever
    released -/
theorem C06_empty_release_subset (poolOf : String → String) (nominated : String → Bool) (budgets : List (String × Nat))
    (cmd current : List String) :
    ∀ n ∈ emptinessRelease poolOf nominated budgets cmd current, n ∈ cmd ∧ n ∈ current := by
  intro n hn
  rw [emptinessRelease_eq] at hn
  have := mapCandidates_mem.mp (budgetFilter_mem _ _ n hn).1
  exact ⟨this.2, this.1⟩

/-- where neither a budget binds nor a node is nominated, validation is EXACT: every candidate of the command that is
    still a candidate is released (a still-empty node is not dropped because another one received a pod) -/
theorem C06_empty_validate_exact (poolOf : String → String) (nominated : String → Bool) (budgets : List (String × Nat))
    (cmd current : List String)
    (hb : ∀ p, ((mapCandidates cmd current).filter (fun n => !nominated n && poolOf n == p)).length ≤ (budgets.lookup p).getD 0) :
    emptinessRelease poolOf nominated budgets cmd current = (mapCandidates cmd current).filter (fun n => !nominated n) := by
  rw [emptinessRelease_eq, budgetFilter_exact _ budgets fun p => List.countP_eq_length_filter ▸ hb p]

/-- **C06_empty_at_release** — the property's third sentence AT RELEASE: if every node `GetCandidates` returns after the
    wait is empty by `IsEmpty` at that moment (that is `Emptiness.ShouldDisrupt`; `pods n` = the eviction-cost inputs of the
    reschedulable pods on `n` after the wait), then no reschedulable pod on a released node has a positive eviction cost. -/
theorem C06_empty_at_release (poolOf : String → String) (nominated : String → Bool) (budgets : List (String × Nat))
    (cmd current rel : List String) (pods : String → List PodCost)
    (h : emptinessValidate poolOf nominated budgets cmd current = some rel)
    (hcur : ∀ n ∈ current, isEmpty (pods n) = true) :
    ∀ n ∈ rel, ∀ p ∈ pods n, ¬ (0 < (2 : Int) ^ 27 + p.delCost.getD 0 + 4 * p.prio.getD 0) := by
  intro n hn
  have := (C06_empty_validated poolOf nominated budgets cmd current rel h).2.1 n hn
  exact (C06_empty (pods n)).mp (hcur n this.2.1)

/-- **C06_empty_release_spec** — the model's released Emptiness command passes the SAME executable `empty` rule the driver
    evaluates on the real command, on the cluster as it is at release (`s`: the scenario after the change), provided the
    still-valid candidates are empty by `isEmpty` there (checked by the driver on what the real `GetCandidates` returns). -/
theorem C06_empty_release_spec (s : Karp.Scn.Scenario) (infos : List Karp.Spec.Consolidation.PodInfo)
    (poolOf : String → String) (nominated : String → Bool) (budgets : List (String × Nat)) (cmd current : List String)
    (hcur : ∀ n ∈ current, ∀ nd, s.node? n = some nd →
      isEmpty (((Karp.Spec.Consolidation.reschedulable infos nd).map (fun p => Karp.Spec.Consolidation.infoOf infos p.name)).map
        (fun i => { delCost := i.delCost, prio := i.prio })) = true)
    (c : Karp.Spec.Consolidation.Command) (hc : c.cands = emptinessRelease poolOf nominated budgets cmd current) :
    Karp.Spec.Consolidation.emptyRule s infos c = none := by
  unfold Karp.Spec.Consolidation.emptyRule
  split
  · rfl
  · apply firstV_none
    intro v hv
    obtain ⟨nd, hnd, rfl⟩ := List.mem_map.mp hv
    obtain ⟨n, hn, hsn⟩ := List.mem_filterMap.mp hnd
    rw [hc] at hn
    have hin := (C06_empty_release_subset poolOf nominated budgets cmd current n hn).2
    have he := hcur n hin nd hsn
    rw [C06_empty_spec, List.all_map, List.all_eq_true] at he
    rw [List.find?_eq_none.mpr fun p hp => by simpa using he p hp]

/-- non-vacuity: two empty candidates, `n2` receives a pod during the wait (it is no longer among the current candidates):
    only `n1` is released; when both receive one, no command is released; a nominated node is dropped; a budget of one
    lets one node through -/
example : emptinessValidate (fun _ => "pool") (fun _ => false) [("pool", 5)] ["n1", "n2"] ["n3", "n1"] = some ["n1"] := by decide
example : emptinessValidate (fun _ => "pool") (fun _ => false) [("pool", 5)] ["n1", "n2"] ["n3"] = none := by decide
example : emptinessValidate (fun _ => "pool") (fun n => n == "n1") [("pool", 5)] ["n1", "n2"] ["n2", "n1"] = some ["n2"] := by decide
example : emptinessValidate (fun _ => "pool") (fun _ => false) [("pool", 1)] ["n1", "n2"] ["n2", "n1"] = some ["n2"] := by decide
example : emptinessRelease (fun _ => "pool") (fun _ => false) [] ["n1"] ["n1"] = [] := by decide
/-- … and what the property forbids — releasing the command AS COMPUTED — differs from the model on that input -/
example : emptinessRelease (fun _ => "pool") (fun _ => false) [("pool", 5)] ["n1", "n2"] ["n3", "n1"] ≠ ["n1", "n2"] := by decide

/-! ## The model's decision meets the executable specification

The driver evaluates `Karp.Spec.Consolidation` on the commands of the REAL code.  These theorems say that the MODEL's
decision, read as a command over the scenario it was computed for (`candOf`, `itypeOf`: `Karp/Model/ConsolidateScn.lean`),
passes the price and the spot-to-spot clauses of that same specification — for every scenario, candidate list, simulation
result and gate value. -/

/-- **C06_spec_strictly_cheaper** — the specification's "every permitted launch is strictly cheaper than the removed nodes
    together" holds of the model's replace decision. -/
theorem C06_spec_strictly_cheaper (s : Karp.Scn.Scenario) (ridKey : String) (hrid : ridKey ≠ ctKey) (gate : Bool)
    (nodes : List Karp.Scn.Node) (hnodes : ∀ n ∈ nodes, s.node? n.name = some n)
    (sim : Sim) (R' : Reqs) (kept : List IType) (n : Nat) (c : Karp.Consolidate.Claim)
    (hdec : compute ridKey gate (nodes.map (candOf s)) sim = .replace R' kept n) (hc : sim.claims = [c])
    (hyp : ClaimHyps ridKey c)
    (hcat : ∀ it ∈ kept, ∃ sit, s.it? it.name = some sit ∧ itypeOf sit = it)
    (cmd : Karp.Spec.Consolidation.Command) (hcands : cmd.cands = nodes.map (·.name))
    (cl : Karp.Scn.Claim) (hrepl : cmd.repl = [cl]) (hreqs : cl.reqs = R') (hits : cl.its = (kept.take n).map (·.name)) :
    Karp.Spec.Consolidation.strictlyCheaper s ridKey cmd = none := by
  rw [← (clausesT_nil s ridKey gate cmd).1]
  exact strictlyCheaperT_none (t := []) hnodes hcands hrepl hits hcat
    (hreqs ▸ replace_price hrid hdec hc hyp)

/-- **C06_spec_spot_to_spot** — the specification's spot-to-spot clause (gate, and for a single node at least 15
    launchable options) holds of the model's replace decision. -/
theorem C06_spec_spot_to_spot (s : Karp.Scn.Scenario) (ridKey : String) (gate : Bool)
    (nodes : List Karp.Scn.Node) (hnodes : ∀ n ∈ nodes, s.node? n.name = some n)
    (sim : Sim) (R' : Reqs) (kept : List IType) (n : Nat) (c : Karp.Consolidate.Claim)
    (hdec : compute ridKey gate (nodes.map (candOf s)) sim = .replace R' kept n) (hc : sim.claims = [c])
    (hcat : ∀ it ∈ kept, ∃ sit, s.it? it.name = some sit ∧ itypeOf sit = it)
    (cmd : Karp.Spec.Consolidation.Command) (hcands : cmd.cands = nodes.map (·.name))
    (cl : Karp.Scn.Claim) (hrepl : cmd.repl = [cl]) (hreqs : cl.reqs = R') (hits : cl.its = (kept.take n).map (·.name)) :
    Karp.Spec.Consolidation.spotToSpot s ridKey gate cmd = none := by
  subst hreqs
  refine spotToSpot_none hnodes hcands hrepl fun hs hm => ?_
  -- the simulated claim could launch spot, too
  have hmay := (compute_replace_branch hdec hc).has_of_final hm
  obtain ⟨hg, _, hlaunch, hlen⟩ := C06_spot_to_spot ridKey gate _ sim _ kept n c hdec hc hs hmay
  refine ⟨hg, fun hle => ?_⟩
  rw [launchableTypes_length hits (fun it hit => hcat it (List.mem_of_mem_take hit))
    fun it hit => hlaunch it (List.mem_of_mem_take hit)]
  exact fact_spec_floor ▸ hlen (by rwa [List.length_map])

/-! ## The launch cap (`Results.TruncateInstanceTypes`)

`C06_feasible` starts from a simulation that "scheduled every non-pending pod".  Between the solver and that reading sits
the cut to the `MaxInstanceTypes` cheapest options; these theorems say that the cut cannot make pods disappear from the
account: every pod of a new NodeClaim is, after the cut, either still on a NodeClaim or an entry of `PodErrors`, so a
simulation that lost a NodeClaim to the cap is never read as "all scheduled" and yields no command. -/

/-- **C06_truncate_accounts** — no pod vanishes: after the cut every pod of the solver's new NodeClaims is on a remaining
    NodeClaim or reported as a pod error. -/
theorem C06_truncate_accounts (strict : Bool) (cap : Nat) (claims : List PClaim) (p : String)
    (hp : p ∈ claims.flatMap (·.pods)) :
    p ∈ (truncateResults strict cap claims).1.flatMap (·.pods) ∨ p ∈ (truncateResults strict cap claims).2 := by
  fun_induction truncateResults strict cap claims with
  | case1 => cases hp
  | case2 c cs r ht ih =>
    rw [List.flatMap_cons, List.mem_append] at hp
    exact hp.elim (fun h => .inr (List.mem_append_left _ h)) (fun h => (ih h).imp_right (List.mem_append_right _))
  | case3 c cs r t ht ih =>
    rw [List.flatMap_cons, List.mem_append] at hp
    simp only [List.flatMap_cons, List.mem_append]
    exact hp.elim (fun h => .inl (.inl h)) (fun h => (ih h).imp_left .inr)

/-- the NodeClaims that remain are NodeClaims of the solver's result, in order, each cut to a prefix of at most `cap`
    options that still meets minValues under the Strict policy -/
theorem C06_truncate_kept (strict : Bool) (cap : Nat) (claims : List PClaim) (k : PClaim)
    (hk : k ∈ (truncateResults strict cap claims).1) :
    ∃ c ∈ claims, k.pods = c.pods ∧ k.claim.reqs = c.claim.reqs ∧ k.claim.its = c.claim.its.take cap ∧
      k.claim.its.length ≤ cap ∧ (strict = true → (satisfiesMinValues k.claim.reqs k.claim.its).2 = false) := by
  fun_induction truncateResults strict cap claims with
  | case1 => cases hk
  | case2 c cs r ht ih =>
    obtain ⟨c', hc', h⟩ := ih hk
    exact ⟨c', List.mem_cons_of_mem _ hc', h⟩
  | case3 c cs r t ht ih =>
    rcases List.mem_cons.mp hk with rfl | hk
    · obtain ⟨rfl, hmin⟩ := truncateTypes_some ht
      exact ⟨c, List.mem_cons_self, rfl, rfl, rfl, List.length_take_le _ _, hmin⟩
    · obtain ⟨c', hc', h⟩ := ih hk
      exact ⟨c', List.mem_cons_of_mem _ hc', h⟩

/-- **C06_cap_no_silent_loss** — a simulation that lost a NodeClaim (with a pod on it) to the cap is not read as "all
    scheduled": `computeConsolidation` returns no command for it, whatever the candidates and the gate. -/
theorem C06_cap_no_silent_loss (ridKey : String) (gate : Bool) (cands : List Cand) (strict : Bool) (cap : Nat)
    (errs : List String) (claims : List PClaim) (p : String) (hp : p ∈ claims.flatMap (·.pods))
    (hlost : p ∉ (truncateResults strict cap claims).1.flatMap (·.pods)) :
    compute ridKey gate cands (simAfterCap strict cap errs claims) = .noop := by
  apply C06_unscheduled_noop
  have herr := (C06_truncate_accounts strict cap claims p hp).resolve_left hlost
  exact List.isEmpty_eq_false_iff.mpr (List.ne_nil_of_mem (List.mem_append_right errs herr))

/-- the shape of the seeded witness: three cheap amd64 types, one dear arm64 type, arch minValues 2, cap 3 — the cut list
    is all amd64, the NodeClaim is dropped, its pod is reported, no command -/
def capTypes : List IType :=
  [{ name := "a1", offerings := [ofr "z1" "on-demand" 10], vals := [("kubernetes.io/arch", ["amd64"])] },
   { name := "a2", offerings := [ofr "z1" "on-demand" 11], vals := [("kubernetes.io/arch", ["amd64"])] },
   { name := "a3", offerings := [ofr "z1" "on-demand" 12], vals := [("kubernetes.io/arch", ["amd64"])] },
   { name := "b1", offerings := [ofr "z1" "on-demand" 50], vals := [("kubernetes.io/arch", ["arm64"])] }]
def capReqs : Reqs := [("kubernetes.io/arch", { key := "kubernetes.io/arch", complement := false, values := ["amd64", "arm64"], minValues := some 2 })]
def capClaim : PClaim := { pods := ["p"], claim := { reqs := capReqs, its := capTypes } }
example : (truncateResults true 3 [capClaim]).1.length = 0 ∧ (truncateResults true 3 [capClaim]).2 = ["p"] := by decide
example : (truncateResults true 4 [capClaim]).1.length = 1 ∧ (truncateResults true 4 [capClaim]).2 = [] := by decide
example : (truncateResults false 3 [capClaim]).1.length = 1 := by decide
example : (simAfterCap true 3 [] [capClaim]).allScheduled = false := by decide
example : (simAfterCap true 4 [] [capClaim]).allScheduled = true := by decide

/-- the code: the pods of a dropped NodeClaim are stored into `r.PodErrors` — the map of the Results value that is
    RETURNED (`return r`; `r` is the value receiver, its `NewNodeClaims` replaced by the valid ones) -/
theorem fact_truncate_results :
    Karp.Gen.C06Facts.truncateResultsOutlineRecv = "r Results" ∧
    Karp.Gen.C06Facts.truncateResultsOutline =
      ["var validNewNodeClaims",
       "for _, newNodeClaim := range r.NewNodeClaims",
       "var err",
       "newNodeClaim.InstanceTypeOptions, err = newNodeClaim.InstanceTypeOptions.Truncate(…)",
       "if err != nil",
       "for _, pod := range newNodeClaim.Pods",
       "r.PodErrors[pod] = serrors.Wrap(…)",
       "end",
       "else",
       "validNewNodeClaims = append(…)",
       "end",
       "end",
       "r.NewNodeClaims = validNewNodeClaims",
       "return r"] := ⟨rfl, rfl⟩

/-- `InstanceTypes.Truncate`: the first `maxItems` of the price order; the minValues error under the Strict policy only -/
theorem fact_truncate_types :
    Karp.Gen.C06Facts.truncateTypesOutline =
      ["truncatedInstanceTypes := lo.Slice(…)",
       "if requirements.HasMinValues()",
       "if options.FromContext(ctx).MinValuesPolicy != options.MinValuesPolicyBestEffort",
       "if err != nil",
       "return its, fmt.Errorf(…)",
       "end", "end", "end",
       "return truncatedInstanceTypes, nil"] := rfl

/-- "all non-pending pods scheduled" is read off `PodErrors` -/
theorem fact_all_scheduled_reads_pod_errors :
    Karp.Gen.C06Facts.allNonPendingCmps =
      ["len(lo.OmitBy(r.PodErrors, (func(p *corev1.Pod, err error) bool literal))) == 0"] := rfl

/-! ## What the simulation may leave out (facts)

`C06_feasible` speaks about "every non-pending pod" of the simulation.  Which pods the real simulation covers, and which of
its errors it may ignore, is code outside the model; these regenerated facts pin the three places where a realistic change
silently shrinks that set (each also has generated inputs and a corpus witness judged by the specification). -/

/-- an ignorable pod error is one of a pod that was ALREADY unschedulable (`IsProvisionable`: unbound, marked unschedulable
    by kube-scheduler) — never "phase Pending", which also holds of a pod bound to the candidate that is still starting -/
theorem fact_ignorable_errors :
    Karp.Gen.C06Facts.allNonPendingCalls = ["IsProvisionable"] ∧
    Karp.Gen.C06Facts.nonPendingErrorsCalls = ["IsProvisionable"] := ⟨rfl, rfl⟩

/-- `pdb.Limits.isEvictable`: the `unhealthyPodEvictionPolicy: AlwaysAllow` exception for a pod that reports Ready=False is
    taken BEFORE the blocker-specific test, so `CanEvictPods` (is the node a candidate?) and `isFullyBlocked` /
    `IsCurrentlyReschedulable` (is the pod part of the simulation?) agree on it -/
theorem fact_pdb_unhealthy_exception :
    Karp.Gen.C06Facts.pdbIsEvictableOutline =
      ["if !podutil.IsEvictable(pod, clk, recorder)", "return []client.ObjectKey{}, true", "end",
       "matchingPDBs := lo.Filter(…)",
       "if len(matchingPDBs) > 1", "return lo.Map(…), false", "end",
       "for _, pdb := range matchingPDBs",
       "if pdb.canAlwaysEvictUnhealthyPods",
       "for _, c := range pod.Status.Conditions",
       "if c.Type == v1.PodReady && c.Status == v1.ConditionFalse",
       "return []client.ObjectKey{}, true",
       "end", "end", "end",
       "(other statement)",
       "end",
       "return []client.ObjectKey{}, true"] := rfl

/-- NodeOverlay prices: the store writes an adjusted price into a fresh COPY of the offering (`&cloudprovider.Offering{…}`)
    and shares the provider's object only where nothing is adjusted — a relative adjustment is applied once per call, to
    the provider's price, and cannot compound over the several `GetInstanceTypes` calls of one disruption pass -/
theorem fact_overlay_copies_offering :
    Karp.Gen.C06Facts.applyPriceOverlaysOutline =
      ["result := make(…)",
       "for i, offering := range offerings",
       "if ok",
       "copiedOffering := &cloudprovider.Offering{…}",
       "(other statement)",
       "result[i] = copiedOffering",
       "else",
       "result[i] = offering",
       "end", "end",
       "return result"] := rfl

/-! ## Price tables per NodePool

Prices belong to the NodePool that buys: `Karp.Spec.Consolidation.Tables`.  The model needs no change — a candidate
carries the offerings of its type as ITS NodePool is charged for them (`Cand.offerings`: `NewCandidate` resolves
`Candidate.Price` from `nodePoolToInstanceTypesMap[candidate's NodePool]`), the options of the simulated NodeClaim are the
replacement NodePool's instance types — and `C06_price` holds for ALL candidate lists and option lists.  What has to be
shown is that the model's decision, fed that way, passes the specification that prices each removed node at its own
NodePool's price and each launch at the replacement NodePool's price. -/

/-- **C06_tables_conservative** — without per-NodePool tables the specification is the one-catalog specification. -/
theorem C06_tables_conservative (s : Karp.Scn.Scenario) (ridKey : String) (gate : Bool)
    (infos : List Karp.Spec.Consolidation.PodInfo) (cmd : Karp.Spec.Consolidation.Command) (cands : List String) (w : Bool) :
    Karp.Spec.Consolidation.commandOKT [] s ridKey gate infos cmd cands w =
      Karp.Spec.Consolidation.commandOK s ridKey gate infos cmd cands w := by
  obtain ⟨h1, h2, h3⟩ := clausesT_nil s ridKey gate cmd
  simp only [Karp.Spec.Consolidation.commandOKT, Karp.Spec.Consolidation.commandOK, h1, h2, h3]
  cases cmd.repl <;> rfl

/-- **C06_spec_strictly_cheaper_tables** — with prices per NodePool: the model's replace decision, computed from candidates
    that carry their OWN NodePool's offerings and a simulated NodeClaim whose options are the REPLACEMENT NodePool's
    instance types, passes the specification's "every permitted launch (at the replacement NodePool's price) is strictly
    cheaper than the removed nodes together (each at its own NodePool's price)". -/
theorem C06_spec_strictly_cheaper_tables (t : Karp.Spec.Consolidation.Tables) (s : Karp.Scn.Scenario) (ridKey : String)
    (hrid : ridKey ≠ ctKey) (gate : Bool)
    (nodes : List Karp.Scn.Node) (hnodes : ∀ n ∈ nodes, s.node? n.name = some n)
    (sim : Sim) (R' : Reqs) (kept : List IType) (n : Nat) (c : Karp.Consolidate.Claim)
    (hdec : compute ridKey gate (nodes.map (fun nd => candOf (Karp.Spec.Consolidation.poolView t s nd.pool) nd)) sim = .replace R' kept n)
    (hc : sim.claims = [c]) (hyp : ClaimHyps ridKey c)
    (cmd : Karp.Spec.Consolidation.Command) (hcands : cmd.cands = nodes.map (·.name))
    (cl : Karp.Scn.Claim) (hrepl : cmd.repl = [cl]) (hreqs : cl.reqs = R') (hits : cl.its = (kept.take n).map (·.name))
    (hcat : ∀ it ∈ kept, ∃ sit, (Karp.Spec.Consolidation.poolView t s cl.pool).it? it.name = some sit ∧ itypeOf sit = it) :
    Karp.Spec.Consolidation.strictlyCheaperT t s ridKey cmd = none := by
  exact strictlyCheaperT_none hnodes hcands hrepl hits hcat
    (hreqs ▸ replace_price hrid hdec hc hyp)

/-- the code: `BuildNodePoolMap` asks the provider for the instance types of EVERY NodePool (one unguarded
    `GetInstanceTypes` call per iteration, stored under that NodePool's name), and `NewCandidate` prices the node from it -/
theorem fact_node_pool_map :
    Karp.Gen.C06Facts.buildNodePoolMapOutline =
      ["nodePoolMap := map[string]*v1.NodePool{}",
       "nodePools, err := nodepoolutils.ListManaged(…)",
       "if err != nil", "return nil, nil, fmt.Errorf(…)", "end",
       "nodePoolToInstanceTypesMap := map[string]map[string]*cloudprovider.InstanceType{}",
       "for _, np := range nodePools",
       "nodePoolMap[np.Name] = np",
       "nodePoolInstanceTypes, err := cloudProvider.GetInstanceTypes(…)",
       "if err != nil",
       "if cloudprovider.IsUnevaluatedNodePoolError(err)", "(other statement)", "(other statement)", "end",
       "(other statement)", "(other statement)", "end",
       "if len(nodePoolInstanceTypes) == 0", "(other statement)", "end",
       "nodePoolToInstanceTypesMap[np.Name] = map[string]*cloudprovider.InstanceType{}",
       "for _, it := range nodePoolInstanceTypes",
       "nodePoolToInstanceTypesMap[np.Name][it.Name] = it",
       "end", "end",
       "return nodePoolMap, nodePoolToInstanceTypesMap, nil"] ∧
    Karp.Gen.C06Facts.newCandidateCalls = ["resolveNodePrice"] := ⟨rfl, rfl⟩

/-! Non-vacuity and necessity: NodePool `b` is charged a quarter of the list price for `big`.  A `big` node of `b` (250)
    may not be replaced by `small` from NodePool `a` (300 on demand) although 300 is below `big`'s LIST price 1000 — pricing
    the candidate by another NodePool's table (here: the catalog) is exactly what the specification rejects. -/
def tblScn : Karp.Scn.Scenario :=
  { its := [{ name := "big", cpu := 8000, mem := 8000, pods := 10, arch := "amd64", os := ["linux"], overhead := 0,
              offerings := [{ zone := "z1", ct := "on-demand", price := 1000, available := true, resID := "", resN := 0 }] },
            { name := "small", cpu := 2000, mem := 2000, pods := 10, arch := "amd64", os := ["linux"], overhead := 0,
              offerings := [{ zone := "z1", ct := "on-demand", price := 300, available := true, resID := "", resN := 0 }] }],
    pools := [], daemonsets := [], pods := [], ignorePreferences := false, bestEffortMinValues := false, parallelism := 1,
    reservedCapacity := false,
    nodes := [{ name := "n1", pool := "b", it := "big", zone := "z1", ct := "on-demand", labels := [], taints := [], stage := "initialized",
                deleting := false, pods := [] }] }
def tblB : Karp.Spec.Consolidation.Tables :=
  [("b", [{ name := "big", cpu := 8000, mem := 8000, pods := 10, arch := "amd64", os := ["linux"], overhead := 0,
            offerings := [{ zone := "z1", ct := "on-demand", price := 250, available := true, resID := "", resN := 0 }] },
          { name := "small", cpu := 2000, mem := 2000, pods := 10, arch := "amd64", os := ["linux"], overhead := 0,
            offerings := [{ zone := "z1", ct := "on-demand", price := 75, available := true, resID := "", resN := 0 }] }])]
def tblCmd (pool : String) : Karp.Spec.Consolidation.Command :=
  { method := "single", cands := ["n1"], existing := [], errors := [], newClaims := 1,
    repl := [{ pool := pool, pods := [], reqs := [], its := ["small"], reqCPU := 0, reqMem := 0, reqPods := 0, taints := [] }] }

example : Karp.Spec.Consolidation.combinedPriceT tblB tblScn ["n1"] = 250 := by decide
example : Karp.Spec.Consolidation.combinedPrice tblScn ["n1"] = 1000 := by decide
/-- replaced from NodePool `a` (list prices): 300 is not below 250 — rejected, although the one-catalog reading accepts -/
theorem C06_tables_needed :
    (Karp.Spec.Consolidation.strictlyCheaperT tblB tblScn "rid" (tblCmd "a")).isSome = true ∧
    Karp.Spec.Consolidation.strictlyCheaper tblScn "rid" (tblCmd "a") = none := by decide
/-- replaced within NodePool `b` (75 < 250): accepted -/
example : Karp.Spec.Consolidation.strictlyCheaperT tblB tblScn "rid" (tblCmd "b") = none := by decide

/-! ## Non-vacuity: concrete catalogs exercising every branch -/

def odCand : Cand := { name := "n1", itName := "big", zone := "z1", ct := "on-demand", offerings := big.offerings }
def spotCand : Cand := { name := "n2", itName := "big", zone := "z1", ct := "spot", offerings := big.offerings }
def claim0 : Claim := { reqs := [], its := [small, mid, big] }
def sim0 : Sim := { allScheduled := true, claims := [claim0] }

-- the decision on `[odCand]`/`sim0`, evaluated once for the two examples that read it
theorem od_sim0 : (compute "rid" false [odCand] sim0).its.map (·.name) = ["small", "mid", "big"] ∧
    ((compute "rid" false [odCand] sim0).reqs.get ctKey).has onDemand = false := by decide
/-- on-demand → spot: all three survive on their spot prices (100, 350, 400 < 1000) and the request is pinned to spot;
    `mid`'s on-demand offering (1200 ≥ 1000) is exactly what the pin excludes -/
example : (compute "rid" false [odCand] sim0).its.map (·.name) = ["small", "mid", "big"] := od_sim0.1
/-- a claim restricted to on-demand: only `small` (300 < 1000) survives -/
example : (compute "rid" false [odCand] { allScheduled := true, claims := [{ reqs := [(ctKey, { key := ctKey, complement := false, values := ["on-demand"] })], its := [small, mid, big] }] }).its.map (·.name) = ["small"] := by decide
example : ((compute "rid" false [odCand] sim0).reqs.get ctKey).has onDemand = false := od_sim0.2
example : ClaimHyps "rid" claim0 := ⟨by decide, by decide⟩
/-- spot → spot with the gate off: no command; with the gate on but fewer than 15 cheaper options: no command -/
example : (compute "rid" false [spotCand] sim0).isReplace = false := by decide
example : (compute "rid" true [spotCand] sim0).isReplace = false := by decide
/-- two spot candidates (multi-node): the 15-option floor does not apply -/
example : (compute "rid" true [spotCand, spotCand] sim0).its.map (·.name) = ["small", "mid", "big"] := by decide
/-- … and the multi-node step then removes `big` (the candidates' own type) and everything as dear as it -/
example : (multiStep "rid" true [spotCand, spotCand] sim0).its.map (·.name) = ["small", "mid"] := by decide
/-- emptiness: cost exactly 0 is empty, one step above is not -/
example : isEmpty [{ delCost := some (-134217728), prio := none }] = true := by decide
example : isEmpty [{ delCost := some (-134217727), prio := none }] = false := by decide
example : isEmpty [{ delCost := none, prio := some (-33554432) }, { delCost := some (-2147483647), prio := none }] = true := by decide

/-- the `ClaimHyps.pinned` hypothesis is needed: a claim that may launch spot although an available reserved offering
    is compatible is priced by the reservation and would admit a dearer spot launch -/
def resType : IType := { name := "res", offerings := [ofr "z1" "reserved" 10 true "r-1", ofr "z1" "spot" 5000] }
example : (compute "rid" false [odCand] { allScheduled := true, claims := [{ reqs := [], its := [resType] }] }).its.map (·.name) = ["res"] := by decide

end Karp.C06
