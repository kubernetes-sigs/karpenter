/-
C20 — NodePool registration health reflects the recent launch window.

Property theorems and the refinement lemmas they rest on (ring-buffer lemmas: `Karp/Proofs/RingLemmas.lean`; the
closed form of a launch attempt under the lifecycle controller: `Karp/Proofs/PoolHealthLemmas.lean`).
Model: `Karp/Model/Ring.lean` (ring buffer, tracker, what-if, condition update),
       `Karp/Model/PoolHealth.lean` (the registrationhealth controller and the nodeclaim lifecycle
       controller acting on one NodePool, with late / repeated looks and one failed NodePool call per event + retry).
Spec:  `Karp/Spec/Window.lean` (log of outcomes since the last reset; last 4 entries),
       `Karp/Spec/PoolHealth.lean` (the condition an operator reads along the pool's life).
-/
import Karp.Proofs.RingLemmas
import Karp.Proofs.PoolHealthLemmas
import Karp.Spec.HealthHistory
import Karp.Model.PoolHealth
import Karp.Spec.PoolHealth

namespace Karp.C20
open Karp.Ring Karp.Spec.Window Karp.Spec.HealthHistory

/-- the window has four slots (property text: "four most recent launch attempts") -/
theorem fact_bufferSize : Karp.Gen.Health.bufferSize = 4 := rfl
/-- "at least half of the window" -/
theorem fact_threshold : Karp.Gen.Health.thresholdFalseNum * 2 = Karp.Gen.Health.thresholdFalseDen := by decide
theorem fact_status_codes :
    Karp.Gen.Health.statusUnknown = 0 ∧ Karp.Gen.Health.statusHealthy = 1 ∧ Karp.Gen.Health.statusUnhealthy = 2 :=
  ⟨rfl, rfl, rfl⟩

theorem bufferSize_pos : 0 < bufferSize := by decide

/-- `SetStatus(Unhealthy)` seeds `int(BufferSize*ThresholdFalse)` failures; the specification asks for the
    least number that makes the window unhealthy (`⌈·⌉`).  They coincide for the constants in the source. -/
theorem fact_seed : unhealthySeed = seedFailures := by decide

/-- the tracker refines the log: oldest-first content = last `bufferSize` log entries -/
structure Refines (t : Tracker) (log : List Bool) : Prop where
  wf : WF t
  cap : t.cap = bufferSize
  content : t.logical = lastN bufferSize log

theorem refines_new : Refines Tracker.new [] :=
  ⟨wf_new _ bufferSize_pos, rfl, by simp [Tracker.new, Ring.new, Ring.logical, lastN]⟩

theorem refines_reset (t : Tracker) (log : List Bool) (h : Refines t log) : Refines t.reset [] :=
  ⟨wf_reset t h.wf, by simpa using h.cap, by simp [Ring.reset, Ring.logical, lastN]⟩

theorem refines_insert (t : Tracker) (log : List Bool) (v : Bool) (h : Refines t log) :
    Refines (t.insert v) (log ++ [v]) := by
  refine ⟨wf_insert t v h.wf, by simpa using h.cap, ?_⟩
  rw [logical_insert t v h.wf, h.cap, h.content, lastN_append_lastN]

theorem refines_insertMany (n : Nat) : ∀ (t : Tracker) (log : List Bool) (v : Bool), Refines t log →
    Refines (insertMany t v n) (log ++ List.replicate n v) := by
  induction n with
  | zero => intro t log v h; simpa [insertMany] using h
  | succ n ih =>
    intro t log v h
    have := ih (t.insert v) (log ++ [v]) v (refines_insert t log v h)
    simpa [insertMany, List.replicate_succ] using this

theorem refines_step (t : Tracker) (log : List Bool) (op : Op) (h : Refines t log) :
    Refines (step t op) (specStep log op) := by
  cases op with
  | update ok => exact refines_insert t log ok h
  | reset => exact refines_reset t log h
  | set s =>
    cases s with
    | unknown => exact refines_reset t log h
    | healthy => simpa [step, Tracker.setStatus, specStep] using refines_insert _ _ true (refines_reset t log h)
    | unhealthy =>
      simpa [step, Tracker.setStatus, specStep, fact_seed] using refines_insertMany unhealthySeed _ _ false (refines_reset t log h)
  | restart => exact refines_new
  | dry ok => exact h
  | status => exact h

/-- after any history (any length, any mix of records, resets, re-hydrations and
    restarts) the buffer holds exactly the last `min 4 n` outcomes recorded since the last reset,
    oldest first from `head`. -/
theorem C20_ring_window (ops : List Op) :
    ∀ (t : Tracker) (log : List Bool), Refines t log → Refines (run t ops) (specRun log ops) := by
  induction ops with
  | nil => intro t log h; exact h
  | cons op ops ih => intro t log h; exact ih _ _ (refines_step t log op h)

/-- the reported status is Unknown on an empty window, Unhealthy exactly when the failures
    in the window fill at least half of the four slots, Healthy otherwise. -/
theorem C20_status (t : Tracker) (log : List Bool) (h : Refines t log) :
    t.status = specHealth log := by
  unfold Tracker.status statusOf specHealth health Ring.items
  rw [← failures_logical, ← length_logical, h.content]
  by_cases hw : lastN bufferSize log = []
  · simp [hw, toStatus]
  · have : (lastN bufferSize log).length ≠ 0 := by
      intro hl; exact hw (List.length_eq_zero_iff.mp hl)
    simp only [this, hw, if_false]
    unfold Karp.Ring.failures Karp.Spec.Window.failures
    split <;> simp [toStatus]

/-- the what-if evaluation of the next outcome equals the state reached after
    that outcome is recorded (for every tracker state, in particular after the window has wrapped).
    By definition: `Ring.clone` rebuilds the ring from its own three fields, so `t.clone` is `t` and `dryRun` is `update`. -/
theorem C20_dryrun_agrees (t : Tracker) (ok : Bool) :
    (t.dryRun ok).status = (t.update ok).status := rfl

theorem dry_status (t : Tracker) (log : List Bool) (ok : Bool) (h : Refines t log) :
    (t.dryRun ok).status = specHealth (log ++ [ok]) := by
  rw [C20_dryrun_agrees]; exact C20_status _ _ (refines_insert t log ok h)

/-- refinement, all histories: every status and every what-if verdict observed
    along any history equals what the sliding-window specification prescribes. -/
theorem C20_observations (ops : List Op) :
    ∀ (t : Tracker) (log : List Bool), Refines t log →
      observations t ops = specObservations log ops := by
  induction ops with
  | nil => intro t log _; rfl
  | cons op ops ih =>
    intro t log h
    have hstep := refines_step t log op h
    simp only [observations, specObservations]
    rw [ih _ _ hstep]
    congr 1
    cases op with
    | dry ok => exact dry_status t log ok h
    | _ => exact C20_status _ _ hstep

theorem C20_observations_from_start (ops : List Op) :
    observations Tracker.new ops = specObservations [] ops :=
  C20_observations ops _ _ refines_new

/-- recording a failure sets the condition False exactly when failures then
    fill at least half of the window (and leaves it unchanged otherwise). -/
theorem C20_condition_failure (c : Cond) (t : Tracker) (log : List Bool) (h : Refines t log) :
    ((recordFailure c t).1 = Cond.false_ ↔ (c = Cond.false_ ∨ specHealth (log ++ [false]) = .unhealthy))
    ∧ (specHealth (log ++ [false]) ≠ .unhealthy → (recordFailure c t).1 = c)
    ∧ Refines (recordFailure c t).2 (log ++ [false]) := by
  refine ⟨?_, ?_, refines_insert t log false h⟩
  · simp only [recordFailure, dry_status t log false h]
    by_cases h1 : specHealth (log ++ [false]) = .unhealthy <;> by_cases h2 : c = Cond.false_ <;> simp [h1, h2]
  · intro hne; simp [recordFailure, dry_status t log false h, hne]

/-- recording a success sets the condition True exactly when failures then
    fill less than half of the window (the window is non-empty after a record, so "less than half" is
    `healthy`). -/
theorem C20_condition_success (c : Cond) (t : Tracker) (log : List Bool) (h : Refines t log) :
    ((recordSuccess c t).1 = Cond.true_ ↔ (c = Cond.true_ ∨ specHealth (log ++ [true]) = .healthy))
    ∧ (specHealth (log ++ [true]) ≠ .healthy → (recordSuccess c t).1 = c)
    ∧ Refines (recordSuccess c t).2 (log ++ [true]) := by
  refine ⟨?_, ?_, refines_insert t log true h⟩
  · simp only [recordSuccess, dry_status t log true h]
    by_cases h1 : specHealth (log ++ [true]) = .healthy <;> by_cases h2 : c = Cond.true_ <;> simp [h1, h2]
  · intro hne; simp [recordSuccess, dry_status t log true h, hne]

/-! ## The defect that was repaired (kept as a machine-checked record)

At the pinned commit `DryRun` copied `Items()` (physical order) into a fresh buffer with head 0.
After the window wraps the copy overwrites the wrong slot: history F,F,T,T,T then what-if(false). -/

def witnessTracker : Tracker := run Tracker.new [.update false, .update false, .update true, .update true, .update true]

theorem C20_dryrun_physical_diverges :
    (witnessTracker.dryRunPhysical false).status = .unhealthy ∧
    (witnessTracker.update false).status = .healthy := by decide

/-! ## Non-vacuity: a wrapped history -/

example : Refines witnessTracker (specRun [] [.update false, .update false, .update true, .update true, .update true]) :=
  C20_ring_window _ _ _ refines_new
example : witnessTracker.head = 1 ∧ witnessTracker.values = [true, false, true, true] := by decide
example : observations Tracker.new [.update false, .update false, .dry true, .update true, .update true, .update true, .dry false, .reset]
    = [.healthy, .unhealthy, .unhealthy, .unhealthy, .unhealthy, .healthy, .healthy, .unknown] := by decide

/-! ## The controllers: one NodePool's life (registrations, timeouts, edits, restarts, resyncs)

`Karp.PoolHealth` models `registrationhealth.Controller.Reconcile` and the two
`updateNodePoolRegistrationHealth` call sites on one pool; `Karp.Spec.PoolHealth` is the operator-level
specification (log since the last reset + condition).  The theorems below are the refinement over
ALL event sequences. -/

open Karp.PoolHealth

abbrev SP := Karp.Spec.PoolHealth.S
abbrev SC := Karp.Spec.PoolHealth.C

def condSpec : Cond → SC
  | .unknown => .unknown
  | .true_ => .true_
  | .false_ => .false_

theorem healthCode_toStatus (h : Health) : Karp.Spec.PoolHealth.healthCode h = (toStatus h).toNat := by
  cases h <;> rfl

theorem specHealth_eq (log : List Bool) : specHealth log = toStatus (Karp.Spec.PoolHealth.healthOf log) := rfl

theorem specHealth_unknown_iff (log : List Bool) : specHealth log = .unknown ↔ log = [] := by
  unfold specHealth health
  simp only [lastN_eq_nil _ _ bufferSize_pos]
  by_cases hw : log = []
  · simp [hw, toStatus]
  · simp only [hw, if_false, iff_false]
    split <;> simp [toStatus]

theorem status_unknown_iff (t : Tracker) (log : List Bool) (h : Refines t log) :
    t.status = .unknown ↔ log = [] := by
  rw [C20_status t log h]; exact specHealth_unknown_iff log

structure PoolRefines (p : Pool) (s : SP) : Prop where
  tr : Refines p.t s.log
  present : p.present = true
  cond : condSpec p.cond = s.cond
  condGen : p.condGen = p.gen
  classObs : p.classObs = p.classGen
  /-- the NodeClass generation the specification speaks about is the one of the NodeClass object -/
  classGen : p.classGen = s.classGen
  nonempty : s.cond ≠ .unknown → s.log ≠ []

theorem hydrate_idle (p : Pool) (s : SP) (h : PoolRefines p s) : hydrate p = p.t := by
  unfold hydrate
  split
  next hs =>
    -- an empty window goes with the condition Unknown (`nonempty`): nothing to hydrate from
    have hc : condSpec p.cond = .unknown := by
      rw [h.cond]
      exact Classical.byContradiction fun hc => h.nonempty hc ((status_unknown_iff _ _ h.tr).mp hs)
    cases hp : p.cond <;> simp [hp, condSpec] at hc ⊢
  next => rfl

theorem hydrate_refines (p : Pool) (log : List Bool) (h : Refines p.t log) : ∃ log', Refines (hydrate p) log' := by
  fun_cases hydrate p with
  | case1 => exact ⟨_, refines_step p.t log (.set .healthy) h⟩
  | case2 => exact ⟨_, refines_step p.t log (.set .unhealthy) h⟩
  | case3 => exact ⟨_, h⟩
  | case4 => exact ⟨_, h⟩

theorem needsReset_idle (p : Pool) (s : SP) (h : PoolRefines p s) : needsReset p = false := by
  simp [needsReset, h.present, h.condGen, h.classObs]

theorem reconcile_idle (p : Pool) (s : SP) (h : PoolRefines p s) : reconcile p = p := by
  unfold reconcile
  simp only [needsReset_idle p s h, hydrate_idle p s h]
  have := h.classObs
  cases p
  simp_all

theorem reconcile_reset (p : Pool) (log : List Bool) (h : Refines p.t log) (hr : needsReset p = true) :
    PoolRefines (reconcile p) (Karp.Spec.PoolHealth.S.forget p.classGen) := by
  unfold reconcile
  simp only [hr, if_true]
  obtain ⟨log', hl⟩ := hydrate_refines p log h
  exact ⟨refines_reset _ _ hl, rfl, rfl, rfl, rfl, rfl, by simp [Karp.Spec.PoolHealth.S.forget]⟩

theorem started_refines : PoolRefines Pool.started Karp.Spec.PoolHealth.S.init :=
  reconcile_reset Pool.created [] refines_new (by decide)

/-! ### The lifecycle controller looking at one NodeClaim: what an attempt leaves of the pool

`Karp.PoolHealth.step` plays every attempt through `Controller.Reconcile` (sub-reconcilers in the
order of the source, `Karp.Gen.Health.lifecycleOrder`), once per look and once more after a failed
NodePool call.  `Karp/Proofs/PoolHealthLemmas.lean` computes it (`attempt_once`); below, the facts about the source
that the model's order of calls rests on. -/

/-- the sub-reconcilers run in an order in which registration sees the Node before liveness judges the
    timeouts (a NodeClaim whose Node has joined is a success however late the controller looks) -/
theorem fact_registration_before_liveness :
    Karp.Gen.Health.lifecycleOrder.idxOf "registration" < Karp.Gen.Health.lifecycleOrder.idxOf "liveness" ∧
    Karp.Gen.Health.lifecycleOrder.idxOf "liveness" < Karp.Gen.Health.lifecycleOrder.length := by decide

/-- `Liveness.updateNodePoolRegistrationHealth` records the failure after the status patch went through, in
    place (not deferred): a failed patch returns before it, and the retry records the attempt — once -/
theorem fact_liveness_records_after_patch :
    Karp.Gen.Health.livenessHealthCalls = ["kubeClient.Get", "DryRun", "Patch", "Update"] := rfl

theorem fact_registration_records_after_patch :
    Karp.Gen.Health.registrationHealthCalls = ["kubeClient.Get", "DryRun", "SetTrue", "Patch", "Update"] := rfl

/-- each timeout branch of `Liveness.Reconcile` records, then deletes -/
theorem fact_liveness_branches :
    Karp.Gen.Health.livenessCalls = ["updateNodePoolRegistrationHealth", "deleteNodeClaimForTimeout",
      "updateNodePoolRegistrationHealth", "deleteNodeClaimForTimeout"] := rfl

/-- `Registration.Reconcile` marks the NodeClaim Registered BEFORE it updates the NodePool — the order
    behind finding `C20-success-lost-on-nodepool-api-failure` (the model's `registrationStep` follows it) -/
theorem fact_registered_before_counted :
    Karp.Gen.Health.registrationCalls = ["SetTrue", "updateNodePoolRegistrationHealth"] := rfl

/-- every controller that writes a NodePool's `status.conditions` (nodepool.readiness, nodepool.registrationhealth,
    nodepool.validation, and the two `updateNodePoolRegistrationHealth` of the lifecycle controller) issues exactly one
    status patch and builds it with the optimistic lock: a JSON merge patch replaces the condition list as a whole, so
    a writer working from an out-of-date NodePool must be answered 409 instead of writing an old
    `NodeRegistrationHealthy` back (the model treats those writers as `Ev.noise`; c20.pool's Y events replay
    nodepool.readiness from lagging copies on the real controller) -/
theorem fact_condition_writers_optimistic_lock :
    Karp.Gen.Health.conditionWriters.length = 5 ∧
    Karp.Gen.Health.conditionWriters.all (fun w => w.2 == ["optimistic-lock"]) = true := by decide

/-- a NodeClaim whose Node has joined counts as ONE success also when the
    controller looks at it only after the registration (and launch) timeout: registration runs before
    liveness, and liveness leaves a Registered NodeClaim alone. -/
theorem C20_pool_late_success_once (p : Pool) (f : Fault) :
    Karp.PoolHealth.step p (.lateSuccess f) = Karp.PoolHealth.step p (.success f) := by
  rw [step_success]; exact attempt_once p true [] [] .joinedLate f (by decide) (by decide)

/-- looking at the NodeClaim before its Node joins and again after it is
    Registered records nothing: the attempt counts once. -/
theorem C20_pool_slow_success_once (p : Pool) (f : Fault) :
    Karp.PoolHealth.step p (.slowSuccess f) = Karp.PoolHealth.step p (.success f) := by
  rw [step_success]; exact attempt_once p true [.waiting, .waiting] [.joined, .joined] .joined f (by decide) (by decide)

/-- a failed launch occupies exactly one slot of the window whatever
    NodePool call failed while it was being recorded: the failing pass returns before `Update` and before
    the NodeClaim is deleted, the retry records it, and nothing records it a second time.  Holds for every
    pool state (no invariant needed) and for the three ways a launch fails. -/
theorem C20_pool_failure_fault_invisible (p : Pool) (f : Fault) :
    Karp.PoolHealth.step p (.failure f) = Karp.PoolHealth.step p (.failure .none) ∧
    Karp.PoolHealth.step p (.launchFailure f) = Karp.PoolHealth.step p (.launchFailure .none) ∧
    Karp.PoolHealth.step p (.lateFailure f) = Karp.PoolHealth.step p (.lateFailure .none) := by
  simp only [step_failure, step_launchFailure, step_lateFailure, and_self]

theorem outcome_refines (p : Pool) (s : SP) (h : PoolRefines p s) (ok set : Bool) (c : Cond) (sc : SC)
    (hc : condSpec c = sc) :
    PoolRefines { p with present := p.present || set, cond := c, condGen := if set then p.gen else p.condGen,
                         t := p.t.update ok }
      { s with log := s.log ++ [ok], cond := sc } :=
  ⟨refines_insert _ _ _ h.tr, by simp [h.present], hc, by simp [h.condGen], h.classObs, h.classGen, by simp⟩

theorem registered_refines (p : Pool) (s : SP) (h : PoolRefines p s) :
    PoolRefines (registered p) (Karp.Spec.PoolHealth.recordSuccess s) := by
  refine outcome_refines p s h true _ _ _ ?_
  simp only [recordSuccess, dry_status p.t s.log true h.tr, specHealth_eq, ← h.cond]
  cases Karp.Spec.PoolHealth.healthOf (s.log ++ [true]) <;> simp [toStatus, condSpec]

theorem timedOut_refines (p : Pool) (s : SP) (h : PoolRefines p s) :
    PoolRefines (timedOut p) (Karp.Spec.PoolHealth.recordFailure s) := by
  refine outcome_refines p s h false _ _ _ ?_
  simp only [recordFailure, dry_status p.t s.log false h.tr, specHealth_eq, ← h.cond]
  cases Karp.Spec.PoolHealth.healthOf (s.log ++ [false]) <;> cases p.cond <;> simp [toStatus, condSpec]

theorem lostSuccess_patch (p : Pool) (s : SP) (h : PoolRefines p s) :
    Karp.Spec.PoolHealth.lostSuccess s .patch = patchTrue p := by
  simp only [Karp.Spec.PoolHealth.lostSuccess, patchTrue, dry_status p.t s.log true h.tr, specHealth_eq, h.present,
    h.condGen, ← h.cond]
  cases Karp.Spec.PoolHealth.healthOf (s.log ++ [true]) <;> cases p.cond <;> simp [toStatus, condSpec]

/-- a registration under fault `f`: either counted as the specification says, or — the known deviation —
    not at all -/
theorem registeredF_refines (p : Pool) (s : SP) (f : Fault) (h : PoolRefines p s) :
    PoolRefines (registeredF p f) (Karp.Spec.PoolHealth.stepKnown s (.success f)) := by
  cases f with
  | none => exact registered_refines p s h
  | get => exact h
  | patch =>
    simp only [registeredF, Karp.Spec.PoolHealth.stepKnown, Karp.Spec.PoolHealth.lost, lostSuccess_patch p s h]
    split
    · exact h
    · exact registered_refines p s h

theorem reconcileF_refines (p : Pool) (log : List Bool) (f : Fault) (h : Refines p.t log) (hr : needsReset p = true) :
    PoolRefines (reconcileF p f) (Karp.Spec.PoolHealth.S.forget p.classGen) := by
  fun_cases reconcileF p f with
  | case1 =>
    -- the failed patch left the pool as it was, with the tracker already reset: the retry resets again
    obtain ⟨log', hl⟩ := hydrate_refines p log h
    exact reconcile_reset _ [] (refines_reset _ _ hl) hr
  | case2 => exact reconcile_reset p log h hr

/-- an idle reconcile changes nothing whatever fault is armed (no patch is issued); in particular when the NodeClass
    object is replaced by one that carries the generation observed before -/
theorem reconcileF_idle (p : Pool) (s : SP) (f : Fault) (h : PoolRefines p s) : reconcileF p f = p := by
  simp [reconcileF, needsReset_idle p s h, reconcile_idle p s h]

theorem tracker_new_unknown : Tracker.new.status = .unknown := by decide

/-- a restart: the new tracker is hydrated from the persisted condition, the specification's log from the
    condition the operator reads -/
theorem restart_refines (p : Pool) (s : SP) (h : PoolRefines p s) :
    PoolRefines (reconcile { p with t := Tracker.new }) (Karp.Spec.PoolHealth.step s .restart) := by
  have hn : needsReset { p with t := Tracker.new } = false := needsReset_idle p s h
  simp only [Karp.Spec.PoolHealth.step, reconcile, hn]
  refine ⟨?_, h.present, h.cond, h.condGen, rfl, h.classGen, ?_⟩
  · simp only [← h.cond, hydrate, tracker_new_unknown, h.present, if_true, true_and]
    cases p.cond
    · exact refines_new
    · exact refines_step Tracker.new [] (.set .healthy) refines_new
    · exact refines_step Tracker.new [] (.set .unhealthy) refines_new
  · show s.cond ≠ .unknown → _
    cases s.cond
    · exact fun hne => absurd rfl hne
    · exact fun _ => List.cons_ne_nil _ _
    · exact fun _ => (by decide : List.replicate seedFailures false ≠ [])

/-- every event (any timing of the controller's looks, any failed NodePool call
    followed by its retry) keeps the controllers' view in step with the operator-level specification,
    except that a registration whose NodePool call failed is not counted (`Spec.PoolHealth.stepKnown`).

    The property asks for more, and that FAILS (finding `C20-success-lost-on-nodepool-api-failure`,
    witness `C20_pool_success_lost` below, replayed on the real controllers by corpus/c20.pool):

      theorem C20_pool_step (p : Pool) (s : SP) (e : Ev) (h : PoolRefines p s) :
          PoolRefines (Karp.PoolHealth.step p e) (Karp.Spec.PoolHealth.step s e)

    `C20_pool_step_partial` is that statement for every event the deviation does not concern. -/
theorem C20_pool_step_known (p : Pool) (s : SP) (e : Ev) (h : PoolRefines p s) :
    PoolRefines (Karp.PoolHealth.step p e) (Karp.Spec.PoolHealth.stepKnown s e) := by
  cases e with
  | success f => rw [step_success]; exact registeredF_refines p s f h
  | lateSuccess f => rw [C20_pool_late_success_once, step_success]; exact registeredF_refines p s f h
  | slowSuccess f => rw [C20_pool_slow_success_once, step_success]; exact registeredF_refines p s f h
  | failure f => rw [step_failure]; exact timedOut_refines p s h
  | launchFailure f => rw [step_launchFailure]; exact timedOut_refines p s h
  | lateFailure f => rw [step_lateFailure]; exact timedOut_refines p s h
  | noise => exact h
  | resync => rw [Karp.PoolHealth.step, reconcile_idle p s h]; exact h
  | poolEdit f =>
    show PoolRefines _ (Karp.Spec.PoolHealth.S.forget s.classGen)
    rw [← h.classGen]
    exact reconcileF_refines { p with gen := p.gen + 1 } s.log f h.tr (by simp [needsReset, h.condGen])
  | classEdit f =>
    show PoolRefines _ (Karp.Spec.PoolHealth.S.forget (s.classGen + 1))
    rw [← h.classGen]
    exact reconcileF_refines { p with classGen := p.classGen + 1 } s.log f h.tr (by simp [needsReset, h.classObs])
  | classReplace g f =>
    simp only [Karp.Spec.PoolHealth.stepKnown, Karp.Spec.PoolHealth.lost, Karp.Spec.PoolHealth.step,
      Bool.false_eq_true, if_false, ← h.classGen]
    split
    next hg =>
      -- a NodeClass object with the generation observed before: nothing to see, whatever fault is armed
      rw [hg]
      show PoolRefines (reconcileF p f) s
      rw [reconcileF_idle p s f h]
      exact h
    next hg =>
      exact reconcileF_refines { p with classGen := g } s.log f h.tr (by simp [needsReset, h.classObs, Ne.symm hg])
  | restart => exact restart_refines p s h

/-- the refinement to the specification as the property states it, for every
    event that is not a registration whose NodePool call failed. -/
theorem C20_pool_step_partial (p : Pool) (s : SP) (e : Ev) (h : PoolRefines p s)
    (hl : Karp.Spec.PoolHealth.lost s e = false) :
    PoolRefines (Karp.PoolHealth.step p e) (Karp.Spec.PoolHealth.step s e) := by
  have := C20_pool_step_known p s e h
  simpa [Karp.Spec.PoolHealth.stepKnown, hl] using this

/-- the negation of the full statement on concrete witnesses: a pool that saw
    two failed launches and two registrations (condition False, window F,F,T,T) and then a third
    registration whose status patch (the one that would set the condition True) conflicts: the window must be
    F,T,T,T and the condition True; the controllers leave F,F,T,T and False.  And a fresh pool whose first
    registration meets a failing `Get`: nothing is recorded at all. -/
theorem C20_pool_success_lost :
    Karp.PoolHealth.observations Pool.started
        [.failure .none, .failure .none, .success .none, .success .none, .success .patch]
      ≠ Karp.Spec.PoolHealth.observations .init
        [.failure .none, .failure .none, .success .none, .success .none, .success .patch]
    ∧ Karp.PoolHealth.observations Pool.started [.success .get] = [[0, 0, 1, 1]]
    ∧ Karp.Spec.PoolHealth.observations .init [.success .get] = [[1, 1, 1, 1]] := by
  simp only [Karp.PoolHealth.observations, step_success, step_failure]
  decide

theorem condCode_eq (p : Pool) (s : SP) (h : PoolRefines p s) :
    condCode p = Karp.Spec.PoolHealth.condCode s.cond := by
  simp only [condCode, h.present, ← h.cond]
  cases p.cond <;> rfl

theorem pool_observe_eq (p : Pool) (s : SP) (h : PoolRefines p s) :
    Karp.PoolHealth.observe p = Karp.Spec.PoolHealth.observe s := by
  simp only [Karp.PoolHealth.observe, Karp.Spec.PoolHealth.observe, condCode_eq p s h,
    C20_status _ _ h.tr, dry_status _ _ _ h.tr, specHealth_eq, healthCode_toStatus]

/-- refinement, all event sequences of any length: the persisted
    condition, the tracker status and both what-if verdicts observed after every event equal what the
    operator-level specification prescribes once the registrations that met a failing NodePool call are
    taken out of the script — the controllers deviate from the property in this one way and in no other. -/
theorem C20_pool_observations_known (es : List Ev) :
    ∀ (p : Pool) (s : SP), PoolRefines p s →
      Karp.PoolHealth.observations p es = Karp.Spec.PoolHealth.observationsKnown s es := by
  induction es with
  | nil => intro p s _; rfl
  | cons e es ih =>
    intro p s h
    have hstep := C20_pool_step_known p s e h
    simp only [Karp.PoolHealth.observations, Karp.Spec.PoolHealth.observationsKnown]
    rw [ih _ _ hstep, pool_observe_eq _ _ hstep]

theorem observationsKnown_noLoss (es : List Ev) :
    ∀ s : SP, Karp.Spec.PoolHealth.noLoss s es = true →
      Karp.Spec.PoolHealth.observationsKnown s es = Karp.Spec.PoolHealth.observations s es := by
  induction es with
  | nil => intro s _; rfl
  | cons e es ih =>
    intro s h
    simp only [Karp.Spec.PoolHealth.noLoss, Bool.and_eq_true, Bool.not_eq_true'] at h
    simp only [Karp.Spec.PoolHealth.observationsKnown, Karp.Spec.PoolHealth.observations,
      Karp.Spec.PoolHealth.stepKnown, h.1, Bool.false_eq_true, if_false]
    rw [ih _ h.2]

/-- the property as stated (full statement: the same without `hl`; it
    fails, see `C20_pool_success_lost`): along every script in which no registration meets a failing
    NodePool call — whatever the timing of the controller's looks, whatever faults the failed launches and
    the edits meet — every observation equals what the specification prescribes. -/
theorem C20_pool_observations_partial (es : List Ev) (p : Pool) (s : SP) (h : PoolRefines p s)
    (hl : Karp.Spec.PoolHealth.noLoss s es = true) :
    Karp.PoolHealth.observations p es = Karp.Spec.PoolHealth.observations s es := by
  rw [C20_pool_observations_known es p s h, observationsKnown_noLoss es s hl]

theorem C20_pool_observations_from_start_partial (es : List Ev)
    (hl : Karp.Spec.PoolHealth.noLoss .init es = true) :
    Karp.PoolHealth.observations Pool.started es = Karp.Spec.PoolHealth.observations .init es :=
  C20_pool_observations_partial es _ _ started_refines hl

theorem C20_pool_run_known (es : List Ev) :
    ∀ (p : Pool) (s : SP), PoolRefines p s →
      PoolRefines (Karp.PoolHealth.run p es) (Karp.Spec.PoolHealth.runKnown s es) := by
  induction es with
  | nil => intro p s h; exact h
  | cons e es ih => intro p s h; exact ih _ _ (C20_pool_step_known p s e h)

theorem forgotten (p : Pool) (s : SP) (h : PoolRefines p s) (hc : s.cond = .unknown) (hl : s.log = []) :
    p.t.status = .unknown ∧ condCode p = 0 := by
  refine ⟨(status_unknown_iff _ _ h.tr).mpr hl, ?_⟩
  rw [condCode_eq p s h, hc]
  rfl

theorem run_snoc (es : List Ev) (e : Ev) : ∀ p : Pool,
    Karp.PoolHealth.run p (es ++ [e]) = Karp.PoolHealth.step (Karp.PoolHealth.run p es) e := by
  induction es with
  | nil => intro p; rfl
  | cons x xs ih => intro p; exact ih _

/-- whatever happened before (any events, in particular outcomes recorded
    while the condition was still Unknown, lost registrations, faults), after a NodePool or NodeClass edit —
    also one whose status patch failed and was retried — the window is empty and the condition Unknown. -/
theorem C20_pool_edit_forgets (es : List Ev) (e : Ev) (he : (∃ f, e = .poolEdit f) ∨ (∃ f, e = .classEdit f)) :
    let p := Karp.PoolHealth.run Pool.started (es ++ [e])
    p.t.status = .unknown ∧ condCode p = 0 := by
  intro p
  have h := C20_pool_step_known _ _ e (C20_pool_run_known es _ _ started_refines)
  rw [← run_snoc] at h
  -- the specification's step for an edit is `S.forget`
  rcases he with ⟨f, rfl⟩ | ⟨f, rfl⟩ <;> exact forgotten p _ h rfl rfl

/-- the NodeClass a pool launches with is replaced by an object of ANY other
    generation — higher or LOWER than the one observed (deleted and re-created under its name: generation 1
    again), with or without a failing status patch — : the window is empty and the condition Unknown
    afterwards, and the launches that follow are judged on their own (`C20_pool_observations_known` from the
    state reached).  A replacement carrying the observed generation changes nothing. -/
theorem C20_pool_replace_forgets (p : Pool) (s : SP) (g : Nat) (f : Fault) (h : PoolRefines p s) :
    let q := Karp.PoolHealth.step p (.classReplace g f)
    (g ≠ s.classGen → q.t.status = .unknown ∧ condCode q = 0 ∧ q.classObs = g ∧
        PoolRefines q (Karp.Spec.PoolHealth.S.forget g)) ∧
    (g = s.classGen → q = p) := by
  intro q
  have hk : PoolRefines q (Karp.Spec.PoolHealth.stepKnown s (.classReplace g f)) := C20_pool_step_known p s _ h
  constructor
  · intro hg
    have hq : PoolRefines q (Karp.Spec.PoolHealth.S.forget g) := by
      simpa [Karp.Spec.PoolHealth.stepKnown, Karp.Spec.PoolHealth.lost, Karp.Spec.PoolHealth.step, hg] using hk
    refine ⟨(forgotten q _ hq rfl rfl).1, (forgotten q _ hq rfl rfl).2, ?_, hq⟩
    rw [hq.classObs, hq.classGen]
    rfl
  · intro hg
    have hgp : g = p.classGen := by rw [h.classGen]; exact hg
    subst hgp
    exact reconcileF_idle p s f h

/-- the reset guard compares for INEQUALITY: a NodeClass generation below the observed one resets as well
    (`needsReset` is the model of the guard; c20.pool's D events replay it on the real controller) -/
theorem C20_pool_guard_lower_generation (p : Pool) (h : p.classGen < p.classObs) : needsReset p = true := by
  simp only [needsReset, Bool.or_eq_true, bne_iff_ne, ne_eq]
  exact Or.inl (Or.inr (by omega))

/-- a success or a failure is recorded whatever the condition says
    (in particular a success while it is already True), however late the controller looks and whatever
    NodePool call fails while a FAILURE is recorded: the window afterwards is the old log plus that
    outcome. -/
theorem C20_pool_outcome_enters_window (p : Pool) (s : SP) (f : Fault) (h : PoolRefines p s) :
    Refines (Karp.PoolHealth.step p (.success .none)).t (s.log ++ [true]) ∧
    Refines (Karp.PoolHealth.step p (.lateSuccess .none)).t (s.log ++ [true]) ∧
    Refines (Karp.PoolHealth.step p (.failure f)).t (s.log ++ [false]) ∧
    Refines (Karp.PoolHealth.step p (.launchFailure f)).t (s.log ++ [false]) ∧
    Refines (Karp.PoolHealth.step p (.lateFailure f)).t (s.log ++ [false]) :=
  ⟨(C20_pool_step_partial p s _ h rfl).tr, (C20_pool_step_partial p s _ h rfl).tr,
   (C20_pool_step_partial p s _ h rfl).tr, (C20_pool_step_partial p s _ h rfl).tr,
   (C20_pool_step_partial p s _ h rfl).tr⟩

/-! non-vacuity: concrete scripts through every branch -/
example : Karp.PoolHealth.observations Pool.started
    [.success .none, .failure .none, .success .none, .success .none, .success .none, .failure .none]
    = [[1,1,1,1],[1,1,1,2],[1,1,1,2],[1,1,1,2],[1,1,1,1],[1,1,1,2]] := by
  simp only [Karp.PoolHealth.observations, step_success, step_failure]; rfl
example : Karp.PoolHealth.observations Pool.started
    [.failure .none, .classEdit .none, .failure .none, .failure .none, .restart, .success .none, .poolEdit .none]
    = [[0,1,1,2],[0,0,1,1],[0,1,1,2],[2,2,2,2],[2,2,2,2],[2,2,2,2],[0,0,1,1]] := by
  simp only [Karp.PoolHealth.observations, step_success, step_failure]; rfl
example : Karp.PoolHealth.observe Pool.created = [3,0,1,1] := by rfl
/-- the repaired defect (fix: Liveness.Reconcile returns after its launch-timeout branch): one late launch
    failure is one failure -/
example : Karp.PoolHealth.observations Pool.started [.lateFailure .none] = [[0, 1, 1, 2]] := by
  simp only [Karp.PoolHealth.observations, step_lateFailure]; rfl
/-- the failure that turns the pool False meets a conflicting status patch (F,T,F! then T,T): one slot, the
    pool recovers after two registrations -/
example : Karp.PoolHealth.observations Pool.started
    [.failure .none, .success .none, .failure .patch, .success .none, .success .none]
    = [[0,1,1,2],[1,1,1,2],[2,2,2,2],[2,2,1,2],[1,1,1,2]] := by
  simp only [Karp.PoolHealth.observations, step_success, step_failure]; rfl
/-- late and repeatedly seen registrations; an edit whose patch fails -/
example : Karp.PoolHealth.observations Pool.started
    [.failure .get, .lateSuccess .none, .slowSuccess .none, .slowSuccess .none, .launchFailure .patch, .classEdit .patch, .lateSuccess .none]
    = [[0,1,1,2],[1,1,1,2],[1,1,1,2],[1,1,1,1],[1,1,1,2],[0,0,1,1],[1,1,1,1]] := by
  simp only [Karp.PoolHealth.observations, C20_pool_late_success_once, C20_pool_slow_success_once, step_success,
    step_failure, step_launchFailure]; rfl
/-- a NodeClass that was edited twice (generation 3) is deleted and re-created (generation 1) while the pool is
    False: Unknown, empty window; the next launches are judged on their own; a second replacement with the same
    generation changes nothing -/
example : Karp.PoolHealth.observations Pool.started
    [.classEdit .none, .classEdit .none, .failure .none, .failure .none, .classReplace 1 .patch, .success .none,
     .classReplace 1 .none, .failure .none]
    = [[0,0,1,1],[0,0,1,1],[0,1,1,2],[2,2,2,2],[0,0,1,1],[1,1,1,1],[1,1,1,1],[1,1,1,2]] := by
  simp only [Karp.PoolHealth.observations, step_success, step_failure]; rfl
example : PoolRefines (Karp.PoolHealth.run Pool.started [.classEdit .none, .failure .none, .failure .none])
    (Karp.Spec.PoolHealth.runKnown .init [.classEdit .none, .failure .none, .failure .none]) ∧
    (1 : Nat) ≠ (Karp.Spec.PoolHealth.runKnown .init [.classEdit .none, .failure .none, .failure .none]).classGen :=
  ⟨C20_pool_run_known _ _ _ started_refines, by decide⟩
/-- the hypothesis of the `_partial` theorems is met by scripts with faults and odd timing -/
example : Karp.Spec.PoolHealth.noLoss .init
    [.failure .patch, .lateSuccess .none, .failure .get, .success .patch, .slowSuccess .none, .poolEdit .patch] = true := by decide

end Karp.C20
