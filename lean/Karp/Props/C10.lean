/-
C10 — Drain honours PDBs, do-not-disrupt and ordering until the deadline.

Property theorems only (helper lemmas live in `Karp/Proofs/Drain.lean`).
Model: `Karp/Model/Drain.lean` (pod predicates, `needsForceDelete`, eviction `Queue`, `Terminator.Drain`,
        histories against the emulated API server).
Spec:  `Karp/Spec/Drain.lean` (what an observer may see of one step, restated from the property text).
-/
import Karp.Proofs.Drain
import Karp.Model.Rfc3339

namespace Karp.C10
open Karp.Drain Karp.Spec.Drain
open Karp.Gen

/-! ## Fact expectations over the regenerated constants, tables and call orders -/

/-- a terminating pod stops holding up the drain strictly more than one minute after its deletionTimestamp -/
theorem fact_stuck_buffer :
    C10Drain.stuckTerminatingNs = 60 * 1000000000 ∧ C10Drain.stuckTerminatingOp = ">" := ⟨rfl, rfl⟩

/-- "never with a zero grace period": the clamp of the force-delete grace period is at least one second -/
theorem fact_min_grace : C10Drain.forceDeleteMinGraceSeconds = 1 := rfl

/-- the threshold test is `now.After(deadline − grace)` with the grace period subtracted once -/
theorem fact_threshold_compare :
    C10Drain.needsForceDeleteCompare = "clk.Now().After(deleteTime)" ∧
    C10Drain.needsForceDeleteCompareMultipliers = ["-1"] := ⟨rfl, rfl⟩

/-- Kubernetes graceful-shutdown order: non-critical non-daemon, non-critical daemon, critical non-daemon,
    critical daemon -/
theorem fact_tier_order :
    C10Drain.tierOrder = [(false, false), (false, true), (true, false), (true, true)] := rfl

theorem fact_critical_classes :
    C10Drain.criticalPriorityClasses = ["system-cluster-critical", "system-node-critical"] := rfl

theorem fact_owner_kinds :
    C10Drain.daemonSetOwner = ("apps/v1", "DaemonSet") ∧ C10Drain.nodeOwner = ("v1", "Node") := ⟨rfl, rfl⟩

theorem fact_annotation_and_taint :
    C10Drain.doNotDisruptAnnotationKey = "karpenter.sh/do-not-disrupt" ∧
    C10Drain.disruptedNoScheduleTaintKey = "karpenter.sh/disrupted" ∧
    C10Drain.disruptedNoScheduleTaintValue = "" ∧
    C10Drain.disruptedNoScheduleTaintEffect = "NoSchedule" := ⟨rfl, rfl, rfl, rfl⟩

/-- the conjuncts of the pod predicates the model transcribes -/
theorem fact_predicate_structure :
    C10Drain.isActiveConjuncts = ["!IsTerminal", "!IsTerminating"] ∧
    C10Drain.isEvictableConjuncts = ["IsActive", "!ToleratesDisruptedNoScheduleTaint", "!IsOwnedByNode", "!IsDoNotDisruptActive"] ∧
    C10Drain.isDrainableConjuncts = ["!ToleratesDisruptedNoScheduleTaint", "!IsStuckTerminating", "!IsOwnedByNode"] ∧
    C10Drain.isWaitingEvictionConjuncts = ["!IsTerminal", "IsDrainable"] ∧
    C10Drain.isForcedEvictionEligibleConjuncts = ["nodeGracePeriodExpirationTime != nil", "IsTerminating", "DeletionTimestamp.After"] := ⟨rfl, rfl, rfl, rfl, rfl⟩

/-- `Reconcile` decides in this order: force-delete test, terminal/terminating, evictable, evict -/
theorem fact_reconcile_order :
    C10Drain.reconcileCalls = ["needsForceDelete", "forceDelete", "IsActive", "complete", "IsEvictable", "evict"] := rfl

/-- `Drain` only filters, splits, groups and enqueues: it contains no `Delete`/`Create` call -/
theorem fact_drain_only_enqueues :
    C10Drain.drainCalls = ["IsWaitingEviction", "needsForceDelete", "Add", "groupPodsByPriority", "Add"] := rfl

/-- `evict` goes through the eviction sub-resource and never calls `Delete`; `forceDelete` is the only `Delete` -/
theorem fact_removal_calls :
    C10Drain.evictCalls = ["Create", "SubResource", "complete", "complete"] ∧
    C10Drain.forceDeleteCalls = ["Delete", "complete", "complete"] ∧
    C10Drain.awaitDrainCalls = ["Drain", "SetTrue"] := ⟨rfl, rfl, rfl⟩

/-- the termination controller takes the node deadline from the NodeClaim's termination-timestamp annotation,
    read as an RFC 3339 timestamp; each guarded return of `nodeTerminationTime` (no NodeClaim, no annotation,
    unreadable annotation) hands back NO deadline, the unreadable case together with an error, and only the final
    return hands back the parsed instant -/
theorem fact_deadline_source :
    C10Drain.terminationTimestampAnnotationKey = "karpenter.sh/nodeclaim-termination-timestamp" ∧
    C10Drain.terminationTimestampLayout = "2006-01-02T15:04:05Z07:00" ∧
    C10Drain.nodeTerminationTimeAssigns =
      [("expirationTimeString, exists", "nodeClaim.Annotations[v1.NodeClaimTerminationTimestampAnnotationKey]"),
       ("expirationTime, err", "time.Parse(time.RFC3339, expirationTimeString)")] ∧
    C10Drain.nodeTerminationTimeReturns =
      [("nodeClaim == nil", "nil", "nil"), ("!exists", "nil", "nil"), ("err != nil", "nil", "error"),
       ("", "&expirationTime", "nil")] := ⟨rfl, rfl, rfl, rfl⟩

/-- `finalize` determines the deadline (returning its error) before it taints or drains -/
theorem fact_deadline_before_drain :
    C10Drain.finalizeCalls.take 2 = ["nodeTerminationTime", "Taint"] := rfl

/-! ## One reconcile of the eviction queue: all queues, pods, clocks and API answers -/

/-- **C10_evict_only_evictable** — whenever a reconcile sends an eviction it is for the reconciled pod, the pod
    is queued, and the pod is active, not static, does not tolerate the disruption taint and has no active
    do-not-disrupt annotation (`mayEvict`, the specification's reading); moreover the pod is not past its
    force-delete threshold. -/
theorem C10_evict_only_evictable (q : Items) (p : Pod) (now : Int) (ea : EvictAns) (da : DeleteAns) (u : Nat)
    (h : (reconcile q p now ea da).1 = some (.evict u)) :
    u = p.uid ∧ (∃ D, qget q p.uid = some D ∧ needsForceDelete p D now = false) ∧ mayEvict p now = true := by
  obtain ⟨D, hD, ⟨_, e⟩ | ⟨hf, he, e⟩⟩ := (reconcile_cases q p now ea da).2 _ h <;> cases e
  exact ⟨rfl, ⟨D, hD, hf⟩, isEvictable_eq_mayEvict p now ▸ he⟩

/-- what `mayEvict` says, spelled out -/
theorem C10_mayEvict_iff (p : Pod) (now : Int) :
    mayEvict p now = true ↔
      p.terminal = false ∧ p.del = none ∧ p.static = false ∧ p.tolerates = false ∧ protectedNow p now = false := by
  simp only [mayEvict, untouchable, Bool.and_eq_true, Bool.not_eq_true', Bool.or_eq_false_iff,
    Option.isNone_iff_eq_none, and_assoc]

/-- **C10_no_deadline_no_delete** — a pod queued without a node deadline (the NodeClaim has no termination grace
    period), or not queued at all, is never deleted directly: the only removal request is an eviction, so
    PodDisruptionBudgets apply. -/
theorem C10_no_deadline_no_delete (q : Items) (p : Pod) (now : Int) (ea : EvictAns) (da : DeleteAns)
    (hq : qget q p.uid = some none ∨ qget q p.uid = none) (u : Nat) (g : Int) :
    (reconcile q p now ea da).1 ≠ some (.delete u g) := by
  intro h
  obtain ⟨D, hD, ⟨hf, _⟩ | ⟨_, _, e⟩⟩ := (reconcile_cases q p now ea da).2 _ h
  · rcases hq with hq | hq <;> rw [hq] at hD <;> cases hD
    cases hf
  · cases e

/-- **C10_force** — whenever a reconcile deletes a pod directly: the pod is queued under a node deadline `d`
    (so the NodeClaim has a termination grace period); the grace period sent is at least one second; an
    already terminating pod is only re-deleted if its deletionTimestamp lies after `d`, a running pod only
    strictly after `d − terminationGracePeriodSeconds`; and the grace period granted ends by `d` (or is the
    one-second minimum) — the pod is handled under the deadline it is queued under, not a later one. -/
theorem C10_force (q : Items) (p : Pod) (now : Int) (ea : EvictAns) (da : DeleteAns) (u : Nat) (g : Int)
    (h : (reconcile q p now ea da).1 = some (.delete u g)) :
    u = p.uid ∧ ∃ d, qget q p.uid = some (some d) ∧ 1 ≤ g ∧
      (match p.del with
       | some dt => d < dt
       | none => ∃ gr, p.grace = some gr ∧ d - gr * sec < now) ∧
      (now + g * sec ≤ d ∨ g = 1) := by
  obtain ⟨D, hD, ⟨hf, e⟩ | ⟨_, _, e⟩⟩ := (reconcile_cases q p now ea da).2 _ h <;> cases e
  cases D with
  | none => cases hf
  | some d =>
    refine ⟨rfl, d, hD, forceGrace_ge_one _ _, ?_, forceGrace_within _ _⟩
    unfold needsForceDelete at hf
    cases hd : p.del with
    | some dt => simpa [hd] using hf
    | none =>
      cases hg : p.grace with
      | none => simp [hd, hg] at hf
      | some gr => exact ⟨gr, rfl, by simpa [hd, hg] using hf⟩

/-- **C10_reconcile_meets_spec** — every reconcile (any queue, pod, clock, API answers) is one the specification
    permits: at most one removal request, permitted by `callOK`, and only the reconciled pod's entry may leave
    the queue.  (`strict` adds: never a static or tolerating pod, given that none is queued.) -/
theorem C10_reconcile_meets_spec (q : Items) (p : Pod) (now : Int) (ea : EvictAns) (da : DeleteAns) (strict : Bool)
    (hs : strict = true → (qget q p.uid).isSome = true → untouchable p = false) :
    reconcileOK p now q (reconcile q p now ea da).2.2 (reconcile q p now ea da).1.toList strict = true :=
  reconcile_meets_spec q p now ea da strict hs

/-! ## The queue's deadline: earliest wins, never loosened while queued -/

/-- **C10_add_keeps_earliest** — after `Queue.Add(d, pods)` every given pod is stored under the earlier of its
    previous deadline (none = +∞) and `d`; every other entry is untouched. -/
theorem C10_add_keeps_earliest (q : Items) (d : Option Int) (ks : List Nat) (k : Nat) :
    qget (qaddAll q d ks) k = if k ∈ ks then some (dmin ((qget q k).getD none) d) else qget q k :=
  qget_qaddAll d ks q k

/-- `dmin` is the greatest lower bound in the order "no deadline = +∞" -/
theorem C10_dmin_glb (a b c : Option Int) :
    dle (dmin a b) a = true ∧ dle (dmin a b) b = true ∧ (dle c a = true → dle c b = true → dle c (dmin a b) = true) :=
  ⟨dle_dmin_left a b, dle_dmin_right a b, dle_dmin_of⟩

/-- **C10_deadline_monotone_step** — no step of any history (direct adds, drain passes, reconciles, clock, pod
    changes) moves the stored deadline of a pod that stays queued to a later one or clears it. -/
theorem C10_deadline_monotone_step (s : State) (st : Step) (k : Nat) (e e' : Option Int)
    (h : qget s.q k = some e) (h' : qget (nextState s st).q k = some e') : dle e' e = true := by
  rcases step_entry s st k with e1 | ⟨_, e1⟩ | ⟨d, _, e1, _⟩ <;> rw [e1] at h'
  · rw [h] at h'; cases h'; exact dle_refl _
  · cases h'
  · rw [h] at h'; cases h'; exact dle_dmin_left _ _

/-- **C10_deadline_monotone** — along every history, from every state: if pod `k` is queued in every state the
    run passes through, its stored deadline at the end is no later than at the beginning (and a deadline never
    becomes "none": `dle none (some _) = false`). -/
theorem C10_deadline_monotone (k : Nat) (steps : List Step) (s : State)
    (h : queuedThroughout k s steps = true) :
    ∃ e e', qget s.q k = some e ∧ qget (runState s steps).q k = some e' ∧ dle e' e = true := by
  induction steps generalizing s with
  | nil =>
    obtain ⟨e, he⟩ := Option.isSome_iff_exists.mp h
    exact ⟨e, e, he, he, dle_refl _⟩
  | cons st rest ih =>
    simp only [queuedThroughout, Bool.and_eq_true] at h
    obtain ⟨e, he⟩ := Option.isSome_iff_exists.mp h.1
    obtain ⟨e1, e2, h1, h2, h3⟩ := ih _ h.2
    exact ⟨e, e2, he, h2, dle_trans h3 (C10_deadline_monotone_step s st k e e1 he h1)⟩

/-! ## One drain pass: tiers, who is enqueued, verdict -/

/-- **C10_tiers** — every pod a drain pass hands to the queue is on the node, not finished, not static, not
    tolerating the disruption taint; and it is either past its force-delete threshold (only possible with a node
    deadline), or it belongs to the lowest tier — in the regenerated order of `groupPodsByPriority` — among all
    pods that still await graceful eviction. -/
theorem C10_tiers (pods : List Pod) (D : Option Int) (now : Int) (p : Pod) (h : p ∈ enqueued pods D now) :
    p ∈ pods ∧ p.onNode = true ∧ p.terminal = false ∧ p.static = false ∧ p.tolerates = false ∧
    ((needsForceDelete p D now = true ∧ D ≠ none) ∨
     (needsForceDelete p D now = false ∧
       ∀ p' ∈ pods, (p'.onNode && isWaitingEviction p' now) = true → needsForceDelete p' D now = false →
         rankIn C10Drain.tierOrder (cls p) ≤ rankIn C10Drain.tierOrder (cls p'))) := by
  obtain ⟨hp, hmw, hwhy⟩ := mem_enqueued_iff.mp h
  simp only [needsForceDelete_eq_strictlyPastD, waiting_eq_mustWait]
  simp only [mustWait, untouchable, Bool.and_eq_true, Bool.not_eq_true', Bool.or_eq_false_iff] at hmw
  obtain ⟨⟨⟨hon, hterm⟩, hstatic, htol⟩, _⟩ := hmw
  refine ⟨hp, hon, hterm, hstatic, htol, ?_⟩
  cases hs : strictlyPastD p D now with
  | true => exact Or.inl ⟨rfl, fun hD => by rw [hD] at hs; cases hs⟩
  | false => exact Or.inr ⟨rfl, hwhy.resolve_left (by simp [hs])⟩

/-- **C10_first_tier_first** — in particular a daemon or critical pod is handed to the eviction path only when no
    non-critical non-daemon pod still awaits graceful eviction. -/
theorem C10_first_tier_first (pods : List Pod) (D : Option Int) (now : Int) (p p' : Pod)
    (h : p ∈ enqueued pods D now) (hnf : needsForceDelete p D now = false) (hl : late p = true)
    (hp' : p' ∈ pods) (hw' : (p'.onNode && isWaitingEviction p' now) = true)
    (hnf' : needsForceDelete p' D now = false) : late p' = true := by
  rw [needsForceDelete_eq_strictlyPastD] at hnf hnf'
  rw [waiting_eq_mustWait] at hw'
  have hleast := (mem_enqueued_iff.mp h).2.2.resolve_left (by simp [hnf])
  exact (late_iff_rank p').mpr (Nat.lt_of_lt_of_le ((late_iff_rank p).mp hl) (hleast p' hp' hw' hnf'))

/-- **C10_drain_queue** — the queue after a drain pass, pointwise: enqueued pods are stored under the earlier of
    their previous deadline and the pass's, everything else is untouched (in particular nothing is dropped). -/
theorem C10_drain_queue (q : Items) (pods : List Pod) (D : Option Int) (now : Int) (k : Nat) :
    qget (drain q pods D now).1 k =
      if k ∈ (enqueued pods D now).map (·.uid) then some (dmin ((qget q k).getD none) D) else qget q k :=
  qget_drain q pods D now k

/-- **C10_drain_verdict** — `Drain` reports "still waiting" (a `NodeDrainError`, which stalls node termination)
    exactly when some pod on the node is not finished, not static, not tolerating and not stuck terminating. -/
theorem C10_drain_verdict (q : Items) (pods : List Pod) (D : Option Int) (now : Int) :
    (drain q pods D now).2 = true ↔ ∃ p ∈ pods, mustWait p now = true := by
  rw [drain_verdict, List.any_eq_true]

/-- **C10_drain_meets_spec** — every drain pass (any queue, pod mix, deadline, clock) is one the specification
    permits: it sends no removal request, drops or loosens nothing, admits only pods `enqueueOK` allows under
    the earlier deadline, queues every pod that is due, and never reports completion while a pod is waited for. -/
theorem C10_drain_meets_spec (q : Items) (pods : List Pod) (D : Option Int) (now : Int) :
    drainOK pods D now q (drain q pods D now).1 [] (!(drain q pods D now).2) = true :=
  drain_meets_spec q pods D now

/-! ## All histories: interleavings of drain passes, reconciles, clock advances and pod changes -/

/-- **C10_histories** — for every scenario (any pods, any initial clock) and every history of drain passes,
    eviction-queue reconciles with any API answers, clock advances and pod changes, every step of the model
    meets the specification (`stepOK`, strict reading: static and tolerating pods are never touched). -/
theorem C10_histories (now : Int) (ps : List Pod) (steps : List Step) (h : noAdd steps = true) :
    allOK true (initState now ps) steps = true :=
  history_meets_spec true steps _ (fun _ => ⟨wf_init now ps, touchable_init now ps, h⟩)

/-- **C10_histories_with_direct_adds** — the same for histories that also contain direct `Queue.Add` calls (which
    bypass `Drain`'s filters), from any well-formed state, in the non-strict reading. -/
theorem C10_histories_with_direct_adds (s : State) (hwf : WF s) (steps : List Step) :
    allOK false s steps = true :=
  history_meets_spec false steps s nofun

/-- **C10_removal_traces_to_admission** — in every history of drain passes (direct or driven by the termination
    controller), reconciles, clock advances and pod changes from a scenario's start: whenever a reconcile sends a
    removal request (eviction or direct delete) for pod `u`, an earlier drain pass of that history — under the
    deadline `d` it was given or read off the NodeClaim — handed `u` to the queue — at which moment `u` met
    C10_tiers (lowest tier among the pods awaiting graceful eviction, or past its threshold) — and `u` has stayed
    queued from that pass until this reconcile (so, by C10_deadline_monotone, under a deadline that only
    tightened). -/
theorem C10_removal_traces_to_admission (now : Int) (ps : List Pod) (pre : List Step) (i : Nat)
    (ea : EvictAns) (da : DeleteAns) (c : Call) (hna : noAdd pre = true)
    (hc : c ∈ (stepModel (runState (initState now ps) pre) (.recon i ea da)).calls) :
    ∃ a st d b, pre = a ++ st :: b ∧ passDeadline st = some d ∧
      c.uid ∈ (enqueued (livePods (runState (initState now ps) a)) d (runState (initState now ps) a).now).map (·.uid) ∧
      queuedThroughout c.uid (nextState (runState (initState now ps) a) st) b = true :=
  (queued_from c.uid pre (initState now ps) hna (call_queued hc)).resolve_left fun hthr =>
    absurd (queuedThroughout_head _ _ _ hthr) (by simp [qhas, initState, qget_nil])

/-! ## Where the node deadline comes from: the termination controller and the NodeClaim -/

/-- **C10_deadline_source** — the termination controller hands `Drain` a deadline `t` exactly when the NodeClaim
    carries a termination timestamp that reads as the instant `t`; it refuses (error) exactly when the timestamp
    cannot be read; without a (single) NodeClaim or without the annotation it drains with no deadline. -/
theorem C10_deadline_source (src : DeadlineSrc) :
    (∀ t, nodeTerminationTime src = some (some t) ↔ src = .annotation (some t)) ∧
    (nodeTerminationTime src = none ↔ src = .annotation none) ∧
    (nodeTerminationTime src = some none ↔ (src = .noClaim ∨ src = .noAnnotation)) := by
  cases src with
  | noClaim => simp [nodeTerminationTime]
  | noAnnotation => simp [nodeTerminationTime]
  | annotation t => cases t <;> simp [nodeTerminationTime]

/-- **C10_node_pass_is_drain** — a pass of the termination controller that determined the deadline `D` is exactly
    a `Terminator.Drain` pass under `D` (so C10_tiers, C10_drain_queue, C10_drain_verdict and C10_drain_meets_spec
    apply to it verbatim). -/
theorem C10_node_pass_is_drain (s : State) (src : DeadlineSrc) (D : Option Int)
    (h : nodeTerminationTime src = some D) :
    stepModel s (.node src) = stepModel s (.drain D) ∧ nextState s (.node src) = nextState s (.drain D) := by
  simp [nextState, stepModel, advance, h]

/-- **C10_unreadable_deadline_inert** — when the NodeClaim's termination timestamp cannot be read the pass does
    nothing at all: an error is reported, no pod is handed to the queue (under any deadline, let alone an
    invented one), no removal request is sent, and the state is unchanged. -/
theorem C10_unreadable_deadline_inert (s : State) :
    stepModel s (.node (.annotation none)) = { r := "error", calls := [], items := s.q } ∧
    nextState s (.node (.annotation none)) = s := by
  simp [nextState, stepModel, advance, nodeTerminationTime, refusedStep]

/-- **C10_node_pass_meets_spec** — every pass of the termination controller (any state, any NodeClaim shape) is one
    the specification permits: an ordinary drain pass under the deadline the NodeClaim's timestamp denotes (or
    under none when there knowingly is none), and a refusal or an evictions-only pass when it cannot be read. -/
theorem C10_node_pass_meets_spec (s : State) (src : DeadlineSrc) :
    nodePassOK (livePods s) src s.now s.q (stepModel s (.node src)).items (stepModel s (.node src)).calls
      (stepModel s (.node src)).r = true :=
  nodeStep_meets_spec s src

/-- **C10_deadline_origin** — along every history, from a scenario's start: the deadline a pod is stored under
    (a deadline, or "none") is one that a step of the history supplied — a direct `Queue.Add`'s, a direct drain
    pass's, or the one a controller pass read off the NodeClaim.  No deadline is ever made up. -/
theorem C10_deadline_origin (now : Int) (ps : List Pod) (steps : List Step) (k : Nat) (e : Option Int)
    (h : qget (runState (initState now ps) steps).q k = some e) :
    ∃ st ∈ steps, stepDeadline st = some e :=
  (history_deadline_origin k e steps (initState now ps) h).resolve_left (by simp [initState, qget_nil])

/-- **C10_no_invented_deadline** — in particular, in a history whose only enqueueing steps are passes of the
    termination controller: a pod stored under the deadline `t` (the precondition of every direct delete, by
    C10_force) implies that some pass found a NodeClaim whose termination timestamp reads as exactly `t`. -/
theorem C10_no_invented_deadline (now : Int) (ps : List Pod) (steps : List Step) (k : Nat) (t : Int)
    (hctl : ∀ st ∈ steps, (∀ d ps, st ≠ .add d ps) ∧ (∀ d, st ≠ .drain d))
    (h : qget (runState (initState now ps) steps).q k = some (some t)) :
    Step.node (.annotation (some t)) ∈ steps := by
  obtain ⟨st, hst, hd⟩ := C10_deadline_origin now ps steps k (some t) h
  cases st with
  | add d ps' => exact absurd rfl ((hctl _ hst).1 d ps')
  | drain d => exact absurd rfl ((hctl _ hst).2 d)
  | node src =>
    have : src = .annotation (some t) := ((C10_deadline_source src).1 t).mp (by simpa [stepDeadline, passDeadline] using hd)
    rw [this] at hst; exact hst
  | recon _ _ _ | tick _ | change _ _ => cases hd

/-! ## Non-vacuity: concrete scenarios that reach every branch the theorems speak about -/

def podA : Pod :=
  { uid := 0, onNode := true, terminal := false, del := none, grace := some 30, tolerates := false,
    static := false, daemon := false, critical := false, dnd := .absent, start := none }
/-- a critical daemon pod -/
def podC : Pod := { podA with uid := 1, critical := true, daemon := true }
/-- a do-not-disrupt pod with a one-hour grace period -/
def podP : Pod := { podA with uid := 2, dnd := .forever, grace := some 3600 }
/-- a static pod -/
def podS : Pod := { podA with uid := 3, static := true }

/-- node deadline used in the examples: t = 1000 s -/
def dl : Int := 1000 * sec

-- before `deadline − grace` the pod is evicted through the eviction API (hypothesis of C10_evict_only_evictable)
example : (reconcile [(0, some dl)] podA (900 * sec) .ok .ok).1 = some (.evict 0) := by decide
-- exactly at `deadline − grace` still an eviction; one nanosecond later a direct delete with the remaining 29 s
example : (reconcile [(0, some dl)] podA (970 * sec) .ok .ok).1 = some (.evict 0) := by decide
example : (reconcile [(0, some dl)] podA (970 * sec + 1) .ok .ok).1 = some (.delete 0 29) := by decide
-- after the deadline the grace period is the one-second minimum, never zero (hypothesis of C10_force)
example : (reconcile [(0, some dl)] podA (1005 * sec) .ok .ok).1 = some (.delete 0 1) := by decide
-- without a node deadline the same pod, far past everything, is still only evicted (C10_no_deadline_no_delete)
example : (reconcile [(0, none)] podA (5000 * sec) .tooMany .ok) = (some (.evict 0), .requeue, [(0, none)]) := rfl
-- an actively do-not-disrupt pod is not evicted (requeue, no request) …
example : (reconcile [(2, none)] podP (900 * sec) .ok .ok) = (none, .requeue, [(2, none)]) := rfl
-- … but with a node deadline it is deleted once `deadline − grace` has passed (grace 3600 s > time left)
example : (reconcile [(2, some dl)] podP (900 * sec) .ok .ok).1 = some (.delete 2 100) := by decide
-- a pass over a non-critical pod, a critical daemon pod and a static pod enqueues only the first (C10_tiers) …
example : drain [] [podA, podC, podS] (some dl) (900 * sec) = ([(0, some dl)], true) := by decide
-- … once it is gone the critical daemon pod follows; the static pod is never enqueued and never waited for
example : drain [] [podC, podS] (some dl) (900 * sec) = ([(1, some dl)], true) := by decide
example : drain [] [podS] (some dl) (900 * sec) = ([], false) := rfl
-- past its threshold a critical pod is enqueued together with the first tier
example : (drain [] [podA, { podC with grace := some 3600 }] (some dl) (900 * sec)).1 = [(0, some dl), (1, some dl)] := by decide
-- a later pass with a later (or no) deadline does not loosen the stored one; an earlier one tightens it
example : (drain [(0, some dl)] [podA] (some (dl + 60 * sec)) (900 * sec)).1 = [(0, some dl)] := by decide
example : (drain [(0, some dl)] [podA] none (900 * sec)).1 = [(0, some dl)] := by decide
example : (drain [(0, some dl)] [podA] (some (dl - 60 * sec)) (900 * sec)).1 = [(0, some (dl - 60 * sec))] := by decide
-- a whole history: drain, PDB refusal, clock crosses the threshold, direct delete, next tier
example :
    (runModel (initState (900 * sec) [podA, podC])
      [.drain (some dl), .recon 0 .tooMany .ok, .recon 1 .ok .ok, .tick (71 * sec), .drain (some dl), .recon 0 .ok .gone,
       .drain (some dl), .recon 1 .ok .ok]).map (fun o => (o.r, o.calls))
    = [("waiting", []), ("requeue", [.evict 0]), ("done", []), ("", []), ("waiting", []), ("done", [.delete 0 29]),
       ("waiting", []), ("done", [.delete 1 29])] := rfl
-- the hypotheses of the history theorems are met by it
example : noAdd [.drain (some dl), .recon 0 .tooMany .ok, .tick (71 * sec), .recon 0 .ok .gone] = true := by decide
example : queuedThroughout 0 (nextState (initState (900 * sec) [podA, podC]) (.drain (some dl)))
    [.recon 0 .tooMany .ok, .tick (71 * sec), .drain (some (dl - sec))] = true := by decide

-- a controller pass: a readable timestamp gives the deadline, exactly like a direct drain pass …
example : stepModel (initState (900 * sec) [podA, podC]) (.node (.annotation (some dl)))
    = { r := "waiting", calls := [], items := [(0, some dl)] } := rfl
-- … no annotation / no NodeClaim: evictions only (no deadline stored) …
example : (stepModel (initState (900 * sec) [podA]) (.node .noAnnotation)).items = [(0, none)] := by decide
example : (stepModel (initState (900 * sec) [podA]) (.node .noClaim)).items = [(0, none)] := by decide
-- … an unreadable timestamp: the pass refuses; a pod already queued keeps its deadline, nothing new is queued,
--     and (hypothesis of C10_no_invented_deadline) the stored deadline is the one the earlier pass read
example : (runModel (initState (900 * sec) [podA, { podP with uid := 1 }])
      [.node (.annotation (some dl)), .node (.annotation none), .recon 1 .ok .ok]).map (fun o => (o.r, o.calls, o.items))
    = [("waiting", [], [(0, some dl), (1, some dl)]), ("error", [], [(0, some dl), (1, some dl)]),
       ("done", [.delete 1 100], [(0, some dl)])] := rfl
-- the specification rejects what a pass acting under a made-up deadline (here: year 1) would be observed to do …
example : nodePassOK [podA] (.annotation none) (900 * sec) [] [(0, some (-63000000000 * sec))] [] "waiting" = false := by decide
-- … and accepts both a refusal and an evictions-only pass
example : nodePassOK [podA] (.annotation none) (900 * sec) [] [] [] "error" = true := by decide
example : nodePassOK [podA] (.annotation none) (900 * sec) [] [(0, none)] [] "waiting" = true := by decide

-- RFC 3339 reading of the annotation (Unix nanoseconds): zone offsets and fractions denote the same instants …
-- (`decide +kernel` where the parser is evaluated over a literal of 20 to 30 characters)
example : Karp.Rfc3339.parse "1970-01-01T00:00:00Z".toList = some 0 := by decide +kernel
example : Karp.Rfc3339.parse "2027-01-15T08:00:00Z".toList = some 1800000000000000000 := by decide +kernel
example : Karp.Rfc3339.parse "2027-01-15T10:00:00.5+02:00".toList = some 1800000000500000000 := by decide +kernel
example : Karp.Rfc3339.parse "2027-01-15T00:30:00-07:30".toList = some 1800000000000000000 := by decide +kernel
example : Karp.Rfc3339.parse "2024-02-29T23:59:59.123456789Z".toList = some 1709251199123456789 := by decide +kernel
example : Karp.Rfc3339.parse "0001-01-01T00:00:00Z".toList = some (-62135596800000000000) := by decide +kernel
-- … and everything else is not a timestamp (space for `T`, no zone, date only, Unix seconds, empty, impossible date)
example : Karp.Rfc3339.parse "2027-01-15 08:00:00Z".toList = none := by decide +kernel
example : Karp.Rfc3339.parse "2027-01-15T08:00:00".toList = none := by decide +kernel
example : Karp.Rfc3339.parse "2027-01-15".toList = none := by decide
example : Karp.Rfc3339.parse "1800000000".toList = none := by decide
example : Karp.Rfc3339.parse "".toList = none := by decide
example : Karp.Rfc3339.parse "2027-02-29T08:00:00Z".toList = none := by decide +kernel
example : Karp.Rfc3339.parse "2027-01-15T24:00:00Z".toList = none := by decide +kernel
example : Karp.Rfc3339.parse "2027-01-15T08:00:00+0200".toList = none := by decide +kernel

end Karp.C10
