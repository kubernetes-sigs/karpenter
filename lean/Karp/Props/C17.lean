/-
C17 — Scarce capacity is never over-committed in a scheduling pass.

Property theorems (helper lemmas: `ReservationLemmas`, `ReservedLedgerLemmas`, `DraTrackerLemmas`, `DraBudgetLemmas`,
`DraCapacityLemmas` in `Karp/Proofs`).
Models: `Karp/Model/Reservation.lean` (ReservationManager, the NodeClaim reservation protocol, FinalizeScheduling, the
reserved-offering branch of addToNewNodeClaim / trySchedule), `Karp/Model/DraTracker.lean` (AllocationTracker),
`Karp/Model/DraBudget.lean` (the shared-counter budget: InitRemainingCounters / commitCounters / releaseCounters),
`Karp/Model/DraCapacity.lean` (consumable capacity: what a share of a multi-allocatable device consumes, the guard).
Spec:   `Karp/Spec/Reserved.lean` (holder ledger; end state of a pass), evaluated on the real code by the driver;
`Karp/Spec/ReservedLedger.lean` (the ledger over whole manager histories); `Karp/Spec/DraExclusive.lean` (what a claim
consumes of a dimension of a shared device).
-/
import Karp.Proofs.ReservationLemmas
import Karp.Proofs.DraTrackerLemmas
import Karp.Proofs.DraBudgetLemmas
import Karp.Proofs.DraCapacityLemmas
import Karp.Proofs.ReservedLedgerLemmas
import Karp.Spec.Reserved
import Karp.Model.VolumeAlternatives

namespace Karp.C17
open Karp.Reservation Karp.Req

/-- the two modes are distinct constants; the model's `strictMode` is the generated one -/
theorem fact_modes : Karp.Gen.C17Facts.reservedOfferingModeFallback = 0 ∧ Karp.Gen.C17Facts.reservedOfferingModeStrict = 1 :=
  ⟨rfl, rfl⟩

/-- `NodeClaim.Add` reserves the new set before it releases what is no longer compatible (so a reservation the claim
    keeps is never handed to somebody else in between), and commits the DRA allocation before it releases pruned types -/
theorem fact_add_order :
    Karp.Gen.C17Facts.nodeClaimAddCalls = ["Reserve", "releaseReservedOfferings", "Commit", "ReleaseInstanceType"] := rfl

/-- `offeringsToReserve` (called from `CanAdd`, possibly concurrently) only *asks* the manager; it never mutates it -/
theorem fact_canAdd_readonly :
    Karp.Gen.C17Facts.offeringsToReserveCalls = ["CanReserve", "NewReservedOfferingError", "NewReservedOfferingError"] := rfl

/-- `trySchedule` tests for the reserved-offering error before it relaxes the pod -/
theorem fact_trySchedule_order : Karp.Gen.C17Facts.tryScheduleCalls = ["add", "IsReservedOfferingError", "Relax"] := rfl

/-- `addToNewNodeClaim` inspects every template error for the reserved-offering class before any `Add` -/
theorem fact_addToNew_order : Karp.Gen.C17Facts.addToNewNodeClaimReservedCalls = ["CanAdd", "IsReservedOfferingError", "Add"] := rfl

/-- `trySchedule` returns the reserved-offering error as it is (no relaxation, no retry) -/
theorem fact_trySchedule_reserved :
    Karp.Gen.C17Facts.tryScheduleReservedCond = "IsReservedOfferingError(err)" ∧
    Karp.Gen.C17Facts.tryScheduleReservedBody = ["return err"] :=
  ⟨rfl, rfl⟩

/-- `addToNewNodeClaim` on a reserved-offering error of template `i`: under the mutex, unless an earlier template already
    decided (`i >= idx`), any success published so far is discarded, `i` becomes the deciding index, and the search stops -/
theorem fact_addToNew_reserved :
    Karp.Gen.C17Facts.addToNewReservedCond = "IsReservedOfferingError(err)" ∧
    Karp.Gen.C17Facts.addToNewReservedBody =
      ["mu.Lock()", "defer mu.Unlock()", "if i >= idx { return false }", "newNodeClaim = nil", "updatedRequirements = nil",
       "updatedInstanceTypes = nil", "offeringsToReserve = nil", "allocationResult = nil", "idx = i", "return false"] :=
  ⟨rfl, rfl⟩

/-- the two strict-mode guards of `offeringsToReserve` are the model's -/
theorem fact_strict_guards :
    Karp.Gen.C17Facts.strictBlockCond = "n.reservedOfferingMode == ReservedOfferingModeStrict" ∧
    Karp.Gen.C17Facts.strictBlockBody =
      ["if hasCompatibleOffering && len(reservedOfferings) == 0", "if len(n.reservedOfferings) != 0 && len(reservedOfferings) == 0"] :=
  ⟨rfl, rfl⟩

/-- provisioning passes run in strict mode -/
theorem fact_provisioner_strict : Karp.Gen.C17Facts.provisionerScheduleStrict = true := rfl

/-- `FinalizeScheduling`: capacity type is assigned (`NewRequirement`), the reservation ids are `Add`ed -/
theorem fact_finalize_calls :
    Karp.Gen.C17Facts.finalizeCalls = ["NewRequirement", "Add", "NewRequirement", "addDaemonRequests"] := rfl

/-- **C17_new_capacity** — `NewReservationManager` knows exactly the reservation ids some reserved offering names and
    starts each at the *least* capacity any of them reports (all catalogs, any order, any duplication across pools). -/
theorem C17_new_capacity (offerings : List (Id × Int)) (id : Id) :
    ((RM.new offerings).known id = true ↔ ∃ o ∈ offerings, o.1 = id) ∧
    ((RM.new offerings).known id = true →
      (∃ o ∈ offerings, o.1 = id ∧ o.2 = (RM.new offerings).remaining id) ∧
      (∀ o ∈ offerings, o.1 = id → (RM.new offerings).remaining id ≤ o.2)) :=
  new_min offerings id

/-- **C17_reserve_inv** — for every catalog and EVERY sequence of manager operations (guarded or not, any hostnames,
    any ids, duplicates, unknown ids) that has not hit one of the two panics: per reservation id
    `remaining + |holders| = initial capacity`, `remaining ≥ 0`, and no hostname is recorded twice. -/
theorem C17_reserve_inv (offerings : List (Id × Int)) (hcap : ∀ o ∈ offerings, 0 ≤ o.2) (ops : List Reservation.Op) (rm : RM)
    (hrun : runState (RM.new offerings) ops = some rm) :
    Ledger (fun id => (RM.new offerings).remaining id) rm := by
  obtain ⟨b, S⟩ := (sim_run ops (sim_init offerings hcap)).2 rm hrun
  simpa only [remaining_new] using S.ledger

/-- **C17_never_overcommitted** — hence the number of hostnames holding a reservation never exceeds its capacity. -/
theorem C17_never_overcommitted (offerings : List (Id × Int)) (hcap : ∀ o ∈ offerings, 0 ≤ o.2) (ops : List Reservation.Op) (rm : RM)
    (hrun : runState (RM.new offerings) ops = some rm) (id : Id) :
    (rm.holders id : Int) ≤ (RM.new offerings).remaining id := by
  have L := C17_reserve_inv offerings hcap ops rm hrun
  have h1 := L.sum id
  have h2 := L.nonneg id
  omega

/-- **C17_capacity_is_least** — the manager's initial capacity of every reservation is the specification's
    `capOf` (least capacity over the offerings naming it). -/
theorem C17_capacity_is_least (offerings : List (Id × Int)) (id : Id) :
    Karp.Spec.Reserved.capOf offerings id = (RM.new offerings).capacity.lookup id :=
  capOf_eq offerings id

/-- **C17_rm_observations** (refinement, all catalogs, all histories) — everything an observer sees of the manager —
    every `CanReserve` / `HasReservation` / `RemainingCapacity` answer, every grant, and where a panic ends the
    history — equals what the holder ledger prescribes, in which nothing is counted incrementally: free slots are always
    `capacity − |holders|` and a slot is handed out only while that is positive. -/
theorem C17_rm_observations (offerings : List (Id × Int)) (hcap : ∀ o ∈ offerings, 0 ≤ o.2) (ops : List Reservation.Op) :
    (runOps (RM.new offerings) ops).2 = Karp.Spec.ReservedLedger.specObs offerings [] ops :=
  (sim_run ops (sim_init offerings hcap)).1

/-- **C17_pass_inv** — take any catalog, either mode, the gate on or off, and ANY sequence of `CanAdd`/`Add` rounds (any
    claims — in-flight or freshly opened —, any compatible-offering lists drawn from the catalog's reservations; this
    covers every reserve/release sequence real bin-packing can produce).  Then
    * neither panic branch of the manager is reachable,
    * per reservation: `remaining + #claims whose reservedOfferings name it = capacity`, `remaining ≥ 0`,
    * what the manager records for a hostname is exactly that claim's `reservedOfferings`,
    * hostnames are unique. -/
theorem C17_pass_inv (offerings : List (Id × Int)) (hcap : ∀ o ∈ offerings, 0 ≤ o.2) (gate : Bool) (mode : Nat)
    (rs : List Round) (hk : ∀ r ∈ rs, ∀ id ∈ r.compat, id ∈ offerings.map (·.1)) :
    ∃ st, rounds gate mode (St.init offerings) rs = .ok st ∧
      Proto (offerings.map (·.1)) (fun id => (RM.new offerings).remaining id) st :=
  rounds_preserves _ _ gate mode rs _ (proto_init offerings hcap) hk

/-- **C17_holders_le_capacity** — in every state a pass can reach, the NodeClaims holding a reservation number at most
    its capacity. -/
theorem C17_holders_le_capacity (offerings : List (Id × Int)) (hcap : ∀ o ∈ offerings, 0 ≤ o.2) (gate : Bool) (mode : Nat)
    (rs : List Round) (hk : ∀ r ∈ rs, ∀ id ∈ r.compat, id ∈ offerings.map (·.1)) (st : St)
    (hrun : rounds gate mode (St.init offerings) rs = .ok st) (id : Id) :
    (holdersOf st.claims id : Int) ≤ (RM.new offerings).remaining id := by
  obtain ⟨st', hr, P⟩ := C17_pass_inv offerings hcap gate mode rs hk
  rw [hrun] at hr
  cases hr
  have h1 := P.sum id
  have h2 := P.nonneg id
  omega

/-- **C17_claim_holds_exactly** — … and each claim of the pass holds, in the manager's books, exactly the ids of its
    own `reservedOfferings` (so nothing leaks when requirements narrowing releases a reservation). -/
theorem C17_claim_holds_exactly (offerings : List (Id × Int)) (hcap : ∀ o ∈ offerings, 0 ≤ o.2) (gate : Bool) (mode : Nat)
    (rs : List Round) (hk : ∀ r ∈ rs, ∀ id ∈ r.compat, id ∈ offerings.map (·.1)) (st : St)
    (hrun : rounds gate mode (St.init offerings) rs = .ok st) :
    ∀ c ∈ st.claims, ∀ id, st.rm.has c.host id = c.reserved.contains id := by
  obtain ⟨st', hr, P⟩ := C17_pass_inv offerings hcap gate mode rs hk
  rw [hrun] at hr
  cases hr
  intro c hc id
  rw [P.held c.host id, claimOf_mem _ P.hosts c hc]

/-- **C17_pinned** — after `FinalizeScheduling` a claim with reservations admits capacity type `reserved` only, and
    admits a reservation id iff it is one of the held ids (and the requirements it had before admitted it — which they do
    for every held id, see `C17_pinned_exact`). -/
theorem C17_pinned (ridKey : String) (hne : ridKey ≠ capacityTypeKey) (R : Reqs) (c : Claim) (hc : c.reserved ≠ []) :
    (∀ v, ((finalize ridKey R c).get capacityTypeKey).has v = (v == reservedValue)) ∧
    (∀ v, ((finalize ridKey R c).get ridKey).has v = (c.reserved.contains v && (R.get ridKey).has v)) := by
  unfold finalize
  rw [if_neg (by rw [List.isEmpty_eq_false_iff.mpr hc]; exact Bool.false_ne_true)]
  refine ⟨fun v => ?_, fun v => ?_⟩
  · rw [get_add1_ne _ _ _ (Ne.symm hne), get_set, if_pos rfl, has_inReq, List.contains_cons, List.contains_nil, Bool.or_false]
  · refine (has_add1 (R.set capacityTypeKey (inReq capacityTypeKey [reservedValue])) (inReq ridKey c.reserved) v).trans ?_
    rw [has_inReq]
    show (_ && ((Reqs.set R capacityTypeKey _).get ridKey).has v) = _
    rw [get_set, if_neg hne]

/-- **C17_pinned_exact** — when every held id was admitted by the claim's requirements (it is: the offering was
    compatible when it was reserved), the finalized claim admits exactly the held reservation ids. -/
theorem C17_pinned_exact (ridKey : String) (hne : ridKey ≠ capacityTypeKey) (R : Reqs) (c : Claim) (hc : c.reserved ≠ [])
    (hadm : ∀ id ∈ c.reserved, (R.get ridKey).has id = true) (v : Val) :
    ((finalize ridKey R c).get ridKey).has v = c.reserved.contains v := by
  rw [(C17_pinned ridKey hne R c hc).2 v]
  cases hv : c.reserved.contains v
  · rfl
  · rw [hadm v (List.contains_iff_mem.mp hv)]
    rfl

/-- **C17_unpinned** — a claim without reservations is left untouched. -/
theorem C17_unpinned (ridKey : String) (R : Reqs) (c : Claim) (hc : c.reserved = []) : finalize ridKey R c = R := by
  unfold finalize; simp [hc]

/-- **C17_strict_defers** — strict mode, gate on: compatible reserved offerings exist, the claim holds none of them and
    every one is exhausted ⇒ `CanAdd` returns the reserved-offering error (for every manager state in which the ids are
    known). -/
theorem C17_strict_defers (rm : RM) (c : Claim) (compat : List Id) (hne : compat ≠ [])
    (hk : ∀ id ∈ compat, rm.known id = true)
    (hex : ∀ id ∈ compat, rm.has c.host id = false ∧ rm.remaining id = 0) :
    offeringsToReserve true strictMode rm c compat = .ok none := by
  rw [offeringsToReserve_known true strictMode rm c compat hk]
  have hres : reservable rm c.host compat = [] := by
    apply List.filter_eq_nil_iff.mpr
    intro id hid
    obtain ⟨h1, h2⟩ := hex id hid
    simp [h1, h2]
  have hce : compat.isEmpty = false := List.isEmpty_eq_false_iff.mpr hne
  simp [hres, hce]

/-- **C17_strict_no_silent_fallback** — strict mode, gate on: whenever `CanAdd` succeeds although compatible reserved
    offerings exist (or the claim already held reservations), at least one reservation is taken: a pod is never added
    to a claim that silently falls back to non-reserved capacity. -/
theorem C17_strict_no_silent_fallback (rm : RM) (c : Claim) (compat : List Id) (ids : List Id)
    (hk : ∀ id ∈ compat, rm.known id = true)
    (hres : offeringsToReserve true strictMode rm c compat = .ok (some ids))
    (hne : compat ≠ [] ∨ c.reserved ≠ []) : ids ≠ [] := by
  rw [offeringsToReserve_known true strictMode rm c compat hk] at hres
  simp only [Bool.not_true, Bool.false_eq_true, if_false, BEq.rfl, Bool.true_and] at hres
  rintro rfl
  split at hres
  · cases hres
  · -- the guard was passed although nothing is reservable
    rename_i hcond
    rw [Option.some.inj (Except.ok.inj hres)] at hcond
    rcases hne with h | h <;> simp [List.isEmpty_eq_false_iff.mpr h] at hcond

/-- **C17_fallback_never_defers** — in fallback mode (disruption simulations) `CanAdd` never reports the reserved-offering
    error. -/
theorem C17_fallback_never_defers (gate : Bool) (rm : RM) (c : Claim) (compat : List Id)
    (hk : ∀ id ∈ compat, rm.known id = true) :
    offeringsToReserve gate fallbackMode rm c compat ≠ .ok none := by
  rw [offeringsToReserve_known gate fallbackMode rm c compat hk]
  have : (fallbackMode == strictMode) = false := by decide
  cases gate <;> simp [this]

/-- **C17_strict_no_lower_pool** — `addToNewNodeClaim`: a claim is opened from template `i` only if every template
    before it (greater weight) *plainly* failed; a reserved-offering error at an earlier template stops the search
    (no fallback to a lower-weight NodePool) and the pod's error is of the reserved-offering class. -/
theorem C17_strict_no_lower_pool (outs : List TOut) :
    (∀ i, pickTemplate outs 0 = some i → outs[i]? = some TOut.ok ∧ ∀ j : Nat, j < i → outs[j]? = some TOut.fail) ∧
    (∀ j : Nat, outs[j]? = some TOut.reservedError → (∀ k : Nat, k < j → outs[k]? = some TOut.fail) →
      pickTemplate outs 0 = none ∧ newClaimDeferred outs = true) := by
  refine ⟨fun i hi => ?_, fun j hj hall => ?_⟩
  · obtain ⟨k, rfl, hk, hf⟩ := (pickTemplate_eq_some outs 0 i).mp hi
    rw [Nat.zero_add]
    exact ⟨hk, hf⟩
  · have hnone : pickTemplate outs 0 = none := by
      cases hp : pickTemplate outs 0 with
      | none => rfl
      | some i =>
        -- the template that decides would lie before, at or after `j`: each contradicts what stands there
        obtain ⟨k, _, hk, hf⟩ := (pickTemplate_eq_some outs 0 i).mp hp
        rcases Nat.lt_trichotomy k j with h | h | h
        · rw [hall k h] at hk; cases hk
        · rw [h, hj] at hk; cases hk
        · rw [hf j h] at hj; cases hj
    refine ⟨hnone, ?_⟩
    unfold newClaimDeferred
    rw [hnone]
    have : TOut.reservedError ∈ outs := List.mem_of_getElem? hj
    simp [this]

/-- **C17_strict_no_relax** — `trySchedule`: if the attempt after `k` relaxations reports the reserved-offering error
    (all earlier attempts failing otherwise), the pod is deferred at once: exactly `k` relaxations were performed and no
    later attempt is made, whatever it would have returned. -/
theorem C17_strict_no_relax (k : Nat) (later : List (Option Bool)) :
    trySchedule (List.replicate k (some false) ++ some true :: later) 0 = (false, k, true) := by
  rw [trySchedule_skip k 0 _ (List.cons_ne_nil _ _), Nat.zero_add]
  rfl

/-- a catalog: reservation r-0 with one slot (seen twice, once with a stale capacity 2), r-1 with one slot -/
def demoOfferings : List (Id × Int) := [("r-0", 2), ("r-1", 1), ("r-0", 1)]

/-- claim h1 takes r-0 and r-1; claim h2 finds both exhausted (strict ⇒ deferred); h1 narrows to r-1 (r-0 is released);
    now h2 gets r-0 -/
def demoRounds : List Round :=
  [{ host := "h1", compat := ["r-0", "r-1"] }, { host := "h2", compat := ["r-0", "r-1"] },
   { host := "h1", compat := ["r-1"] }, { host := "h2", compat := ["r-0", "r-1"] }]

example : (RM.new demoOfferings).remaining "r-0" = 1 ∧ (RM.new demoOfferings).remaining "r-1" = 1 := by decide

example : (rounds true strictMode (St.init demoOfferings) demoRounds).toOption.map (fun st => st.claims)
    = some [{ host := "h2", reserved := ["r-0"] }, { host := "h1", reserved := ["r-1"] }] := by decide

example : (round true strictMode ((rounds true strictMode (St.init demoOfferings) (demoRounds.take 1)).toOption.getD (St.init []))
    { host := "h2", compat := ["r-0", "r-1"] }).toOption.map (·.2) = some false := by decide

/-- the same contention in fallback mode: h2 is added and holds nothing -/
example : (rounds true fallbackMode (St.init demoOfferings) (demoRounds.take 2)).toOption.map (fun st => st.claims)
    = some [{ host := "h2", reserved := [] }, { host := "h1", reserved := ["r-0", "r-1"] }] := by decide

example : Karp.Spec.ReservedLedger.specObs demoOfferings []
    [.guarded "h1" ["r-0", "r-1"], .canReserve "h2" "r-0", .release "h1" ["r-0"], .canReserve "h2" "r-0", .remaining "r-1", .canReserve "h2" "r-9"]
    = [.granted ["r-0", "r-1"], .bool false, .unit, .bool true, .int 0, .panic .nonExistent] := by decide

/-- an unguarded `Reserve` of an exhausted reservation is refused (the panic), it does not over-commit -/
example : (runOps (RM.new demoOfferings) [.reserve "h1" ["r-1"], .reserve "h2" ["r-1"]]).2 = [.unit, .panic .overReserve] := by decide

example : pickTemplate [.fail, .reservedError, .ok] 0 = none ∧ newClaimDeferred [.fail, .reservedError, .ok] = true := by decide
example : pickTemplate [.fail, .ok, .reservedError] 0 = some 1 := by decide

/-- finalization of a claim holding r-0 and r-1 whose requirements allowed on-demand and reserved -/
example :
    let R : Reqs := [(capacityTypeKey, inReq capacityTypeKey ["on-demand", "reserved"])]
    let F := finalize "karpenter.sh/reservation-id" R { host := "h1", reserved := ["r-0", "r-1"] }
    (F.get capacityTypeKey).values = ["reserved"] ∧ ((F.get "karpenter.sh/reservation-id").has "r-1" = true) ∧
      ((F.get "karpenter.sh/reservation-id").has "r-2" = false) ∧ ((F.get capacityTypeKey).has "on-demand" = false) := by decide +kernel

/-! ## Dynamic resource allocation: the allocation tracker (exclusive devices)

Full statement of the property for DRA: *no exclusive device is assigned to two claims and no shared device's capacity or
counters are over-consumed, for all ResourceSlice / ResourceClaim populations.*  Proved here is the part that lives in
`allocationtracker.go` (`_partial`): for the tracker model, whenever every committed allocation chose only devices for
which `IsAllocated` was false (what `Allocator.Allocate` is expected to do — its backtracking search is NOT modelled),
no in-cluster device is held by two NodeClaims, no holding is recorded twice, the two indices mirror each other, nothing
already allocated on the API server is handed out again, and none of the four panics is reachable.  Consumable capacity
and shared counters of multi-allocatable devices are not part of the tracker model; the two sections below treat them. -/

section DRA
open Karp.DraTracker

/-- `NodeClaim.Add` gives back the device holdings of the instance types that were simulated but pruned, keyed by its own
    hostname (a leak here never double-allocates, so no run-time check sees it: pinned as a source fact) -/
theorem fact_pruned_release :
    Karp.Gen.C17Facts.prunedReleaseCond = "len(pruned) > 0" ∧
    Karp.Gen.C17Facts.prunedReleaseBody = ["allocator.ReleaseInstanceType(ctx, unique.Make(n.hostname), pruned...)"] :=
  ⟨rfl, rfl⟩

theorem fact_dra_delegation :
    Karp.Gen.C17Facts.allocatorReleaseCalls = ["ReleaseInstanceTypes"] ∧ Karp.Gen.C17Facts.allocationCommitCalls = ["Commit"] :=
  ⟨rfl, rfl⟩

/-- **C17_dra_exclusive_partial** — every sequence of guarded commits and instance-type releases (any NodeClaims, any
    instance types, any devices — in-cluster or template —, any pre-allocated set) runs without panic and ends in a
    consistent tracker. -/
theorem C17_dra_exclusive_partial (prealloc : List String) (ops : List DraTracker.Op) (hd : disciplined ops = true) :
    ∃ t, DraTracker.run (Tracker.new prealloc) ops = .ok t ∧ Inv t :=
  run_ok ops _ (inv_new prealloc) hd

/-- **C17_dra_one_owner** — spelled out: in every such state an in-cluster device has at most one owning NodeClaim, is
    recorded at most once per (NodeClaim, instance type), and is not one of the devices allocated in the cluster. -/
theorem C17_dra_one_owner (prealloc : List String) (ops : List DraTracker.Op) (hd : disciplined ops = true) (t : Tracker)
    (hrun : DraTracker.run (Tracker.new prealloc) ops = .ok t) :
    (∀ d n1 i1 n2 i2, (d, n1, i1) ∈ t.inflight → (d, n2, i2) ∈ t.inflight → n1 = n2) ∧
    t.inflight.Nodup ∧ t.template.Nodup ∧ (∀ d n i, (d, n, i) ∈ t.inflight → d ∉ t.prealloc) := by
  obtain ⟨t', hr, I⟩ := C17_dra_exclusive_partial prealloc ops hd
  rw [hrun] at hr
  cases hr
  exact ⟨I.owner, I.nodupI, I.nodupT, I.pre⟩

/-- **C17_dra_isAllocated** — on a consistent tracker `IsAllocated` is false for an in-cluster device exactly when it is
    not allocated in the cluster, no OTHER NodeClaim holds it, and this NodeClaim does not hold it for this instance type. -/
theorem C17_dra_isAllocated (t : Tracker) (I : Inv t) (d : Dev) (nc : NC) (it : IT) (hd : d.template = false) :
    t.isAllocated d nc it = false ↔
      (d.name ∉ t.prealloc ∧ (∀ n i, (d.name, n, i) ∈ t.inflight → n = nc) ∧ (d.name, nc, it) ∉ t.inflight) :=
  ⟨free_cluster t I d nc it hd, fun ⟨h1, h2, h3⟩ => cluster_free_of t d nc it hd h1 h2 h3⟩

/-- **C17_dra_refuses** — a commit that ignores the discipline is refused (panic) rather than recorded: a device held by
    another NodeClaim, or a holding that already exists. -/
theorem C17_dra_refuses (t : Tracker) (I : Inv t) (nc : NC) (it : IT) (d : Dev) (hd : d.template = false) :
    (∀ n' i', (d.name, n', i') ∈ t.inflight → n' ≠ nc → t.commit1 nc it d = .error .otherNodeClaim) ∧
    ((d.name, nc, it) ∈ t.inflight → t.commit1 nc it d = .error .dupInstanceType) :=
  ⟨fun n' i' h hne => commit1_refuses_other t I nc n' it i' d hd h hne, commit1_refuses_dup t I nc it d hd⟩

def gpu0 : Dev := { name := "gpu-0", template := false }
def gpu1 : Dev := { name := "gpu-1", template := false }

/-- nc-a takes gpu-0 for both of its instance types; nc-b is granted only gpu-1; after nc-a releases both types nc-b gets gpu-0 -/
def demoDra : List DraTracker.Op :=
  [.guarded "nc-a" [("it-x", [gpu0]), ("it-y", [gpu0])], .guarded "nc-b" [("it-x", [gpu0, gpu1])],
   .release "nc-a" ["it-x"], .guarded "nc-b" [("it-x", [gpu0])], .release "nc-a" ["it-y"], .guarded "nc-b" [("it-x", [gpu0])]]

example : disciplined demoDra = true := by decide
example : (DraTracker.run (Tracker.new []) (demoDra.take 2)).toOption.map (·.inflight)
    = some [("gpu-1", "nc-b", "it-x"), ("gpu-0", "nc-a", "it-y"), ("gpu-0", "nc-a", "it-x")] := by decide
example : (DraTracker.run (Tracker.new []) (demoDra.take 4)).toOption.map (·.inflight)
    = some [("gpu-1", "nc-b", "it-x"), ("gpu-0", "nc-a", "it-y")] := by decide
example : (DraTracker.run (Tracker.new []) demoDra).toOption.map (·.inflight)
    = some [("gpu-0", "nc-b", "it-x"), ("gpu-1", "nc-b", "it-x")] := by decide
example : (match DraTracker.run (Tracker.new []) [.guarded "nc-a" [("it-x", [gpu0])], .commit "nc-b" [("it-x", [gpu0])]] with
    | .error p => some p | .ok _ => none) = some .otherNodeClaim := by decide

end DRA

/-! ## Dynamic resource allocation: shared counters (partitionable devices)

Full statement: *no shared device's counters are over-consumed, for all ResourceSlice / ResourceClaim populations.*
Proved here is the part that lives in the tracker's accounting (`partitionable_devices.go`), for one counter of one
pool: the budget starts at the counter minus the consumption of EVERY device of the pool that is allocated in the
cluster — whether or not the device's slice targets the empty requirements the pools are gathered with at allocator
construction (node-local slices and slices selected by custom labels do not) —, it equals `initial − Σ over NodeClaims
of the max over their instance types` along every sequence of commits and releases, and when every commit passed the
guard `checkCounters` it never goes negative; hence what is in use in the cluster plus the worst case of what the pass
hands out never exceeds the counter.  The search that produces the allocations is NOT modelled (`_partial`); its
outputs are judged on the real code by `Karp.Spec.DraExclusive.countersOK` (ops c17.alloc, c17.drapass). -/

section Counters
open Karp.DraBudget

/-- the budgets are initialised at allocator construction from the pools gathered there, and `InitRemainingCounters`
    deducts the devices allocated in the cluster (exclusively, or with consumed capacity) from BOTH device lists of a pool -/
theorem fact_counter_init :
    Karp.Gen.C17Facts.newAllocatorCounterCalls = ["GatherPools", "InitRemainingCounters"] ∧
    Karp.Gen.C17Facts.initCountersRanges = ["pool.Devices", "pool.NonTargetingDevices"] ∧
    Karp.Gen.C17Facts.initCountersGuards =
      ["!at.PreallocatedDevices.Has(D[i].ID) && !lo.HasKey(at.PreallocatedConsumedCapacity, D[i].ID)",
       "!at.PreallocatedDevices.Has(D[i].ID) && !lo.HasKey(at.PreallocatedConsumedCapacity, D[i].ID)"] :=
  ⟨rfl, rfl, rfl⟩

/-- every `Commit` books counters and capacity, every `ReleaseInstanceTypes` gives them back, and the search tests a
    device's capacity / exclusivity / counter budget before it books the device as allocating -/
theorem fact_counter_booking :
    Karp.Gen.C17Facts.trackerCommitBudgetCalls = ["commitCounters", "commitCapacity"] ∧
    Karp.Gen.C17Facts.trackerReleaseBudgetCalls = ["releaseCounters", "releaseCapacity"] ∧
    Karp.Gen.C17Facts.tryDeviceCounterCalls =
      ["checkCapacity", "IsAllocated", "checkCounters", "deductAllocatingCapacity", "deductAllocatingCounters"] :=
  ⟨rfl, rfl, rfl⟩

/-- **C17_counters_init** — `InitRemainingCounters` leaves the counter minus what every device of the pool that is
    already allocated in the cluster consumes, targeting or not. -/
theorem C17_counters_init (pre : List String) (p : Pool) :
    initRemaining pre p = p.total - preConsumed pre (p.devices ++ p.nonTargeting) := by
  have e : initRemaining pre p = deduct pre (deduct pre p.total p.devices) p.nonTargeting := by
    simp [initRemaining, Karp.Gen.C17Facts.initCountersRanges, Pool.field]
  rw [e, deduct_eq, deduct_eq, preConsumed_append, Int.sub_sub]

/-- **C17_counters_accounting** — for every sequence of guarded commits and instance-type releases (any NodeClaims, any
    instance types, any consumption) the remaining budget is exactly the initial one minus the worst case of what is
    committed, and it is never negative. -/
theorem C17_counters_accounting (init : Int) (h0 : 0 ≤ init) (ops : List DraBudget.Op)
    (hg : guarded (St.init init) ops = true) :
    (DraBudget.run (St.init init) ops).remaining = init - worst (DraBudget.run (St.init init) ops).stored ∧
    0 ≤ (DraBudget.run (St.init init) ops).remaining := by
  have I := run_inv init ops _ (inv_init init h0) hg
  exact ⟨by have := I.sum; omega, I.rem⟩

/-- **C17_counters_never_overconsumed_partial** — a pool whose partitions in use in the cluster fit its counter: after
    every such sequence, what is in use in the cluster plus the worst case (Σ over NodeClaims of the max over their
    instance types) of what the pass committed stays within the counter. -/
theorem C17_counters_never_overconsumed_partial (pre : List String) (p : Pool)
    (hc : preConsumed pre (p.devices ++ p.nonTargeting) ≤ p.total) (ops : List DraBudget.Op)
    (hg : guarded (St.init (initRemaining pre p)) ops = true) :
    preConsumed pre (p.devices ++ p.nonTargeting) + worst (DraBudget.run (St.init (initRemaining pre p)) ops).stored ≤ p.total := by
  have hi := C17_counters_init pre p
  have h0 : 0 ≤ initRemaining pre p := by omega
  obtain ⟨h1, h2⟩ := C17_counters_accounting (initRemaining pre p) h0 ops hg
  omega

/-- a node-local partitionable device: counter 40, three partitions of 20; at allocator construction its slices do not
    target the empty requirements, so all three are `NonTargetingDevices`; two of them are in use in the cluster -/
def demoGpu : Pool := { total := 40, devices := [], nonTargeting := [("mig-0", 20), ("mig-1", 20), ("mig-2", 20)] }

example : initRemaining ["mig-0", "mig-1"] demoGpu = 0 ∧ initRemaining ["mig-0"] demoGpu = 20 := by decide
/-- with the budget exhausted the guard lets no further partition through … -/
example : guarded (St.init (initRemaining ["mig-0", "mig-1"] demoGpu)) [.commit "node-a" [("it-x", 20)]] = false := by decide
/-- … with one partition in use exactly one more fits; a second NodeClaim is refused until the first releases -/
example : guarded (St.init (initRemaining ["mig-0"] demoGpu))
    [.commit "nc-a" [("it-x", 20), ("it-y", 20)], .release "nc-a" ["it-x"], .release "nc-a" ["it-y"], .commit "nc-b" [("it-x", 20)]] = true ∧
    guarded (St.init (initRemaining ["mig-0"] demoGpu)) [.commit "nc-a" [("it-x", 20), ("it-y", 20)], .commit "nc-b" [("it-x", 20)]] = false ∧
    (DraBudget.run (St.init (initRemaining ["mig-0"] demoGpu)) [.commit "nc-a" [("it-x", 20), ("it-y", 20)], .release "nc-a" ["it-x"]]).remaining = 0 ∧
    (DraBudget.run (St.init (initRemaining ["mig-0"] demoGpu)) [.commit "nc-a" [("it-x", 20), ("it-y", 20)], .release "nc-a" ["it-x", "it-y"]]).remaining = 20 := by decide
/-- the deduction of the non-targeting devices is necessary: a budget initialised from `pool.Devices` alone (40 here)
    lets a third partition through, 60 units of a counter of 40 -/
example : guarded (St.init (deduct ["mig-0", "mig-1"] demoGpu.total demoGpu.devices)) [.commit "node-a" [("it-x", 20)]] = true ∧
    preConsumed ["mig-0", "mig-1"] (demoGpu.devices ++ demoGpu.nonTargeting) +
      worst (DraBudget.run (St.init (deduct ["mig-0", "mig-1"] demoGpu.total demoGpu.devices)) [.commit "node-a" [("it-x", 20)]]).stored = 60 := by decide

end Counters

/-! ## DRA: consumable capacity of multi-allocatable devices

What an allocation consumes of a multi-allocatable device is fixed by resource.k8s.io/v1: EVERY capacity dimension of the
device is consumed — a dimension the request has no entry for at `requestPolicy.default`, without a default in full; a
requested amount is rounded up by the policy; an amount the policy rejects makes the device unusable for the request.
`Karp.DraCapacity` models `consumable_capacity.go` as it is; `Karp.Spec.DraExclusive.SDim.consumption` states the rules
independently.  Full statement (NOT proved — the allocator's search is not modelled): "for every population of slices
and claims the shares `Allocate` publishes, summed per device and dimension (worst case over the instance types of a
NodeClaim, summed over NodeClaims, plus what is consumed in the cluster), stay within the capacity".  Proved: the
consumption computed by the code equals the rules for every API-valid policy and every request; every sequence of shares
admitted by the guard stays within the capacity.  The published shares are judged on the real code by
`Karp.Spec.DraExclusive.capacityOK` / `shareOK` (ops c17.alloc, c17.drapass). -/

section Capacity
open Karp.DraCapacity Karp.Spec.DraExclusive

/-- the guard `checkCapacity`: it accepts without booking anything only for a device that is not multi-allocatable or has
    no capacity dimension at all; otherwise the request must name existing dimensions only, the consumption must be
    computable, and what is in use plus the consumption must not exceed the capacity -/
theorem fact_capacity_guard :
    Karp.Gen.C17Facts.checkCapacityReturns =
      [("!device.AllowMultipleAllocations", "return nil, true"),
       ("requestsContainNonExistCapacity(rd.CapacityRequests, device.Capacity)", "return nil, false"),
       ("err != nil", "return nil, false"),
       ("consumed == nil", "return nil, true"),
       ("used.Cmp(total) > 0", "return nil, false"),
       ("", "return consumed, true")] ∧
    Karp.Gen.C17Facts.checkCapacityCalls = ["requestsContainNonExistCapacity", "computeConsumedCapacity"] :=
  ⟨rfl, rfl⟩

/-- `computeConsumedCapacity` computes a consumption for every dimension of the DEVICE (no dimension is skipped), returns
    nothing only for a device without dimensions, and fails on a policy violation; an absent entry is filled in by
    `fillEmptyRequest` (default, else the whole capacity) before anything else is looked at -/
theorem fact_capacity_every_dimension :
    Karp.Gen.C17Facts.computeConsumedRanges = ["deviceCapacity"] ∧
    Karp.Gen.C17Facts.computeConsumedGuards = [""] ∧
    Karp.Gen.C17Facts.computeConsumedReturns.map (·.1) = ["len(deviceCapacity) == 0", "violatesPolicy(c, cap.RequestPolicy)", ""] ∧
    Karp.Gen.C17Facts.calculateConsumedReturns =
      [("requestedVal == nil", "return fillEmptyRequest(capacity)"),
       ("capacity.RequestPolicy == nil", "return requestedVal.DeepCopy()"),
       ("capacity.RequestPolicy.ValidRange != nil && capacity.RequestPolicy.ValidRange.Min != nil", "return roundUpRange(requestedVal, capacity.RequestPolicy.ValidRange)"),
       ("capacity.RequestPolicy.ValidValues != nil", "return roundUpValidValues(requestedVal, capacity.RequestPolicy.ValidValues)"),
       ("", "return requestedVal.DeepCopy()")] ∧
    Karp.Gen.C17Facts.fillEmptyRequestReturns =
      [("capacity.RequestPolicy != nil && capacity.RequestPolicy.Default != nil", "return capacity.RequestPolicy.Default.DeepCopy()"),
       ("", "return capacity.Value.DeepCopy()")] :=
  ⟨rfl, rfl, rfl, rfl, rfl⟩

/-- for every API-valid request policy and EVERY request (with or without an entry for the dimension) the code computes
    exactly the consumption the Kubernetes rules give, and fails exactly where the rules say the device cannot be used -/
theorem C17_capacity_consumption (d : SDim) (h : ValidDim d) (req : Option Int) :
    consumedDim req (Dim.ofFields d.cap d.default d.values d.range) = d.consumption req :=
  consumedDim_refines d h req

/-- a request without an entry for a dimension is never free: it consumes the default, without a default the whole
    capacity -/
theorem C17_capacity_implicit_share (d : SDim) (h : ValidDim d) :
    consumedDim none (Dim.ofFields d.cap d.default d.values d.range) = some (d.default.getD d.cap) :=
  consumedDim_refines d h none

/-- a consumption the code computes is never less than what was asked for -/
theorem C17_capacity_at_least_requested (d : SDim) (h : ValidDim d) (r c : Int)
    (hc : consumedDim (some r) (Dim.ofFields d.cap d.default d.values d.range) = some c) : r ≤ c :=
  consumption_ge d h.sorted h.stepPos r c ((consumedDim_refines d h (some r)).symm.trans hc)

/-- (partial: the guard only, one device dimension; the search that offers the shares is not modelled) whatever shares
    are offered to the guard of `checkCapacity`, in whatever order and however much is in use already, what is booked
    never exceeds the capacity -/
theorem C17_capacity_never_overconsumed_partial (total used : Int) (h : used ≤ total) (shares : List Int) :
    admitAll total used shares ≤ total :=
  admitAll_le total used shares h

/-- the device of the demonstration: 10 units, default 4, valid range from 1 — API-valid -/
def demoNic : SDim := { dim := "bandwidth", cap := 10, pre := 0, default := some 4, range := some (1, none, none) }

theorem demoNic_valid : ValidDim demoNic where
  oneOf := Or.inl rfl
  sorted := by simp [demoNic]
  needsDefault := fun _ => ⟨4, rfl⟩
  defaultValid := by intro dv _ hv; exact absurd rfl hv
  stepPos := by intro mn mx s hr; simp [demoNic] at hr
  defaultMax := by intro mn m st dv hr; simp [demoNic] at hr

/-- two claims without a capacity request consume 4 each; a third share of 4 no longer fits: 8 of 10 are booked -/
example : consumedDim none (Dim.ofFields demoNic.cap demoNic.default demoNic.values demoNic.range) = some 4 ∧
    admitAll 10 0 [4, 4, 4] = 8 := by decide
/-- were a request without an entry free of charge, the three claims would all be admitted: 12 of 10 -/
example : admitAll 10 0 [0, 0, 4] = 4 ∧ (4 : Int) + 4 + 4 > 10 := by decide
/-- rounding: validValues [2, 4, 8]: a request of 3 consumes 4, a request of 9 cannot be served; range min 2 step 2 max 6:
    a request of 3 consumes 4, a request of 7 would be rounded to 8 > max and cannot be served -/
example : consumedDim (some 3) (Dim.ofFields 8 (some 2) [2, 4, 8] none) = some 4 ∧
    consumedDim (some 9) (Dim.ofFields 8 (some 2) [2, 4, 8] none) = none ∧
    consumedDim (some 3) (Dim.ofFields 8 (some 2) [] (some (2, some 6, some 2))) = some 4 ∧
    consumedDim (some 7) (Dim.ofFields 8 (some 2) [] (some (2, some 6, some 2))) = none := by decide

end Capacity

/-! ### The loop of `NodeClaim.CanAdd` over the pod's volume topology alternatives

Full statement wanted by the property (strict mode: compatible reserved capacity exists but is exhausted ⇒ the pod is
deferred, i.e. the caller must SEE the reserved-offering error):

    theorem C17_alternatives_keep_reserved_error (alts) (h : .reserved ∈ alts) (hno : .ok ∉ alts) : canAdd alts = .reserved

The code at the pinned commit (`canAdd`) violated it (corpus/c17.pass/015): the error of the LAST alternative was returned,
so a plain failure of a later alternative shadowed the reserved-offering error of an earlier one and the pod fell through
to a lower-weight NodePool.  Found by `c17.pass` and repaired in /repo by fix 4e92d1703 (known_findings.json `fixed`); the
code is now `canAddFixed`.  Proved: for the old loop the negation on a concrete witness and the partial statement (last
alternative decisive; every pod with ONE alternative keeps the error); for the code as it is now the full statement,
`C17_alternatives_keep_reserved_error_fixed`. -/
section Alternatives
open Karp.VolumeAlternatives Karp.FirstSuccess

theorem canAddFrom_no_ok (last : Outcome) (alts : List Outcome) (hno : Outcome.ok ∉ alts) :
    canAddFrom last alts = (alts.getLast?).getD last := by
  fun_induction canAddFrom last alts with
  | case1 => rfl
  | case2 => exact absurd List.mem_cons_self hno
  | case3 last e rest he ih =>
    rw [ih fun h => hno (List.mem_cons_of_mem _ h), List.getLast?_cons]
    rfl

/-- negation witness: first alternative reserved-offering error, second a plain failure ⇒ the caller sees a plain failure -/
theorem C17_alternatives_shadow_reserved_error :
    canAdd [.reserved, .fail] = .fail ∧ Outcome.reserved ∈ [Outcome.reserved, Outcome.fail] ∧ Outcome.ok ∉ [Outcome.reserved, Outcome.fail] := by
  decide

/-- partial: when no alternative succeeds the LAST alternative's error is what the caller sees -/
theorem C17_alternatives_keep_reserved_error_partial (alts : List Outcome) (hno : Outcome.ok ∉ alts)
    (hlast : alts.getLast? = some .reserved) : canAdd alts = .reserved := by
  unfold canAdd
  rw [canAddFrom_no_ok _ _ hno, hlast]; rfl

/-- a pod with a single alternative (no volume requirements, or one topology term per volume) keeps the error -/
theorem C17_single_alternative_keeps_reserved_error (e : Outcome) : canAdd [e] = e := by
  cases e <;> rfl

/-- a success is never turned into a deferral and vice versa: the loop answers ok iff some alternative succeeds -/
theorem C17_alternatives_ok_iff (alts : List Outcome) : canAdd alts = .ok ↔ Outcome.ok ∈ alts := by
  unfold canAdd
  suffices h : ∀ last, last ≠ .ok → (canAddFrom last alts = .ok ↔ Outcome.ok ∈ alts) from h .fail (by decide)
  intro last hl
  fun_induction canAddFrom last alts with
  | case1 last => exact ⟨fun h => absurd h hl, fun h => nomatch h⟩
  | case2 => exact ⟨fun _ => List.mem_cons_self, fun _ => rfl⟩
  | case3 last e rest he ih => rw [ih he, List.mem_cons, or_iff_right (Ne.symm he)]

theorem canAddFromFixed_keeps (last : Outcome) (alts : List Outcome) (hno : Outcome.ok ∉ alts)
    (h : last = .reserved ∨ Outcome.reserved ∈ alts) : canAddFromFixed last alts = .reserved := by
  fun_induction canAddFromFixed last alts with
  | case1 last => exact h.resolve_right (nomatch ·)
  | case2 => exact absurd List.mem_cons_self hno
  | case3 last e rest he ih =>
    refine ih (fun h' => hno (List.mem_cons_of_mem _ h')) ?_
    rcases h with rfl | h
    · exact .inl rfl
    · rcases List.mem_cons.mp h with rfl | h
      · exact .inl (ite_self _)
      · exact .inr h

/-- the full statement holds for the code since the fix -/
theorem C17_alternatives_keep_reserved_error_fixed (alts : List Outcome) (h : Outcome.reserved ∈ alts) (hno : Outcome.ok ∉ alts) :
    canAddFixed alts = .reserved :=
  canAddFromFixed_keeps .fail alts hno (.inr h)

example : canAdd [.fail, .reserved] = .reserved ∧ canAdd [.reserved, .ok] = .ok ∧ canAddFixed [.reserved, .fail] = .reserved := by decide

end Alternatives

end Karp.C17
