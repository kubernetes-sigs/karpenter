/-
C19 — NodePool weight and price ordering are honoured.  Model: `Karp/Model/{WeightOrder, FirstSuccess, PriceOrder,
PoolFilter, Relax, MinValuesFilter, ReservedFallback}.lean`; specification: `Karp/Spec/{WeightPrice, PoolPass}.lean`.
-/
import Karp.Proofs.WeightPriceLemmas
import Karp.Proofs.FirstSuccessLemmas
import Karp.Proofs.PriceSpecLemmas
import Karp.Proofs.ReservedFallbackLemmas
import Karp.Proofs.PoolFilterLemmas
import Karp.Spec.WeightPrice
import Karp.Spec.PoolPass
import Karp.Model.Relax
import Karp.Model.MinValuesFilter

namespace Karp.C19
open List Karp.WeightOrder Karp.PriceOrder Karp.FirstSuccess Karp.ReservedFallback Karp.Spec.WeightPrice Karp.PoolFilter Karp.Relax Karp.MinValuesFilter

/-- truncation to `MaxInstanceTypes` keeps at least one option -/
theorem fact_maxInstanceTypes_pos : 0 < Karp.Gen.C19Facts.maxInstanceTypes := by decide

/-- `Provisioner.NewScheduler` orders the NodePools by weight before it hands them to `scheduler.NewScheduler`
    (the template index order IS the weight order) -/
theorem fact_order_before_templates :
    Karp.Gen.C19Facts.provisionerNewSchedulerCalls = ["OrderByWeight", "NewScheduler"] := rfl

/-- in front of `OrderByWeight`, `Provisioner.NewScheduler` filters the listed NodePools on `IsStatic`, on the root
    condition being TRUE (`ConditionSet.IsTrue` — no `IsFalse` / `IsUnknown` test, under which a pool of unknown or
    unreported readiness would pass) and on the deletionTimestamp: `Model/PoolFilter.eligible` -/
theorem fact_pool_filter_before_order :
    Karp.Gen.C19Facts.provisionerPoolFilterCalls = ["ListManaged", "IsStatic", "IsTrue", "IsZero", "OrderByWeight"] := rfl

/-- `ToNodeClaim` slices the price-ordered options (`lo.Slice(OrderByPrice(..), 0, MaxInstanceTypes)`), once -/
theorem fact_toNodeClaim_slices_ordered :
    Karp.Gen.C19Facts.toNodeClaimCalls = ["Slice", "OrderByPrice"] := rfl

/-- `Truncate` slices the price-ordered options, once -/
theorem fact_truncate_slices_ordered :
    Karp.Gen.C19Facts.truncateCalls = ["Slice", "OrderByPrice"] := rfl

/-- `addToNewNodeClaim` evaluates the templates through `parallelizeUntil` (once) and publishes under the mutex
    (two publication sites: reserved-offering error and success) -/
theorem fact_addToNewNodeClaim_protocol :
    Karp.Gen.C19Facts.addToNewNodeClaimCalls = ["parallelizeUntil", "Lock", "Lock"] := rfl

/-- `NewNodeClaimTemplate` merges the injected labels (`karpenter.sh/nodepool=<name>`, the NodeClass label) into the
    template's labels BEFORE it derives the template's requirements from the labels: the template requires
    `karpenter.sh/nodepool In [<name>]`, which is what keeps a pod that selects or excludes pools by name away from the
    others (the label key is well known, so a template WITHOUT the requirement is compatible with every such pod) -/
theorem fact_template_labels_before_requirements :
    Karp.Gen.C19Facts.newNodeClaimTemplateCalls = ["Assign", "Assign", "NewLabelRequirements"] := rfl

/-- `NewScheduler`: the flag "some NodePool has a `PreferNoSchedule` taint" starts `false` and every later assignment
    only raises it (`= true` or `= flag || …`): it is the disjunction over ALL pools (`Model/Relax.tolerateFlag`), not the
    verdict on whichever pool the loop saw last -/
theorem fact_tolerate_flag_accumulates :
    Karp.Gen.C19Facts.tolerateFlagAssigns.head? = some "false" ∧
    Karp.Gen.C19Facts.tolerateFlagAssigns.tail.all (fun a => a == "true" || a == "or-self") = true ∧
    Karp.Gen.C19Facts.tolerateFlagAssigns.tail ≠ [] := by decide

/-- minValues are relaxed under the same condition — the operator policy is BestEffort — where `NewScheduler` decides
    whether a NodePool becomes a template at all and where `CanAdd` evaluates a pod against a template
    (`Model/MinValuesFilter.poolOffers` uses one flag for both): a pre-filter stricter than the per-pod filter would
    hide a higher-weight pool that is able to host -/
theorem fact_minvalues_relaxed_alike :
    Karp.Gen.C19Facts.prefilterRelaxArg = ["minValuesPolicy == karpopts.MinValuesPolicyBestEffort"] ∧
    Karp.Gen.C19Facts.canAddRelaxArg = Karp.Gen.C19Facts.prefilterRelaxArg := ⟨rfl, rfl⟩

/-- `OrderByWeight` loses and invents no NodePool. -/
theorem C19_order_by_weight_perm (nps : List Pool) : orderByWeight nps ~ nps := sortBy_perm before nps

/-- in the result every earlier pool has a larger weight than every later
    one, or the same weight and a name that is not earlier in the alphabet. -/
theorem C19_order_by_weight_sorted (nps : List Pool) :
    (orderByWeight nps).Pairwise (fun a b =>
      b.weight < a.weight ∨ (a.weight = b.weight ∧ lexLt a.name b.name = false)) :=
  (sortBy_sorted before_strictWeak nps).imp (fun h => (before_false_iff _ _).mp h)

/-- `sort.Slice` is unstable, but whatever sorted permutation it returns is
    THE ordering: the comparator is a strict total order on (weight, name).  (This is what lets the
    correspondence compare the real output with the model by equality.) -/
theorem C19_order_by_weight_unique (input out : List Pool) (h : allowedSort before input out = true) :
    out = orderByWeight input :=
  allowedSort_unique before_strictWeak before_antisymm h

/-- every output the model allows satisfies the independent
    weight-order specification. -/
theorem C19_order_by_weight_meets_spec (input out : List Pool) (h : allowedSort before input out = true) :
    weightOrderSpec input out = true := by
  obtain ⟨hperm, hs⟩ := (allowedSort_iff _ _ _).mp h
  simp only [weightOrderSpec, sameMultiset, Bool.and_eq_true, all_eq_true, beq_iff_eq]
  exact ⟨⟨fun p _ => hperm.count_eq p, fun p _ => hperm.count_eq p⟩, adjacentOk_of_sorted out hs⟩

/-- (all schedules) — for every outcome vector, every configured degree of parallelism
    (any integer; non-positive values mean 1, as in `NewScheduler`) and every interleaving of the workers'
    steps: once all workers have returned, the published claim is the one of the sequential walk — the least
    template index that does not plainly fail, taken if it succeeded, nothing if it asked to wait for reserved
    capacity. -/
theorem C19_first_success (outs : List Outcome) (n : Int) (sched : List Nat)
    (hdone : allDone (run outs (init (effectiveWorkers n) outs) sched) = true) :
    result (run outs (init (effectiveWorkers n) outs) sched) = sequentialResult outs := by
  refine (inv_run outs sched _ (inv_init _ outs)).result_eq
    (fun x hx => beq_iff_eq.mp (all_eq_true.mp hdone x hx)) fun hne => ?_
  -- `lo.Ternary(n > 0, n, 1)` workers, cut down to the number of pieces: at least one
  have h1 : 0 < effectiveWorkers n := by unfold effectiveWorkers; split <;> omega
  have h2 := length_pos_iff.mpr hne
  apply ne_nil_of_length_pos
  rw [run_workers_length, init, length_replicate]
  omega

/-- the sequential result is what the specification asks for: the chosen
    template is feasible and every earlier (higher-priority) template plainly failed; nothing is chosen only
    if no template qualifies. -/
theorem C19_first_success_meets_spec (outs : List Outcome) : chosenOk outs (sequentialResult outs) = true := by
  have hnone : (∀ i, qualifies outs i = true → False) → chosenOk outs none = true := by
    intro h
    simp only [chosenOk, all_eq_true, Bool.not_eq_eq_eq_not, Bool.not_true]
    exact fun i _ => Bool.eq_false_iff.mpr (h i)
  rcases sequentialResult_cases outs with ⟨hr, hall⟩ | ⟨m, hm, ⟨ho, hr⟩ | ⟨ho, hr⟩⟩ <;> rw [hr]
  · refine hnone (fun i hq => ?_)
    have := ((qualifies_iff outs i).mp hq).2
    rw [hall i] at this; cases this
  · exact (qualifies_iff outs m).mpr ⟨hm, ho⟩
  · -- a qualifying template would be the first decisive one, which asked to wait
    refine hnone (fun i hq => ?_)
    obtain ⟨hi, hok⟩ := (qualifies_iff outs i).mp hq
    rw [isFirst_unique hi hm, ho] at hok; cases hok

/-- together with `C19_schedule_no_deadlock`: no interleaving can run forever or deadlock: every
    step of a worker that has not returned strictly decreases a measure bounded by `2·pieces + 3·workers`, and as
    long as `wg.Wait()` has not returned some worker can step. -/
theorem C19_schedule_progress (outs : List Outcome) (s : St) (w : Nat)
    (hw : ∃ x, s.workers[w]? = some x ∧ x ≠ W.done) :
    progressMeasure outs (step outs s w) < progressMeasure outs s := by
  obtain ⟨x, hx, hne⟩ := hw
  fun_cases step outs s w
  · rename_i h; cases hx.symm.trans h
  · rename_i h; exact absurd (Option.some.inj (hx.symm.trans h)) hne
  · -- a piece is finished: back to the channel (weight 3 to 2) or returned (3 to 0)
    rename_i i hi
    have hidle : workerWeight .idle < workerWeight (.busy i) := show 2 < 3 by decide
    have hdone : workerWeight .done < workerWeight (.busy i) := show 0 < 3 by decide
    by_cases ho : outs.getD i .fail = .fail
    · rw [finish_fail s w ho]
      exact progressMeasure_set outs s w _ _ _ _ _ hi (Nat.add_lt_add_left hidle _)
    · rw [finish_decisive s w ho]
      split <;> exact progressMeasure_set outs s w _ _ _ _ _ hi (Nat.add_lt_add_left hdone _)
  · -- the next piece is taken: the channel shrinks by one, the weight grows by one
    rename_i hi hlt
    exact progressMeasure_set outs s w _ _ _ _ _ hi
      (show 2 * (outs.length - (s.next + 1)) + 3 < 2 * (outs.length - s.next) + 2 by omega)
  · -- the channel is drained: the idle worker returns (weight 2 to 0)
    rename_i hi _
    exact progressMeasure_set outs s w _ _ _ _ _ hi (Nat.add_lt_add_left (show 0 < 2 by decide) _)

theorem C19_schedule_no_deadlock (s : St) (h : allDone s = false) :
    ∃ (w : Nat) (x : W), s.workers[w]? = some x ∧ x ≠ W.done := by
  simp only [allDone, all_eq_false, beq_iff_eq] at h
  obtain ⟨x, hx, hne⟩ := h
  obtain ⟨w, hw, rfl⟩ := mem_iff_getElem.mp hx
  exact ⟨w, _, getElem?_eq_getElem hw, hne⟩

/-- (first sentence of the property; all pool sets, all feasibility assignments, every
    degree of parallelism, every interleaving) — order the pools as `OrderByWeight` may (any sorted
    permutation), evaluate one template per pool concurrently, wait for the workers.  If the pod opens a node
    from pool `p`, then `p` is feasible and EVERY pool that ranks before `p` — in particular every pool of
    strictly larger weight — is infeasible.  If it opens none, either every pool is infeasible or the
    best-ranked pool that is not infeasible asked to wait for reserved capacity. -/
theorem C19_weight_priority (pools ord : List Pool) (f : Pool → Outcome) (n : Int) (sched : List Nat)
    (hsort : allowedSort before pools ord = true)
    (hdone : allDone (run (ord.map f) (init (effectiveWorkers n) (ord.map f)) sched) = true) :
    match result (run (ord.map f) (init (effectiveWorkers n) (ord.map f)) sched) with
    | some i => ∃ p, ord[i]? = some p ∧ f p = .ok ∧
        ∀ q ∈ pools, (before q p = true ∨ p.weight < q.weight) → f q = .fail
    | none => (∀ q ∈ pools, f q = .fail) ∨
        ∃ p ∈ pools, f p = .reserved ∧ ∀ q ∈ pools, (before q p = true ∨ p.weight < q.weight) → f q = .fail := by
  rw [C19_first_success _ n sched hdone]
  have h := weight_priority_of_filter pools ord (fun _ => true) f (by rwa [filter_eq_self.mpr fun _ _ => rfl])
  generalize sequentialResult _ = res at h ⊢
  cases res with
  | some i =>
    obtain ⟨p, hp, _, _, hok, hall⟩ := h
    exact ⟨p, hp, hok, fun q hq => hall q hq rfl⟩
  | none =>
    exact h.imp (fun h q hq => h q hq rfl) fun ⟨p, hp, _, hres, hall⟩ => ⟨p, hp, hres, fun q hq => hall q hq rfl⟩

/-- the filter of `Provisioner.NewScheduler` keeps exactly the pools the specification
    calls usable: dynamic, not being deleted, and READY in the specification's sense — the pool reports the condition
    `Ready` and reports it as `True` (all condition lists that store a type at most once, as the API's list-map does). -/
theorem C19_eligible_meets_spec (m : Meta)
    (huniq : (m.conds.filter (fun c => c.type == readyType)).length ≤ 1) :
    eligible m = (Spec.PoolPass.readyCondition (m.conds.map (fun c => (c.type, c.status))) && !m.static && !m.deleting) := by
  unfold eligible
  rw [isTrue_ready_eq m.conds huniq]
  cases m.static <;> cases m.deleting <;> cases Spec.PoolPass.readyCondition _ <;> rfl

/-- a pool whose root condition is `False`, is `Unknown`, or is not stored at all
    never becomes a template, whatever its weight. -/
theorem C19_unready_never_eligible (m : Meta) (h : eligible m = true) :
    ∃ c ∈ m.conds, c.type = readyType ∧ c.status = "True" := by
  revert h
  fun_cases eligible m
  · nofun
  · nofun
  · rename_i ht
    intro _
    rw [Bool.not_eq_true, Bool.not_eq_false', isTrue_ready] at ht
    cases hf : m.conds.find? (fun c => c.type == readyType) with
    | none => rw [hf] at ht; cases ht
    | some c =>
      rw [hf] at ht
      exact ⟨c, mem_of_find?_eq_some hf, by simpa using find?_some hf, by simpa [condIsTrue] using ht⟩

/-- (first sentence of the property with its word READY; all pool sets, all stored
    conditions, all feasibility assignments, every degree of parallelism, every interleaving) — filter the pools as
    `Provisioner.NewScheduler` does, order the rest as `OrderByWeight` may, evaluate the templates concurrently.  If the
    pod opens a node from pool `p`, then `p` is an eligible pool (ready, dynamic, not being deleted), it is feasible, and
    EVERY eligible pool ranking before it — in particular every ready pool of larger weight — is infeasible.  A pool
    that is not eligible neither receives the pod nor keeps it away from a lower-weight ready pool. -/
theorem C19_ready_weight_priority (pools ord : List Pool) (info : Pool → Meta) (f : Pool → Outcome) (n : Int)
    (sched : List Nat)
    (hsort : allowedSort before (pools.filter (fun p => eligible (info p))) ord = true)
    (hdone : allDone (run (ord.map f) (init (effectiveWorkers n) (ord.map f)) sched) = true) :
    match result (run (ord.map f) (init (effectiveWorkers n) (ord.map f)) sched) with
    | some i => ∃ p, ord[i]? = some p ∧ p ∈ pools ∧ eligible (info p) = true ∧ f p = .ok ∧
        ∀ q ∈ pools, eligible (info q) = true → (before q p = true ∨ p.weight < q.weight) → f q = .fail
    | none => (∀ q ∈ pools, eligible (info q) = true → f q = .fail) ∨
        ∃ p ∈ pools, eligible (info p) = true ∧ f p = .reserved ∧
          ∀ q ∈ pools, eligible (info q) = true → (before q p = true ∨ p.weight < q.weight) → f q = .fail :=
  C19_first_success _ n sched hdone ▸ weight_priority_of_filter pools ord (fun p => eligible (info p)) f hsort

/-- outcome of evaluating a pool's template for the pod in the round that treats the taint preference as a requirement
    (`strict`) or after `Preferences.Relax` dropped it -/
def roundOutcome (host avoid : Pool → Bool) (strict : Bool) (p : Pool) : Outcome :=
  if host p && (!strict || !avoid p) then .ok else .fail

theorem roundOutcome_ne_reserved (host avoid : Pool → Bool) (strict : Bool) (p : Pool) :
    roundOutcome host avoid strict p ≠ .reserved := by
  unfold roundOutcome
  split <;> simp

/-- a round over pools that own no capacity reservation never ends waiting for one -/
theorem C19_soft_round_never_waits (host avoid : Pool → Bool) (strict : Bool) (ord : List Pool) :
    waits (ord.map (roundOutcome host avoid strict)) = false := by
  unfold waits
  rcases firstDecisive_cases (ord.map (roundOutcome host avoid strict)) with ⟨h, _⟩ | ⟨m, o, h, hm, ho⟩
  · rw [h]
  · rw [h]
    cases o with
    | reserved =>
      have hlt : m < ord.length := by simpa using hm.1
      simp only [getD, getElem?_map, getElem?_eq_getElem hlt, Option.map_some, Option.getD_some] at ho
      exact absurd ho (roundOutcome_ne_reserved _ _ _ _)
    | ok => rfl
    | fail => rfl

/-- (first sentence of the property in the presence of `PreferNoSchedule` taints; all pool
    sets, every `host` / `avoid` assignment, every degree of parallelism, every interleaving of BOTH evaluation rounds)
    — `host q`: pool `q` is able to host the pod (taint preferences aside); `avoid q`: `q` carries a `PreferNoSchedule`
    taint the pod does not tolerate; `tainted q`: it carries one at all.  With the flag of `NewScheduler` being the
    disjunction over all pools:
    * the pod is left without a node ONLY IF NO pool is able to host it — a preference never costs the pod its node,
      wherever in the weight order the soft-tainted pools sit;
    * if it opens a node in `p`, then `p` can host it, and either the preferences were honoured (`p` is not avoided and
      every pool ranking before `p` — every higher-weight pool — cannot host the pod without going against one), or
      they could not be honoured by any pool and every pool ranking before `p` cannot host the pod at all. -/
theorem C19_soft_taint_priority (pools ord : List Pool) (host tainted avoid : Pool → Bool)
    (havoid : ∀ q ∈ pools, avoid q = true → tainted q = true)
    (n : Int) (s1 s2 : List Nat)
    (hsort : allowedSort before pools ord = true)
    (hd1 : allDone (run (ord.map (roundOutcome host avoid true)) (init (effectiveWorkers n) (ord.map (roundOutcome host avoid true))) s1) = true)
    (hd2 : allDone (run (ord.map (roundOutcome host avoid false)) (init (effectiveWorkers n) (ord.map (roundOutcome host avoid false))) s2) = true) :
    match place (tolerateFlag (ord.map tainted))
        (result (run (ord.map (roundOutcome host avoid true)) (init (effectiveWorkers n) (ord.map (roundOutcome host avoid true))) s1))
        (waits (ord.map (roundOutcome host avoid true)))
        (result (run (ord.map (roundOutcome host avoid false)) (init (effectiveWorkers n) (ord.map (roundOutcome host avoid false))) s2)) with
    | some i => ∃ p, ord[i]? = some p ∧ p ∈ pools ∧ host p = true ∧
        ((avoid p = false ∧ ∀ q ∈ pools, (before q p = true ∨ p.weight < q.weight) → (host q && !avoid q) = false) ∨
         ((∀ q ∈ pools, (host q && !avoid q) = false) ∧
          ∀ q ∈ pools, (before q p = true ∨ p.weight < q.weight) → host q = false))
    | none => ∀ q ∈ pools, host q = false := by
  have hkeep : allowedSort before (pools.filter fun _ => true) ord = true := by
    rwa [filter_eq_self.mpr fun _ _ => rfl]
  have h1 := weight_priority_of_test pools ord (fun _ => true) (fun p => host p && !avoid p)
    (roundOutcome host avoid true) (fun _ => rfl) hkeep
  have h2 := weight_priority_of_test pools ord (fun _ => true) host
    (roundOutcome host avoid false) (fun p => by simp [roundOutcome]) hkeep
  rw [C19_soft_round_never_waits, C19_first_success _ n s1 hd1, C19_first_success _ n s2 hd2]
  generalize sequentialResult (ord.map (roundOutcome host avoid true)) = r1 at h1 ⊢
  generalize sequentialResult (ord.map (roundOutcome host avoid false)) = r2 at h2 ⊢
  cases r1 with
  | some i =>
    obtain ⟨p, hp, hpp, hok, hall⟩ := h1
    rw [Bool.true_and, Bool.and_eq_true, Bool.not_eq_true'] at hok
    exact ⟨p, hp, hpp, hok.1, Or.inl ⟨hok.2, hall⟩⟩
  | none =>
    cases hflag : tolerateFlag (ord.map tainted) with
    | true =>
      cases r2 with
      | some i =>
        obtain ⟨p, hp, hpp, hok, hall⟩ := h2
        exact ⟨p, hp, hpp, hok, Or.inr ⟨h1, hall⟩⟩
      | none => exact h2
    | false =>
      -- no pool carries a soft taint, so none is avoided: failing round one was failing to host
      have hperm : pools ~ ord := ((allowedSort_iff _ _ _).mp hsort).1
      have hnone : ∀ q ∈ ord, tainted q = false := by simpa [tolerateFlag] using hflag
      intro q hq
      cases hav : avoid q with
      | false => simpa [hav] using h1 q hq
      | true => exact absurd (havoid q hq hav) (by simp [hnone q (hperm.mem_iff.mp hq)])

/-- the flag of `NewScheduler` does not depend on WHERE in the slice the soft-tainted pools sit (weight order included) -/
theorem C19_tolerate_flag_any_position (a b : List Bool) (h : a ~ b) : tolerateFlag a = tolerateFlag b :=
  h.any_eq

/-- the specification's side: being able to host a pod never depends on a taint preference; honouring the
    preferences only narrows the candidates -/
theorem C19_preference_never_decides_feasibility (p : Spec.PoolPass.PPool) (pod : Spec.PoolPass.PPod) :
    Spec.PoolPass.hostsAt false p pod = Spec.PoolPass.hosts p [pod] ∧
    (Spec.PoolPass.hostsAt true p pod = true → Spec.PoolPass.hosts p [pod] = true) := by
  unfold Spec.PoolPass.hostsAt
  constructor
  · simp
  · intro h; simp only [Bool.and_eq_true] at h; exact h.1

/-- the specification's reading of minValues: the pool offers the pod a node iff some instance type can run it and the
    number of such types meets minValues, unless the BestEffort policy waives it -/
def specOffers (bestEffort : Bool) (minValues nPod : Nat) : Bool :=
  decide (0 < nPod) && (bestEffort || decide (minValues ≤ nPod))

/-- `NewScheduler`'s NodePool-level pre-filter followed by `CanAdd`'s per-pod
    filter (both relaxing minValues exactly under BestEffort) says "this pool offers the pod a node" iff the
    specification does: what the pod leaves of the catalog (`nPod ≤ nPool`) is non-empty and meets minValues, or the
    policy waives them.  In particular the pre-filter, which knows no pod, never removes a pool that could host one. -/
theorem C19_prefilter_never_drops_a_host (bestEffort : Bool) (minValues nPool nPod : Nat) (h : nPod ≤ nPool) :
    poolOffers bestEffort minValues nPool nPod = specOffers bestEffort minValues nPod := by
  unfold poolOffers templateKept filterKeeps specOffers
  cases bestEffort <;> simp <;> omega

/-- (first sentence of the property with minValues; all pool sets, both policies,
    every minValues / catalog assignment, every degree of parallelism, every interleaving) — only the pools that
    survive the pre-filter become templates, in weight order.  If the pod opens a node in `p`, the specification
    agrees that `p` offers it one, and EVERY pool ranking before `p` — template or not — does not; if it opens none,
    no pool does.  A pool whose own catalog cannot meet its minValues keeps its rank under BestEffort. -/
theorem C19_minvalues_weight_priority (pools ord : List Pool) (bestEffort : Bool) (mv nPool nPod : Pool → Nat)
    (hle : ∀ q ∈ pools, nPod q ≤ nPool q) (n : Int) (sched : List Nat)
    (hsort : allowedSort before (pools.filter (fun p => templateKept bestEffort (mv p) (nPool p))) ord = true)
    (hdone : allDone (run (ord.map (fun p => if filterKeeps bestEffort (mv p) (nPod p) then Outcome.ok else .fail))
      (init (effectiveWorkers n) (ord.map (fun p => if filterKeeps bestEffort (mv p) (nPod p) then Outcome.ok else .fail))) sched) = true) :
    match result (run (ord.map (fun p => if filterKeeps bestEffort (mv p) (nPod p) then Outcome.ok else .fail))
      (init (effectiveWorkers n) (ord.map (fun p => if filterKeeps bestEffort (mv p) (nPod p) then Outcome.ok else .fail))) sched) with
    | some i => ∃ p, ord[i]? = some p ∧ p ∈ pools ∧ specOffers bestEffort (mv p) (nPod p) = true ∧
        ∀ q ∈ pools, (before q p = true ∨ p.weight < q.weight) → specOffers bestEffort (mv q) (nPod q) = false
    | none => ∀ q ∈ pools, specOffers bestEffort (mv q) (nPod q) = false := by
  rw [C19_first_success _ n sched hdone]
  have h := weight_priority_of_test pools ord (fun p => templateKept bestEffort (mv p) (nPool p))
    (fun p => filterKeeps bestEffort (mv p) (nPod p)) _ (fun _ => rfl) hsort
  -- a template whose evaluation succeeds: `poolOffers`, which is the specification's `specOffers`
  have hoff : ∀ q ∈ pools, (templateKept bestEffort (mv q) (nPool q) && filterKeeps bestEffort (mv q) (nPod q))
      = specOffers bestEffort (mv q) (nPod q) :=
    fun q hq => C19_prefilter_never_drops_a_host bestEffort (mv q) (nPool q) (nPod q) (hle q hq)
  generalize sequentialResult _ = res at h ⊢
  cases res with
  | some i =>
    obtain ⟨p, hp, hpp, hok, hall⟩ := h
    exact ⟨p, hp, hpp, hoff p hpp ▸ hok, fun q hq hr => hoff q hq ▸ hall q hq hr⟩
  | none => exact fun q hq => hoff q hq ▸ h q hq

/-- the pass specification's "able to host" is the pool being usable, the taints tolerated, and `specOffers` on the
    number of instance types that can run the group -/
theorem C19_hosts_reads_minvalues (p : Spec.PoolPass.PPool) (group : List Spec.PoolPass.PPod) :
    Spec.PoolPass.hosts p group = (Spec.PoolPass.poolUsable p && group.all (Spec.PoolPass.tolerates p) &&
      specOffers p.relaxMin p.minTypes (Spec.PoolPass.optionsFor p group).length) := by
  unfold Spec.PoolPass.hosts Spec.PoolPass.minValuesOk specOffers
  cases h : Spec.PoolPass.optionsFor p group with
  | nil => simp
  | cons a l => simp [Bool.and_assoc]

/-- (all pool sets, all pod batches; `Model/ReservedFallback.pass` = the pass in which
    every pod needs its own node, pools may own a reservation that earlier claims of the pass use up, and pools
    may have a cpu limit that earlier claims of the pass fill) —
    a pod is placed in pool `q` only if `q` can host it and EVERY pool ranking before `q`, in particular every
    higher-weight pool, either cannot host it or has reached its limit by the claims of this pass; a pod is deferred
    for reserved capacity only if the best-ranked pool that can host it and is not full owns a reservation (never
    sent to a lower-weight pool instead, never blocked by a lower-ranked pool's reservation); it is reported
    unschedulable only if every pool cannot host it or is full. -/
theorem C19_reserved_pass_priority (pools : List RPool) (pods : List RPod) (pn : String) (v : Verdict)
    (h : (pn, v) ∈ pass pools pods) :
    ∃ p ∈ pods, p.name = pn ∧ Justified pools pods p v := by
  unfold pass at h
  obtain ⟨_, hspec⟩ := runPods_spec (templates pools) (sortBy_sorted poolBefore_strictWeak pools) (queueOrder pods)
    (initState (templates pools)) (by simp [initState])
  obtain ⟨p, hp, hname, hex⟩ := hspec pn v h
  -- the templates are the pools, a larger weight is tried first, and the final counters are `finalUsed`
  refine ⟨p, mem_queueOrder hp, hname, hex.imp (fun r => (sortBy_perm poolBefore pools).mem_iff.symm)
    (fun r q hrank => hrank.elim id poolBefore_of_weight) ?_⟩
  rintro r ⟨j, hj, hf⟩
  exact ⟨j, hj, usedAt_eq_getD_map _ j ▸ hf⟩

/-- (second sentence of the property) — whatever sorted permutation the unstable sort
    returns, after truncation to `n` every kept type's cheapest compatible available offering is no dearer
    than every dropped type's: truncation never drops a cheaper type in favour of a dearer one; and nothing
    is lost or invented. -/
theorem C19_cheapest_kept (reqs : List Req) (n : Int) (its sorted : List IType)
    (h : allowedSort (cheaper reqs) its sorted = true) :
    (∀ k ∈ sliceTo n sorted, ∀ d ∈ sorted.drop n.toNat, priceLt (effPrice reqs d) (effPrice reqs k) = false) ∧
    (sliceTo n sorted ++ sorted.drop n.toNat) ~ its ∧
    (sliceTo n sorted).length = min n.toNat its.length := by
  obtain ⟨hperm, hsorted⟩ := (allowedSort_iff _ _ _).mp h
  refine ⟨?_, ?_, ?_⟩
  · intro k hk d hd
    exact Pairwise.rel_of_mem_take_of_mem_drop (R := fun a b => cheaper reqs b a = false) hsorted hk hd
  · simp only [sliceTo, take_append_drop]; exact hperm.symm
  · simp [sliceTo, hperm.length_eq]

/-- the canonical model output is one of the allowed ones (the relation is never empty) -/
theorem C19_order_by_price_allowed (reqs : List Req) (its : List IType) :
    allowedSort (cheaper reqs) its (orderByPrice reqs its) = true :=
  (allowedSort_iff _ _ _).mpr ⟨(sortBy_perm _ _).symm, sortBy_sorted (cheaper_strictWeak reqs) its⟩

/-- the `less` closure of `OrderByPrice` (loop over the offerings with a
    running minimum starting at `MaxFloat64`) decides exactly the specification's relation "some usable
    offering of `d` undercuts every usable offering of `k`". -/
theorem C19_less_is_strictly_cheaper (reqs : List Req) (d k : IType) :
    cheaper reqs d k = strictlyCheaper reqs d k := cheaper_eq_strictlyCheaper reqs d k

/-- `Offerings.Available().Compatible(reqs).Cheapest()` yields the price
    `OrderByPrice` ranks by. -/
theorem C19_cheapest_agrees (reqs : List Req) (t : IType) :
    cheapestAvailableCompatible reqs t.offerings = effPrice reqs t := by
  unfold cheapestAvailableCompatible effPrice
  exact (minPriceLoop_eq_cheapestLoop reqs t.offerings none).symm

/-- (refinement to the independent specification; all catalogs with distinct type
    names, all requirements, all `n`, every allowed sort result) — the names kept by
    `OrderByPrice` + `lo.Slice(…, 0, n)` satisfy `cheapestKeptSpec`. -/
theorem C19_truncate_meets_spec (reqs : List Req) (n : Int) (its sorted kept : List IType)
    (hnd : (its.map (·.name)).Nodup)
    (h : allowedTruncation reqs n its sorted kept = true) :
    cheapestKeptSpec reqs n its (kept.map (·.name)) = true := by
  simp only [allowedTruncation, Bool.and_eq_true, beq_iff_eq] at h
  obtain ⟨hsort, rfl⟩ := h
  obtain ⟨hcheap, hperm, hlen⟩ := C19_cheapest_kept reqs n its sorted hsort
  have hp : its ~ sorted := ((allowedSort_iff _ _ _).mp hsort).1
  have hnds : (sorted.map (·.name)).Nodup := (hp.map _).nodup hnd
  have hsub : ∀ x ∈ sliceTo n sorted, x ∈ sorted := fun x hx => mem_of_mem_take hx
  simp only [cheapestKeptSpec, Bool.and_eq_true, all_eq_true, any_eq_true, beq_iff_eq,
    Bool.not_eq_eq_eq_not, Bool.not_true, contains_eq_mem, decide_eq_true_eq, decide_eq_false_iff_not,
    mem_map, mem_filter, forall_exists_index, and_imp, forall_apply_eq_imp_iff₂, length_map]
  refine ⟨⟨⟨?_, ?_⟩, ?_⟩, ?_⟩
  · intro x hx
    exact ⟨x, hp.mem_iff.mpr (hsub x hx), rfl⟩
  · rw [noDuplicates_iff]
    exact hnds.sublist ((take_sublist n.toNat sorted).map _)
  · simpa using hlen
  · intro k hk a ha hak d hd hdk
    have hks : k ∈ sorted := hp.mem_iff.mp hk
    have : a = k := eq_of_name_eq hnds (hsub a ha) hks hak
    subst this
    -- `d` is not among the kept ones, so it is among the dropped ones
    have hds : d ∈ sorted.take n.toNat ++ sorted.drop n.toNat :=
      (take_append_drop n.toNat sorted).symm ▸ hp.mem_iff.mp hd
    have hdd : d ∈ sorted.drop n.toNat := (mem_append.mp hds).resolve_left fun h => hdk ⟨d, h, rfl⟩
    rw [← cheaper_eq_strictlyCheaper]
    exact hcheap a ha d hdd

/-- the instance-type requirement `ToNodeClaim` injects for a dynamic pool
    names the `MaxInstanceTypes` cheapest options. -/
theorem C19_to_nodeclaim_cheapest (reqs : List Req) (its : List IType) (names : List String)
    (hnd : (its.map (·.name)).Nodup)
    (h : toNodeClaimTypes false reqs maxInstanceTypes its = some names) :
    cheapestKeptSpec reqs maxInstanceTypes its names = true := by
  simp only [toNodeClaimTypes, Bool.false_eq_true, if_false, Option.some.injEq] at h
  subst h
  apply C19_truncate_meets_spec reqs _ its (orderByPrice reqs its) _ hnd
  simp only [allowedTruncation, Bool.and_eq_true, beq_iff_eq]
  exact ⟨C19_order_by_price_allowed reqs its, trivial⟩

section Examples

def pA : Pool := { name := [97], weight := 10 }         -- "a", weight 10
def pB : Pool := { name := [98], weight := 10 }         -- "b", weight 10
def pC : Pool := { name := [99], weight := 50 }         -- "c", weight 50
def pD : Pool := { name := [100], weight := 0 }         -- "d", no weight

example : orderByWeight [pA, pD, pC, pB] = [pC, pB, pA, pD] := by decide
example : allowedSort before [pA, pD, pC, pB] [pC, pB, pA, pD] = true := by decide
example : weightOrderSpec [pA, pD, pC, pB] [pC, pB, pA, pD] = true := by decide
example : weightOrderSpec [pA, pD, pC, pB] [pC, pA, pB, pD] = false := by decide

/-- two interleavings of two workers over [fail, ok, ok] (worker 1 publishes index 2 first in the second one,
    worker 0 then overrides it with index 1), and one of eight workers over [fail, reserved, ok] -/
example : let outs := [Outcome.fail, .ok, .ok]
    allDone (run outs (init 2 outs) [0, 1, 0, 0, 1, 0]) = true ∧
    result (run outs (init 2 outs) [0, 1, 0, 0, 1, 0]) = some 1 := by decide
example : let outs := [Outcome.fail, .ok, .ok]
    (run outs (init 2 outs) [0, 0, 0, 1, 1]).idx = some 2 ∧   -- index 2 is published first …
    result (run outs (init 2 outs) [0, 0, 0, 1, 1, 0]) = some 1 := by decide   -- … and replaced by index 1
example : sequentialResult [Outcome.fail, .reserved, .ok] = none := by decide
example : let outs := [Outcome.fail, .reserved, .ok]
    allDone (run outs (init 8 outs) [2, 2, 1, 0, 0, 0, 1, 2]) = true ∧
    result (run outs (init 8 outs) [2, 2, 1, 0, 0, 0, 1, 2]) = none := by decide
example : chosenOk [Outcome.fail, .ok, .ok] (some 2) = false := by decide

/-! the hypotheses of `C19_weight_priority` are met by a concrete run: four pools (two tie at weight 10), the
    weight-50 pool infeasible, two workers, an interleaving in which both feasible tied pools are evaluated
    concurrently; the theorem then yields that the pod lands in "b" (later name among the tied) and that
    "c" (higher weight) is infeasible -/
def fEx (p : Pool) : Outcome := if p.weight = 50 then .fail else .ok
example : allowedSort before [pA, pD, pC, pB] [pC, pB, pA, pD] = true ∧
    allDone (run ([pC, pB, pA, pD].map fEx) (init (effectiveWorkers 2) ([pC, pB, pA, pD].map fEx)) [0, 1, 0, 1, 0, 0]) = true ∧
    result (run ([pC, pB, pA, pD].map fEx) (init (effectiveWorkers 2) ([pC, pB, pA, pD].map fEx)) [0, 1, 0, 1, 0, 0]) = some 1 := by
  decide
example := C19_weight_priority [pA, pD, pC, pB] [pC, pB, pA, pD] fEx 2 [0, 1, 0, 1, 0, 0] (by decide) (by decide)
example : progressMeasure [Outcome.fail, .ok] (step [Outcome.fail, .ok] (init 2 [Outcome.fail, .ok]) 1)
    < progressMeasure [Outcome.fail, .ok] (init 2 [Outcome.fail, .ok]) :=
  C19_schedule_progress _ _ 1 ⟨W.idle, by decide, by decide⟩

/-! soft taints: the weight-50 pool is the only one able to host the pod and carries a `PreferNoSchedule` taint the
    pod does not tolerate; no other pool has one (the lowest-weight pool in particular).  Round one fails everywhere,
    the flag is raised, round two (two workers) publishes index 0: the pod lands in the soft-tainted top pool. -/
def softEx (p : Pool) : Bool := p.weight = 50
def hostEx (p : Pool) : Bool := decide (p.weight = 50) || decide (p.weight = 0)
def hostOnlyTop (p : Pool) : Bool := p.weight = 50

example : placeSequential [true, false] [.fail, .fail] [.ok, .fail] = some 0 := by decide
example : placeSequential [true, false] [.fail, .ok] [.ok, .ok] = some 1 := by decide
example : placeSequential [false, false] [.fail, .fail] [.fail, .fail] = none := by decide
example : placeSequential [true, false] [.fail, .reserved] [.ok, .ok] = none := by decide

example := C19_soft_taint_priority [pA, pD, pC, pB] [pC, pB, pA, pD] hostOnlyTop softEx softEx (by decide) 2
  [0, 1, 0, 1, 0, 1, 0, 1, 0, 1] [0, 1, 0, 1, 1, 1, 1, 1, 1, 1] (by decide) (by decide) (by decide)
example : place (tolerateFlag ([pC, pB, pA, pD].map softEx))
    (result (run ([pC, pB, pA, pD].map (roundOutcome hostOnlyTop softEx true)) (init (effectiveWorkers 2) ([pC, pB, pA, pD].map (roundOutcome hostOnlyTop softEx true))) [0, 1, 0, 1, 0, 1, 0, 1, 0, 1]))
    (waits ([pC, pB, pA, pD].map (roundOutcome hostOnlyTop softEx true)))
    (result (run ([pC, pB, pA, pD].map (roundOutcome hostOnlyTop softEx false)) (init (effectiveWorkers 2) ([pC, pB, pA, pD].map (roundOutcome hostOnlyTop softEx false))) [0, 1, 0, 1, 1, 1, 1, 1, 1, 1])) = some 0 := by decide

/-- what goes wrong when the two sites disagree: with the pre-filter strict and the per-pod filter relaxed, a pool with
    minValues 3 and two usable types is dropped under BestEffort although the specification says it offers a node -/
example : (templateKept false 3 2 && filterKeeps true 3 2) = false ∧ specOffers true 3 2 = true ∧
    poolOffers true 3 2 2 = true ∧ poolOffers false 3 2 2 = false := by decide

def mvEx (p : Pool) : Nat := if p.weight = 50 then 3 else 0
def nEx (p : Pool) : Nat := if p.weight = 50 then 2 else 1
example := C19_minvalues_weight_priority [pA, pD, pC, pB] [pC, pB, pA, pD] true mvEx nEx nEx (fun _ _ => Nat.le_refl _) 2
  [0, 1, 0, 1] (by decide) (by decide)
example : result (run ([pC, pB, pA, pD].map (fun p => if filterKeeps true (mvEx p) (nEx p) then Outcome.ok else .fail))
    (init (effectiveWorkers 2) ([pC, pB, pA, pD].map (fun p => if filterKeeps true (mvEx p) (nEx p) then Outcome.ok else .fail))) [0, 1, 0, 1]) = some 0 := by decide
/-- the same pools under Strict: the weight-50 pool is no template, the pod lands in "b" -/
example : allowedSort before ([pA, pD, pC, pB].filter (fun p => templateKept false (mvEx p) (nEx p))) [pB, pA, pD] = true := by decide

/-! the pool filter on concrete condition lists: healthy pool; NodeClass not resolved yet (Ready Unknown); nothing
    reported yet; Ready False; failing registrations do not make a pool unready; static and deleting pools -/
def condsReady : List Cond := [⟨"NodeClassReady", "True"⟩, ⟨"NodeRegistrationHealthy", "False"⟩, ⟨"Ready", "True"⟩, ⟨"ValidationSucceeded", "True"⟩]
def condsUnknown : List Cond := [⟨"NodeClassReady", "Unknown"⟩, ⟨"Ready", "Unknown"⟩, ⟨"ValidationSucceeded", "True"⟩]
def condsFalse : List Cond := [⟨"NodeClassReady", "False"⟩, ⟨"Ready", "False"⟩, ⟨"ValidationSucceeded", "True"⟩]
example : eligible ⟨condsReady, false, false⟩ = true ∧ eligible ⟨condsUnknown, false, false⟩ = false ∧
    eligible ⟨[], false, false⟩ = false ∧ eligible ⟨condsFalse, false, false⟩ = false ∧
    eligible ⟨condsReady, true, false⟩ = false ∧ eligible ⟨condsReady, false, true⟩ = false := by decide
example : Spec.PoolPass.readyCondition (condsReady.map (fun c => (c.type, c.status))) = true ∧
    Spec.PoolPass.readyCondition (condsUnknown.map (fun c => (c.type, c.status))) = false ∧
    Spec.PoolPass.readyCondition [] = false := by decide
example := C19_eligible_meets_spec ⟨condsUnknown, false, false⟩ (by decide)
/-! `C19_ready_weight_priority` on a concrete run: the weight-50 pool "c" reports Ready=Unknown, so only a, b, d become
    templates; every one of them is feasible and the pod lands in "b" — "c" neither receives it nor blocks it -/
def infoEx (p : Pool) : Meta := if p.weight = 50 then ⟨condsUnknown, false, false⟩ else ⟨condsReady, false, false⟩
example : templatePools infoEx [pA, pD, pC, pB] = [pB, pA, pD] := by decide
example := C19_ready_weight_priority [pA, pD, pC, pB] [pB, pA, pD] infoEx (fun _ => .ok) 2 [0, 1, 0, 1, 0]
  (by decide) (by decide)
example : result (run ([pB, pA, pD].map (fun _ => Outcome.ok)) (init (effectiveWorkers 2) ([pB, pA, pD].map (fun _ => Outcome.ok))) [0, 1, 0, 1, 0]) = some 0 := by
  decide

def o (z c : String) (p : Nat) (a : Bool := true) : Offering := { zone := z, ct := c, price := p, available := a }
def tA : IType := { name := "a", offerings := [o "z1" "spot" 100, o "z2" "on-demand" 900] }
def tB : IType := { name := "b", offerings := [o "z1" "spot" 50 false, o "z1" "on-demand" 300] }
def tC : IType := { name := "c", offerings := [o "z3" "spot" 10] }
def zoneIn12 : List Req := [{ key := zoneKey, op := .isIn, vals := ["z1", "z2"] }]

example : (orderByPrice zoneIn12 [tC, tB, tA]).map (·.name) = ["a", "b", "c"] := by decide
example : effPrice zoneIn12 tC = none ∧ effPrice zoneIn12 tB = some 300 := by decide
example : toNodeClaimTypes false zoneIn12 2 [tC, tB, tA] = some ["a", "b"] := by decide
example : cheapestKeptSpec zoneIn12 2 [tC, tB, tA] ["b", "a"] = true := by decide
example : cheapestKeptSpec zoneIn12 2 [tC, tB, tA] ["c", "a"] = false := by decide
example : cheapestKeptSpec zoneIn12 1 [tC, tB, tA] ["b"] = false := by decide


def rA : RPool := { name := "a", key := [97], weight := 50, team := "", cpu := 4000, alloc := 3900, cap := 1, limit := none }
def rB : RPool := { name := "b", key := [98], weight := 10, team := "", cpu := 4000, alloc := 3900, cap := 0, limit := none }
def rC : RPool := { name := "c", key := [99], weight := 90, team := "", cpu := 4000, alloc := 3900, cap := 0, limit := some 4500 }
/-- two pods, one reserved unit in the higher-weight pool: the second pod waits, it is not sent to `b` -/
example : pass [rB, rA] [{ name := "p0", cpu := 1000, team := "" }, { name := "p1", cpu := 2000, team := "" }]
    = [("p1", .placed "a"), ("p0", .deferred)] := by decide
/-- the top pool's limit admits one node: the second pod legitimately falls back, and the top pool is full at the end -/
example : pass [rB, rC] [{ name := "p0", cpu := 1000, team := "" }, { name := "p1", cpu := 2000, team := "" }]
    = [("p1", .placed "c"), ("p0", .placed "b")] ∧ finalUsed [rB, rC] [{ name := "p0", cpu := 1000, team := "" }, { name := "p1", cpu := 2000, team := "" }] = [1, 1] := by decide

end Examples

/-! ## Recorded finding (kept as a machine-checked record; replayed on the real code by corpus/c19.pass)

Full-strength statement of the first sentence for whole passes: "every pod that is given a new node gets it in
a NodePool able to host it, and no higher-weight ready NodePool can host it".  The ordering half is
`C19_weight_priority`, over an arbitrary feasibility function; feasibility itself (C01) is an input there.  On the
real code the "able to host it" half fails for a pod whose own requirements contradict each other on a label the
NodePool does not define: the specification says no pool can host it, the real provisioner opens a NodeClaim. -/

def witnessPool : Spec.PoolPass.PPool :=
  { name := "np-1", weight := 0, ready := true, static := false, deleting := false, reqs := [], labels := [],
    taints := [], types := [{ name := "t00", cpu := 1000, pods := 1, overhead := 0,
                              offerings := [o "z1" "on-demand" 1024] }] }
def witnessPod : Spec.PoolPass.PPod :=
  { name := "pod-04", cpu := 500, tol := [],
    reqs := [{ key := "example.com/team", op := .isIn, vals := ["a"] },
             { key := "example.com/team", op := .doesNotExist, vals := [] }] }

/-- no node of the witness pool satisfies the witness pod (the real code opens one: known finding
    C19-unsatisfiable-pod-gets-node) … -/
theorem C19_witness_unsatisfiable_pod : Spec.PoolPass.hosts witnessPool [witnessPod] = false := by decide
/-- … while each half of the contradiction alone is handled as the specification says -/
theorem C19_witness_control :
    Spec.PoolPass.hosts witnessPool [{ witnessPod with reqs := witnessPod.reqs.drop 1 }] = true ∧
    Spec.PoolPass.hosts witnessPool [{ witnessPod with reqs := witnessPod.reqs.take 1 }] = false := by decide

end Karp.C19
