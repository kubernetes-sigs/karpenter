/-
C08 — Replacements are ready before removal; failed actions roll back.

Property theorems (helper lemmas: `Karp/Proofs/OrchQueueApi.lean`, `OrchQueueCommands.lean`, `OrchQueue.lean`).
Model: `Karp/Model/OrchQueue.lean` — `Queue.StartCommand / Reconcile / waitOrTerminate / CompleteCommand`, the
       disruption controller's cleanup, the cluster marks; every API call is a call site whose occurrences
       fail according to a fault plan that is part of the world.
Spec:  `Karp/Spec/OrchQueue.lean` — the observer's clauses (evaluated by the driver on what the real code did).

Every theorem below quantifies over ALL worlds `w` (hence all fault plans, all call counters, all clock
values, all numbers of candidates / commands / replacements, all retry budgets) or over all histories
(`List Step`, incl. restarts and environment steps) from an initial world.
-/
import Karp.Proofs.OrchQueue
import Karp.Spec.OrchQueue

namespace Karp.C08
open Karp.OrchQueue

/-! ## Fact expectations over the regenerated source facts -/

/-- `StartCommand`: refuse queued candidates → taint / mark candidates → create the replacements →
    `MarkForDeletion` → enter the queue (`Lock` guards the map insertion and the channel send) -/
theorem fact_startCommand_order :
    Karp.Gen.OrchQueue.startCommandOrder =
      ["HasAny", "markDisrupted", "createReplacementNodeClaims", "MarkForDeletion", "Lock"] := rfl

/-- `waitOrTerminate`: the replacements are read (and the cluster state consulted) before any Delete is issued -/
theorem fact_waitOrTerminate_order :
    Karp.Gen.OrchQueue.waitOrTerminateOrder = ["kubeClient.Get", "NodeClaimExists", "kubeClient.Delete"] := rfl

/-- `Reconcile`: on an unrecoverable error the taint and the condition are removed, then the command is completed -/
theorem fact_reconcile_order :
    Karp.Gen.OrchQueue.reconcileOrder =
      ["waitOrTerminate", "IsUnrecoverableError", "RequireNoScheduleTaint", "ClearNodeClaimsCondition", "CompleteCommand"] := rfl

/-- `CompleteCommand` unmarks (for a failed command) before it drops the queue entries -/
theorem fact_completeCommand_order :
    Karp.Gen.OrchQueue.completeCommandOrder = ["UnmarkForDeletion", "delete"] := rfl

/-- the controller's cleanup: sync gate, skip queued / marked nodes, untaint, clear the condition, only then disrupt -/
theorem fact_controller_order :
    Karp.Gen.OrchQueue.controllerOrder =
      ["Synced", "HasAny", "MarkedForDeletion", "RequireNoScheduleTaint", "ClearNodeClaimsCondition", "disrupt"] := rfl

/-- the cluster marks and the queue entries are set / removed for EVERY candidate of a command: `MarkForDeletion`,
    `UnmarkForDeletion` and `CompleteCommand` each consist of one loop over the listed provider ids / candidates that no
    statement leaves early (an id the cluster state does not know is skipped, the remaining ids are still visited) — the
    model folds over all live candidates (`startCommand`, `failCommand`, `succeedCommand`) -/
theorem fact_mark_loops_total :
    Karp.Gen.OrchQueue.markForDeletionLoops = 1 ∧ Karp.Gen.OrchQueue.markForDeletionLoopExits = 0 ∧
    Karp.Gen.OrchQueue.unmarkForDeletionLoops = 1 ∧ Karp.Gen.OrchQueue.unmarkForDeletionLoopExits = 0 ∧
    Karp.Gen.OrchQueue.completeCommandLoops = 1 ∧ Karp.Gen.OrchQueue.completeCommandLoopExits = 0 := ⟨rfl, rfl, rfl, rfl, rfl, rfl⟩

/-- `NewCandidate` consults the queue before anything else -/
theorem fact_newCandidate_order :
    Karp.Gen.OrchQueue.newCandidateOrder = ["HasAny", "ValidateNodeDisruptable", "ValidatePodsDisruptable"] := rfl

/-- the retry window is a proper clamp -/
theorem fact_retry_window :
    0 < Karp.Gen.OrchQueue.minRetryDurationNs ∧
    Karp.Gen.OrchQueue.minRetryDurationNs ≤ Karp.Gen.OrchQueue.maxRetryDurationNs ∧
    0 < Karp.Gen.OrchQueue.retryDurationScaleNs := by decide

/-- the shape of the timeout handling is one the model knows: the one at the pinned commit (0: a deferred wrapper
    turns EVERY result of a late pass into an unrecoverable error — finding F1) or the repaired one (2: the window is
    only consulted while waiting) -/
theorem fact_timeout_mode :
    Karp.Gen.OrchQueue.timeoutMode = 0 ∨ Karp.Gen.OrchQueue.timeoutMode = 2 := by decide

/-- the mode the code is in, as the driver instantiates the model -/
def codeMode : TimeoutMode := TimeoutMode.ofCode Karp.Gen.OrchQueue.timeoutMode

/-! ## Invariant of reachable worlds -/

/-- bookkeeping of the commands (`CmdsOK`: a latch is only set for a replacement that reported Initialized, a command with
    Deletes on its record has every replacement latched) and every queue entry names an existing command -/
def Inv (w : World) : Prop :=
  CmdsOK w ∧ ∀ i K, (candAt w i).owner = some K → K < w.cmds.length

theorem inv_init (ncands : Nat) (cmds : List (List Nat × Nat)) (faults : List Fault) (missing : List Nat)
    (retrySteps : Nat) (mode : TimeoutMode) : Inv (initWorld ncands cmds faults missing retrySteps mode) := by
  constructor
  · intro c hc
    simp only [initWorld, List.mem_map] at hc
    obtain ⟨⟨cs, n⟩, _, e⟩ := hc
    subst e
    refine ⟨fun r hr => ?_, fun h => by cases h⟩
    simp only [List.mem_replicate] at hr
    rw [hr.2]
    exact ⟨(fun h => by cases h), (fun h => by cases h), (fun h => by cases h), (fun h => absurd rfl h)⟩
  · intro i K h
    simp only [candAt, initWorld, List.getElem?_replicate] at h
    split at h <;> cases h

theorem inv_step {w : World} (h : Inv w) (s : Step) : Inv (step w s).2.2 := by
  obtain ⟨hc, ho⟩ := h
  have hcar := carried_step w s
  refine ⟨hcar.1 hc, fun j K hK => ?_⟩
  rw [hcar.2.1]
  rcases step_owner w s j with e | ⟨e, _⟩ | ⟨k, via, _, _, hlt, _, _, e⟩
  · rw [e] at hK; exact ho j K hK
  · rw [e] at hK; cases hK
  · rw [e] at hK; cases hK; exact hlt

theorem inv_run {w : World} (h : Inv w) : ∀ ss : List Step, Inv (run w ss) := by
  intro ss
  induction ss generalizing w with
  | nil => exact h
  | cons s ss ih => exact ih (inv_step h s)

/-! ## 1. Replacements are ready before removal -/

/-- **C08_delete_only_by_owning_pass** — in every world, under every fault plan: a Delete on a candidate NodeClaim is
    issued only by a queue pass, for a live candidate of the command the queue resolves the item to, and only in a pass
    in which every replacement of that command is latched-ready or reports Initialized right now; the replacements are
    read before the first Delete (the recorded snapshot is their API state). -/
theorem C08_delete_only_by_owning_pass (w : World) (s : Step) (e : DelEvent) (he : e ∈ (step w s).2.1) :
    ∃ k on ci K, s = .reconcile k on ∧ (candAt w ci).owner = some K ∧ e.cand ∈ (cmdAt w K).live ∧
      e.repls = (cmdAt w K).repls.map (·.api) ∧
      ∀ r ∈ (cmdAt w K).repls, r.latched = true ∨ r.api = .init := by
  cases s with
  | reconcile k on =>
    obtain ⟨ci, K, hK, h1, h2, h3⟩ := course_events (step_course w k on) e he
    exact ⟨k, on, ci, K, rfl, hK, h1, h2, h3⟩
  | start _ _ | advance _ | env _ _ _ | candGone _ | sync | restart | cleanup => simp [step] at he

/-- **C08_delete_after_ready** — in every reachable world: when a Delete on a candidate NodeClaim is issued, EVERY
    replacement of the acting command has been created and has reported Initialized (at that instant or, latched, at an
    earlier pass). -/
theorem C08_delete_after_ready {w : World} (hinv : Inv w) (s : Step) (e : DelEvent) (he : e ∈ (step w s).2.1) :
    ∃ ci K, (candAt w ci).owner = some K ∧ e.cand ∈ (cmdAt w K).live ∧
      e.repls.length = (cmdAt w K).repls.length ∧
      ∀ r ∈ (cmdAt w K).repls, r.created = true ∧ r.everInit = true := by
  obtain ⟨_, _, ci, K, _, hK, h1, h2, h3⟩ := C08_delete_only_by_owning_pass w s e he
  have hlt := hinv.2 ci K hK
  have hok := hinv.1 _ (cmdAt_mem hlt)
  refine ⟨ci, K, hK, h1, by rw [h2]; simp, fun r hr => ?_⟩
  have hro := hok.1 r hr
  have hev : r.everInit = true := (h3 r hr).elim hro.latch hro.init
  exact ⟨hro.ever hev, hev⟩

/-- … over all histories from any initial configuration -/
theorem C08_delete_after_ready_hist (ncands : Nat) (cmds : List (List Nat × Nat)) (faults : List Fault)
    (missing : List Nat) (retrySteps : Nat) (mode : TimeoutMode) (ss : List Step) (s : Step) (e : DelEvent)
    (he : e ∈ (step (run (initWorld ncands cmds faults missing retrySteps mode) ss) s).2.1) :
    let w := run (initWorld ncands cmds faults missing retrySteps mode) ss
    ∃ ci K, (candAt w ci).owner = some K ∧ e.cand ∈ (cmdAt w K).live ∧
      e.repls.length = (cmdAt w K).repls.length ∧
      ∀ r ∈ (cmdAt w K).repls, r.created = true ∧ r.everInit = true :=
  C08_delete_after_ready (inv_run (inv_init ..) ss) s e he

/-
Full-strength ("strict") statement, as the property text reads literally:

    theorem C08_delete_after_ready_strict … : ∀ a ∈ e.repls, a = .init
      -- at the instant of the Delete every replacement exists and reports Initialized

The code violates it (finding F2, replayed on the real queue: corpus/c08.findings/002): `Replacement.Initialized`
latches readiness, a latched replacement is never looked at again, so one that vanishes after it was latched does
not stop the Deletes.  Proved instead: the statement under exactly the excluded guard, and its negation on the witness.
-/

/-- **C08_delete_after_ready_strict_partial** — if no latched replacement of the acting command has since vanished or
    regressed (every latched replacement still reports Initialized), then at the instant of the Delete every replacement
    exists and reports Initialized. -/
theorem C08_delete_after_ready_strict_partial (w : World) (s : Step) (e : DelEvent) (he : e ∈ (step w s).2.1)
    (hfresh : ∀ c ∈ w.cmds, ∀ r ∈ c.repls, r.latched = true → r.api = .init)
    (hvalid : ∀ i K, (candAt w i).owner = some K → K < w.cmds.length) :
    ∀ a ∈ e.repls, a = .init := by
  obtain ⟨_, _, ci, K, _, hK, _, h2, h3⟩ := C08_delete_only_by_owning_pass w s e he
  have hmem := cmdAt_mem (hvalid ci K hK)
  intro a ha
  rw [h2, List.mem_map] at ha
  obtain ⟨r, hr, e⟩ := ha
  subst e
  rcases h3 r hr with hl | hi
  · exact hfresh _ hmem r hr hl
  · exact hi

def f2World : World := initWorld 1 [([0], 2)] [] [] 4 .wrapAll
def f2History : List Step :=
  [.start 0 false, .env .init 0 0, .reconcile 0 0, .env .vanish 0 0, .env .init 0 1]

/-- **C08_delete_after_ready_strict_fails** — the witness of F2: replacement 0 is latched by a first pass, vanishes,
    replacement 1 initializes; the next pass issues the Delete while replacement 0 does not exist. -/
theorem C08_delete_after_ready_strict_fails :
    (step (run f2World f2History) (.reconcile 0 0)).2.1 = [{ cand := 0, repls := [.absent, .init], ok := true }] ∧
    (step (run f2World f2History) (.reconcile 0 0)).1 = .succeeded := by decide

/-! ## 2. Failed actions roll back -/

/-- the ghost flag `issued` is complete: a pass that issues a Delete for command `K` sets it … -/
theorem C08_issued_complete {w : World} (hinv : Inv w) (k on : Nat) (hne : (step w (.reconcile k on)).2.1 ≠ []) :
    ∃ ci K, (candAt w ci).owner = some K ∧ (cmdAt (step w (.reconcile k on)).2.2 K).issued = true := by
  obtain ⟨ci, K, hK, h⟩ := course_issued (step_course w k on) hne
  exact ⟨ci, K, hK, h⟩

/-- … and is never reset, by any step -/
theorem C08_issued_monotone (w : World) (s : Step) (K : Nat) (h : (cmdAt w K).issued = true) :
    (cmdAt (step w s).2.2 K).issued = true := (carried_step w s).2.2 K h

/-
Full-strength statement: an action the queue gives up has issued no Delete —

    theorem C08_rollback_no_delete … (hfail : (step w (.reconcile k on)).1 = .failed) :
        (cmdAt (step w (.reconcile k on)).2.2 K).issued = false

The code at the pinned commit violates it (finding F1, replayed on the real queue: corpus/c08.findings/001): the
deferred timeout wrapper of `waitOrTerminate` also wraps the result of a pass that DID issue the Deletes.
-/

/-- **C08_rollback_no_delete_partial** — in every reachable world, whatever the faults: if the queue gives a command up
    although Deletes are on its record, then that pass was later than the retry window, every replacement was ready in
    it (it reached the delete phase) and the code applies the window to the delete phase.  Equivalently: a replacement
    that disappears, or a timeout while replacements are still being waited for, ends an action that has deleted
    nothing. -/
theorem C08_rollback_no_delete_partial {w : World} (hinv : Inv w) (k on : Nat)
    (hfail : (step w (.reconcile k on)).1 = .failed) :
    ∃ ci K, (candAt w ci).owner = some K ∧
      ((cmdAt (step w (.reconcile k on)).2.2 K).issued = true →
        w.mode ≠ .waitOnly ∧ timedOut w (cmdAt w K) = true ∧
          ∀ r ∈ (cmdAt w K).repls, r.latched = true ∨ r.api = .init) := by
  obtain ⟨ci, K, hK, h⟩ := failed_pass w k on hfail
  have hlt := hinv.2 ci K hK
  exact ⟨ci, K, hK, h.record (hinv.1 _ (cmdAt_mem hlt))⟩

/-- **C08_rollback_no_delete_fixed** — with the retry window consulted only while waiting (`fixes/C08-…patch`; the
    regenerated fact `timeoutMode = 2`) the full statement holds: a command the queue gives up has no Delete on its record. -/
theorem C08_rollback_no_delete_fixed {w : World} (hinv : Inv w) (hmode : w.mode = .waitOnly) (k on : Nat)
    (hfail : (step w (.reconcile k on)).1 = .failed) :
    ∃ ci K, (candAt w ci).owner = some K ∧ (cmdAt (step w (.reconcile k on)).2.2 K).issued = false := by
  obtain ⟨ci, K, hK, h⟩ := C08_rollback_no_delete_partial hinv k on hfail
  exact ⟨ci, K, hK, Bool.eq_false_iff.mpr fun hi => (h hi).1 hmode⟩

/-- **C08_rollback_no_delete_in_window** — in every mode: a command given up before its retry window has passed
    (a replacement disappeared) has no Delete on its record. -/
theorem C08_rollback_no_delete_in_window {w : World} (hinv : Inv w) (k on : Nat)
    (hfail : (step w (.reconcile k on)).1 = .failed)
    (hwin : ∀ K, timedOut w (cmdAt w K) = false) :
    ∃ ci K, (candAt w ci).owner = some K ∧ (cmdAt (step w (.reconcile k on)).2.2 K).issued = false := by
  obtain ⟨ci, K, hK, h⟩ := C08_rollback_no_delete_partial hinv k on hfail
  exact ⟨ci, K, hK, Bool.eq_false_iff.mpr fun hi => Bool.false_ne_true ((hwin K).symm.trans (h hi).2.1)⟩

def f1World : World := initWorld 1 [([0], 1)] [] [] 4 .wrapAll
def f1History : List Step := [.start 0 false, .advance 600000000001, .env .init 0 0]

/-- **C08_rollback_no_delete_fails** — the witness of F1 (mode of the pinned commit): the replacement reports
    Initialized 1 ns after the 10-minute window; the pass issues the Delete, is reported failed, and the candidate is
    unmarked, untainted and its condition cleared although its NodeClaim is being deleted. -/
theorem C08_rollback_no_delete_fails :
    (step (run f1World f1History) (.reconcile 0 0)).1 = .failed ∧
    (step (run f1World f1History) (.reconcile 0 0)).2.1 = [{ cand := 0, repls := [.init], ok := true }] ∧
    (step (run f1World f1History) (.reconcile 0 0)).2.2.cands =
      [{ taint := false, cond := false, deleting := true, mark := false, owner := none }] := by decide

/-- the same history in the repaired mode succeeds -/
theorem C08_rollback_witness_fixed :
    (step (run { f1World with mode := .waitOnly } f1History) (.reconcile 0 0)).1 = .succeeded := by decide

/-- **C08_failed_releases** — in every world: when the queue gives a command up, each of its live candidates leaves the
    queue and is unmarked at once (it counts as schedulable capacity again); no other node's queue entry or mark changes. -/
theorem C08_failed_releases (w : World) (k on : Nat) (hfail : (step w (.reconcile k on)).1 = .failed) :
    ∃ ci K, (candAt w ci).owner = some K ∧ ∀ j,
      ((j ∈ (cmdAt w K).live ∧ j < w.cands.length) →
        (candAt (step w (.reconcile k on)).2.2 j).owner = none ∧ (candAt (step w (.reconcile k on)).2.2 j).mark = false) ∧
      (¬ (j ∈ (cmdAt w K).live ∧ j < w.cands.length) →
        (candAt (step w (.reconcile k on)).2.2 j).owner = (candAt w j).owner ∧
        (candAt (step w (.reconcile k on)).2.2 j).mark = (candAt w j).mark) := by
  obtain ⟨ci, K, hK, h⟩ := failed_pass w k on hfail
  refine ⟨ci, K, hK, fun j => ⟨fun hj => ?_, fun hj => ?_⟩⟩
  · rw [(h.shape j).1, (h.shape j).2, if_pos hj, if_pos hj]; exact ⟨rfl, rfl⟩
  · rw [(h.shape j).1, (h.shape j).2, if_neg hj, if_neg hj]; exact ⟨rfl, rfl⟩

/-- **C08_failed_rolls_back_at_once** — if no fault interferes with the failing pass (quiet plan), the disruption taint
    and the DisruptionReason condition of every live candidate that still exists are removed by that very pass — also
    when other candidates of the command have meanwhile gone away (their NotFound is not an error and stops nothing).
    (Under faults the removal is left to the next cleanup pass: `C08_cleanup_returns_to_service`.) -/
theorem C08_failed_rolls_back_at_once {w : World} (hq : Quiet w) (hr : 0 < w.retrySteps) (k on : Nat)
    (hfail : (step w (.reconcile k on)).1 = .failed) :
    ∃ ci K, (candAt w ci).owner = some K ∧ ∀ j ∈ (cmdAt w K).live, (candAt w j).gone = false →
      (candAt (step w (.reconcile k on)).2.2 j).taint = false ∧ (candAt (step w (.reconcile k on)).2.2 j).cond = false := by
  obtain ⟨ci, K, hK, h⟩ := failed_pass w k on hfail
  exact ⟨ci, K, hK, h.quiet ⟨hq, hr⟩⟩

/-- **C08_rejected_start_inert** — in every world: a start that is not accepted (candidate already queued or not
    disruptable, a candidate could not be tainted / marked, a replacement could not be created) changes no queue entry
    and no deletion mark: nothing is in the queue for it, so it can delete nothing, and the nodes stay schedulable capacity. -/
theorem C08_rejected_start_inert (w : World) (k : Nat) (via : Bool) (hrej : (step w (.start k via)).1 ≠ .ok) :
    ∀ j, (candAt (step w (.start k via)).2.2 j).owner = (candAt w j).owner ∧
         (candAt (step w (.start k via)).2.2 j).mark = (candAt w j).mark := by
  rw [step_start] at hrej ⊢
  rcases startCommand_owner_mark k via (reset w) with ⟨_, hk⟩ | ⟨hok, _⟩
  · exact hk
  · exact absurd hok hrej

/-- **C08_cleanup_returns_to_service** — once the faults have stopped (no fault of the plan applies to any later call),
    a cleanup pass on a synced cluster state succeeds and afterwards every node that still exists and is neither in the
    queue, nor marked for deletion, nor going away carries no disruption taint and no DisruptionReason condition. -/
theorem C08_cleanup_returns_to_service {w : World} (hq : Quiet w) (hr : 0 < w.retrySteps) (hs : synced w = true) :
    (step w .cleanup).1 = .ok ∧
    ∀ i, i < w.cands.length → (candAt w i).owner = none → (candAt w i).mark = false → (candAt w i).deleting = false →
      (candAt w i).gone = false →
      (candAt (step w .cleanup).2.2 i).taint = false ∧ (candAt (step w .cleanup).2.2 i).cond = false :=
  cleanup_quiet (calm_reset hq hr) hs

/-- **C08_cleanup_keeps_actions** — under every fault plan the cleanup pass writes nothing but taints and conditions:
    queue entries, deletion marks, deletions and the commands are untouched. -/
theorem C08_cleanup_keeps_actions (w : World) :
    (step w .cleanup).2.2.cmds = w.cmds ∧
    ∀ j, (candAt (step w .cleanup).2.2 j).owner = (candAt w j).owner ∧
         (candAt (step w .cleanup).2.2 j).mark = (candAt w j).mark ∧
         (candAt (step w .cleanup).2.2 j).deleting = (candAt w j).deleting := by
  rw [step_cleanup]
  have he := eff_cleanup (reset w)
  have hk := keep_eff (he.mono tc_api)
  exact ⟨he.frame.1, fun j => ⟨hk.owner j, hk.mark j, he.field (·.deleting) (fun _ hf => hf.2) j⟩⟩

/-- **C08_restart_forgets** — a restart leaves no queue entry and no in-memory mark behind -/
theorem C08_restart_forgets (w : World) (j : Nat) :
    (candAt (step w .restart).2.2 j).owner = none ∧ (candAt (step w .restart).2.2 j).mark = false := by
  exact restart_cand (reset w) j

/-! ## 3. A node is never the subject of two concurrent actions -/

/-- **C08_exclusive** — in every world, for every step and every node `j`:
    * a node that is in the queue for command `K` stays there, or is released (by a completing pass or a restart);
      no step hands it to another command;
    * a node enters the queue only through an accepted start of a command that lists it, and only if it was in the
      queue for nobody. -/
theorem C08_exclusive (w : World) (s : Step) (j K : Nat) (h : (candAt w j).owner = some K) :
    (candAt (step w s).2.2 j).owner = some K ∨
    ((candAt (step w s).2.2 j).owner = none ∧
      (s = .restart ∨ ∃ k on, s = .reconcile k on ∧ ((step w s).1 = .failed ∨ (step w s).1 = .succeeded))) := by
  rcases step_owner w s j with e | e | ⟨k, via, _, _, _, _, hnone, _⟩
  · exact Or.inl (e.trans h)
  · exact Or.inr e
  · rw [hnone] at h; cases h

/-- **C08_enter_only_by_start** — the second half of exclusivity -/
theorem C08_enter_only_by_start (w : World) (s : Step) (j k : Nat) (h0 : (candAt w j).owner = none)
    (h1 : (candAt (step w s).2.2 j).owner = some k) :
    ∃ via, s = .start k via ∧ (step w s).1 = .ok ∧ j ∈ (cmdAt w k).cands := by
  rcases step_owner w s j with e | ⟨e, _⟩ | ⟨k', via, hs, hok, _, hm, _, e⟩
  · rw [e, h0] at h1; cases h1
  · rw [e] at h1; cases h1
  · rw [e] at h1; cases h1
    exact ⟨via, hs, hok, hm⟩

/-- **C08_start_refuses_queued** — a start whose command lists a node that is in the queue is rejected -/
theorem C08_start_refuses_queued (w : World) (k : Nat) (via : Bool) (j K : Nat)
    (hj : j ∈ (cmdAt w k).cands) (h : (candAt w j).owner = some K) : (step w (.start k via)).1 ≠ .ok := by
  intro hok
  rw [(accepted_start_free hok j hj).1] at h
  cases h

/-! ## 4. Candidates that go away while an action is in flight -/

/-- **C08_gone_keeps_actions** — a candidate that goes away on its own (Node and NodeClaim removed, cluster state
    informed) issues no Delete, changes no command and no queue entry (the queue is not told: the completing pass of the
    owning action releases the entry like every other), and touches no other candidate. -/
theorem C08_gone_keeps_actions (w : World) (i : Nat) :
    (step w (.candGone i)).2.1 = [] ∧ (step w (.candGone i)).2.2.cmds = w.cmds ∧
    ∀ j, (candAt (step w (.candGone i)).2.2 j).owner = (candAt w j).owner ∧
         (j ≠ i → candAt (step w (.candGone i)).2.2 j = candAt w j) :=
  ⟨rfl, candGone_cmds i (reset w), fun j => ⟨(candGone_cand i (reset w) j).1, (candGone_cand i (reset w) j).2⟩⟩

/-- **C08_gone_leaves_nothing** — what is left of a candidate that went away carries no taint, no condition and no
    deletion mark: there is nothing to roll back for it and nothing that could keep it out of (or in) the capacity. -/
theorem C08_gone_leaves_nothing (w : World) (i : Nat) (h : (step w (.candGone i)).1 = .ok) :
    (candAt (step w (.candGone i)).2.2 i).gone = true ∧ (candAt (step w (.candGone i)).2.2 i).taint = false ∧
    (candAt (step w (.candGone i)).2.2 i).cond = false ∧ (candAt (step w (.candGone i)).2.2 i).mark = false ∧
    (candAt (step w (.candGone i)).2.2 i).deleting = false ∧
    (candAt (step w (.candGone i)).2.2 i).owner = (candAt w i).owner := by
  rw [show (step w (.candGone i)).2.2 = (candGone i (reset w)).2 from rfl, candGone_self i (reset w) h]
  exact ⟨rfl, rfl, rfl, rfl, rfl, rfl⟩

/-- **C08_start_refuses_gone** — a node the cluster state no longer knows is nobody's candidate: a start whose command
    lists it is rejected (and is inert by `C08_rejected_start_inert`). -/
theorem C08_start_refuses_gone (w : World) (k : Nat) (via : Bool) (j : Nat)
    (hj : j ∈ (cmdAt w k).cands) (h : (candAt w j).gone = true) : (step w (.start k via)).1 ≠ .ok := by
  intro hok
  rw [(accepted_start_free hok j hj).2] at h
  cases h

/-- **C08_rollback_complete_for_survivors** — when the queue gives a command up and no fault interferes with that pass,
    EVERY live candidate that still exists is back in service at once — out of the queue, unmarked (schedulable capacity
    again), untainted, condition cleared — no matter which other candidates of the command have gone away meanwhile and
    where they stand in the command's candidate list (`UnmarkForDeletion` skips an id the cluster state does not know
    and moves on to the next; a NotFound from the API is not an error). -/
theorem C08_rollback_complete_for_survivors {w : World} (hq : Quiet w) (hr : 0 < w.retrySteps) (k on : Nat)
    (hfail : (step w (.reconcile k on)).1 = .failed) :
    ∃ ci K, (candAt w ci).owner = some K ∧
      ∀ j ∈ (cmdAt w K).live, j < w.cands.length → (candAt w j).gone = false →
        (candAt (step w (.reconcile k on)).2.2 j).owner = none ∧ (candAt (step w (.reconcile k on)).2.2 j).mark = false ∧
        (candAt (step w (.reconcile k on)).2.2 j).taint = false ∧ (candAt (step w (.reconcile k on)).2.2 j).cond = false := by
  obtain ⟨ci, K, hK, h⟩ := failed_pass w k on hfail
  refine ⟨ci, K, hK, fun j hj hlt hg => ?_⟩
  rw [(h.shape j).1, (h.shape j).2, if_pos ⟨hj, hlt⟩, if_pos ⟨hj, hlt⟩]
  exact ⟨rfl, rfl, h.quiet ⟨hq, hr⟩ j hj hg⟩

/-! ## 5. Commands computed by a method in one disruption pass (`Controller.disrupt` → `StartCommand` for each) -/

/-- **C08_replacements_not_shared** — whatever happens to a replacement of ANOTHER command (it launches, initializes,
    vanishes), the replacements command `K` waits for - their names, latches and API states - are untouched -/
theorem C08_replacements_not_shared (w : World) (op : EnvOp) (k i K : Nat) (h : k ≠ K) :
    cmdAt (step w (.env op k i)).2.2 K = cmdAt w K := by
  show cmdAt (envStep op k i (reset w)).2 K = cmdAt w K
  fun_cases envStep op k i (reset w) with
  | case1 | case2 => rfl
  | case3 => exact (cmdAt_setCmd _ k K _).trans (if_neg fun hh => h hh.1.symm)

/-- … hence a queue pass for command `K` right after such an event issues a Delete only if `K`'s OWN replacements were
    all ready before the event: readiness of a replacement launched for another command never releases a candidate -/
theorem C08_other_commands_replacement_releases_nothing (w : World) (op : EnvOp) (k i : Nat) (s : Step) (e : DelEvent)
    (he : e ∈ (step (step w (.env op k i)).2.2 s).2.1) :
    ∃ ci K, (candAt (step w (.env op k i)).2.2 ci).owner = some K ∧
      (k ≠ K → ∀ r ∈ (cmdAt w K).repls, r.latched = true ∨ r.api = .init) := by
  obtain ⟨_, _, ci, K, _, hK, _, _, h3⟩ := C08_delete_only_by_owning_pass _ s e he
  exact ⟨ci, K, hK, fun hne => by rw [C08_replacements_not_shared w op k i K hne] at h3; exact h3⟩

/-- **C08_pass_delete_after_ready_hist** — over all histories WITH DISRUPTION PASSES (every pass starting the commands a
    method computed, however many), from any initial configuration: a Delete is issued only with every replacement of the
    owning command created and Initialized -/
theorem C08_pass_delete_after_ready_hist (ncands : Nat) (cmds : List (List Nat × Nat)) (faults : List Fault)
    (missing : List Nat) (retrySteps : Nat) (mode : TimeoutMode) (ns : List Nat) (ps : List PStep) (s : Step) (e : DelEvent)
    (he : e ∈ (step (run (initWorld ncands cmds faults missing retrySteps mode) (expand 0 ns ps)) s).2.1) :
    let w := run (initWorld ncands cmds faults missing retrySteps mode) (expand 0 ns ps)
    ∃ ci K, (candAt w ci).owner = some K ∧ e.cand ∈ (cmdAt w K).live ∧
      e.repls.length = (cmdAt w K).repls.length ∧
      ∀ r ∈ (cmdAt w K).repls, r.created = true ∧ r.everInit = true :=
  C08_delete_after_ready_hist ncands cmds faults missing retrySteps mode (expand 0 ns ps) s e he

/-- a pass only ever starts commands: it issues no Delete itself and hands no queued node to another command -/
theorem C08_pass_only_starts (first n : Nat) (s : Step) (hs : s ∈ passSteps first n) :
    ∃ j, j < n ∧ s = .start (first + j) true := by
  unfold passSteps at hs
  simp only [List.mem_map, List.mem_range] at hs
  obtain ⟨j, hj, rfl⟩ := hs
  exact ⟨j, hj, rfl⟩

/-- the commands of one pass are numbered consecutively and are pairwise distinct -/
theorem C08_pass_commands_distinct (first n a b : Nat) (ha : a < n) (hb : b < n)
    (h : (passSteps first n)[a]? = (passSteps first n)[b]?) : a = b := by
  unfold passSteps at h
  simp [ha, hb] at h
  exact h

/-- `GetMaxRetryDuration` stays within its clamp for every queue size -/
theorem C08_retry_window_bounds (n : Nat) :
    (Karp.Gen.OrchQueue.minRetryDurationNs : Int) ≤ retryDuration n ∧
    retryDuration n ≤ (Karp.Gen.OrchQueue.maxRetryDurationNs : Int) := by
  have hmm : Karp.Gen.OrchQueue.minRetryDurationNs ≤ Karp.Gen.OrchQueue.maxRetryDurationNs := fact_retry_window.2.1
  unfold retryDuration
  simp only
  constructor
  · split <;> split <;> omega
  · split <;> split <;> omega

/-! ## Non-vacuity: concrete reachable worlds meet the hypotheses and exercise the branches -/

def happyWorld : World := initWorld 2 [([0, 1], 2)] [] [] 4 .wrapAll
def happyHistory : List Step := [.start 0 true, .env .init 0 1, .reconcile 0 0, .env .init 0 0]

/-- the invariant holds on a world in the middle of an action (one replacement latched, one just initialized) … -/
example : Inv (run happyWorld happyHistory) := inv_run (inv_init ..) _
example : ((cmdAt (run happyWorld happyHistory) 0).repls.map (·.latched)) = [false, true] ∧
    (candAt (run happyWorld happyHistory) 1).owner = some 0 := by decide
/-- … the next pass issues both Deletes with both replacements Initialized and succeeds (hypothesis of
    `C08_delete_after_ready` is met by a non-empty event list) -/
example : (step (run happyWorld happyHistory) (.reconcile 0 1)).2.1 =
    [{ cand := 0, repls := [.init, .init], ok := true }, { cand := 1, repls := [.init, .init], ok := true }] ∧
    (step (run happyWorld happyHistory) (.reconcile 0 1)).1 = .succeeded := by decide
/-- a pass that fails inside the window (replacement gone): hypotheses of `C08_rollback_no_delete_in_window` and
    `C08_failed_releases` are met; the candidate is released, unmarked, untainted -/
example : (step (run f1World [.start 0 false, .env .vanish 0 0]) (.reconcile 0 0)).1 = .failed ∧
    (step (run f1World [.start 0 false, .env .vanish 0 0]) (.reconcile 0 0)).2.2.cands = [{}] := by decide
/-- a fault plan that makes a start fail (replacement creation fails) and is quiet afterwards; the cleanup pass then
    returns the tainted candidate to service (hypotheses of `C08_rejected_start_inert` / `C08_cleanup_returns_to_service`) -/
def faultyWorld : World := initWorld 1 [([0], 1)] [{ key := .createRepl 0 0, start := 0, count := 1, notFound := false }] [] 4 .wrapAll
example : (step faultyWorld (.start 0 true)).1 = .launch ∧
    (step faultyWorld (.start 0 true)).2.2.cands = [{ taint := true, cond := true }] ∧
    (step (step faultyWorld (.start 0 true)).2.2 .cleanup).1 = .ok ∧
    (step (step faultyWorld (.start 0 true)).2.2 .cleanup).2.2.cands = [{}] := by decide
example : Quiet (initWorld 3 [([0], 1)] [] [] 4 .wrapAll) := fun _ _ _ => rfl
/-- a three-node action [0, 1, 2] whose middle candidate goes away while the replacement is awaited, then the
    replacement disappears: the pass fails, deletes nothing, and candidates 0 AND 2 are released, unmarked, untainted
    (hypotheses of `C08_rollback_complete_for_survivors`, `C08_gone_keeps_actions`, `C08_gone_leaves_nothing` are met) -/
def goneWorld : World := initWorld 3 [([0, 1, 2], 1), ([1], 0)] [] [] 4 .waitOnly
def goneHistory : List Step := [.start 0 true, .reconcile 0 0, .candGone 1, .env .vanish 0 0]
example : (step (run goneWorld [.start 0 true, .reconcile 0 0]) (.candGone 1)).1 = .ok ∧
    (run goneWorld goneHistory).cands =
      [{ taint := true, cond := true, mark := true, owner := some 0 }, { owner := some 0, gone := true },
       { taint := true, cond := true, mark := true, owner := some 0 }] := by decide
example : (step (run goneWorld goneHistory) (.reconcile 0 1)).1 = .failed ∧
    (step (run goneWorld goneHistory) (.reconcile 0 1)).2.1 = [] ∧
    (step (run goneWorld goneHistory) (.reconcile 0 1)).2.2.cands = [{}, { gone := true }, {}] := by decide
example : Quiet (run goneWorld goneHistory) ∧ 0 < (run goneWorld goneHistory).retrySteps := ⟨fun _ _ _ => rfl, by decide⟩
/-- … the same when the action times out instead, and a later action over the gone node is refused -/
example : (step (run goneWorld [.start 0 true, .candGone 0, .advance 600000000001]) (.reconcile 0 2)).1 = .failed ∧
    (step (run goneWorld [.start 0 true, .candGone 0, .advance 600000000001]) (.reconcile 0 2)).2.2.cands =
      [{ gone := true }, {}, {}] ∧
    (step (run goneWorld [.candGone 1]) (.start 1 false)).1 = .notcand := by decide
/-- … and when the replacement becomes ready the pass still issues a Delete for every live candidate (the one for the
    gone NodeClaim is answered NotFound, which is not an error) and succeeds -/
example : (step (run goneWorld [.start 0 true, .candGone 1, .env .init 0 0]) (.reconcile 0 1)).1 = .succeeded ∧
    ((step (run goneWorld [.start 0 true, .candGone 1, .env .init 0 0]) (.reconcile 0 1)).2.1.map (·.cand)) = [0, 1, 2] ∧
    ((step (run goneWorld [.start 0 true, .candGone 1, .env .init 0 0]) (.reconcile 0 1)).2.2.cands.map (·.deleting)) =
      [true, false, true] := by decide
/-- two actions, one node: the second start is refused (hypothesis of `C08_start_refuses_queued`) -/
example : (step (run (initWorld 2 [([0], 1), ([0, 1], 1)] [] [] 4 .wrapAll) [.start 0 true]) (.start 1 false)).1 = .busy := by
  decide

def twoWorld : World := initWorld 2 [([0], 1), ([1], 1)] [] [] 4 .waitOnly
/-- two drifted nodes, one pass computing a command each; only the replacement of the SECOND command becomes ready: the
    pass of the first command waits and deletes nothing, the pass of the second deletes its own candidate only -/
example : expand 0 [2] [.pass, .plain (.env .init 1 0)] = [.start 0 true, .start 1 true, .env .init 1 0] := by decide
example : (step (run twoWorld (expand 0 [2] [.pass, .plain (.env .init 1 0)])) (.reconcile 0 0)).1 = .requeue ∧
    (step (run twoWorld (expand 0 [2] [.pass, .plain (.env .init 1 0)])) (.reconcile 0 0)).2.1 = [] ∧
    (step (run twoWorld (expand 0 [2] [.pass, .plain (.env .init 1 0)])) (.reconcile 1 0)).2.1 =
      [{ cand := 1, repls := [.init], ok := true }] := by decide

end Karp.C08
