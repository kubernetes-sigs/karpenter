/-
C04 — New capacity is opened only when existing capacity cannot admit the pod.

Property theorems (helper lemmas: `Karp/Proofs/ProvisionLemmas.lean`, `Karp/Proofs/Sched.lean`).
Model: `Karp/Model/Provision.lean` (StateNode view, `Scheduler.add`, Synced gate) over `Karp/Model/Sched.lean`
       (`ExistingNode.CanAdd/Add`, instance-type filter); `Karp/Model/PodAcct.lean` (which pods cluster state charges to a
       node across Pod / Node informer events; lemmas `Karp/Proofs/PodAcctLemmas.lean`, spec `Karp/Spec/Assigned.lean`,
       tied to the code by `c04.account` and, through whole passes, `c04.churn`).
Spec:  `Karp/Spec/NeedCapacity.lean` — evaluated by the driver on the commit traces of real passes and two-pass
       histories (ops `c04.history`, `c04.repass`, `c04.pass`, `c04.room`: nodes lacking well-known labels next to
       daemonsets selecting them, pods with multi-term volume topologies); the model itself is tied to the code by `c04.view`,
       `c04.synced`, the replay inside `c04.history`/`c04.pass`, and `c01.existing`.
-/
import Karp.Proofs.ProvisionLemmas
import Karp.Proofs.PodAcctLemmas

namespace Karp.C04
open Karp.Req Karp.Scn Karp.Sched Karp.Provision
open Karp.Gen.C04Flow

/-! ## Fact expectations over the regenerated source facts -/

/-- `Scheduler.add` tries existing nodes, then the NodeClaims of the pass, then a new NodeClaim — in this order -/
theorem fact_add_order : addCalls = ["addToExistingNode", "addToInflightNode", "addToNewNodeClaim"] := rfl
/-- and returns as soon as one of them succeeded (`err == nil` after each attempt) -/
theorem fact_add_returns : addConds.drop 2 = ["err == nil", "err == nil", "len(s.nodeClaimTemplates) == 0", "err == nil"] := rfl
/-- `trySchedule` relaxes only after a whole `add` (existing, in-flight AND new) failed -/
theorem fact_relax_after_add : tryScheduleCalls = ["add", "Relax"] := rfl
/-- `ExistingNode.CanAdd`: taints, volume limits, host ports, resources, requirements -/
theorem fact_existing_canAdd : existingCanAddCalls = ["ToleratesPod", "ExceedsLimits", "Conflicts", "Fits", "Compatible"] := rfl
theorem fact_existing_fits : existingCanAddConds.take 5 =
    ["err != nil", "err != nil", "err != nil", "!resources.Fits(podData.Requests, n.remainingResources)", "err != nil"] := rfl
/-- the loop over the pod's volume alternatives in `ExistingNode.CanAdd` SKIPS a failing alternative (it remembers the error
    and continues with the next one); the model's `existingCanAddV` is an `any` over the alternatives -/
theorem fact_volume_alternative_skipped : volumeAlternativeFailure = ["if err != nil", "lastErr = err", "continue"] := rfl
/-- `isDaemonPodCompatibleWithNode` checks the daemon pod's requirements against the node's labels with NO option (no
    undefined key is allowed, well-known or not): `dsCountedWith` -/
theorem fact_daemon_node_compatible : daemonNodeCompatibleArgs = ["scheduling.NewStrictPodRequirements(p)"] := rfl
/-- `MarkForDeletion` has no `return`: an id without state node is skipped, the loop goes on (`markStep`) -/
theorem fact_mark_no_early_return : markForDeletionReturns = [] ∧ unmarkForDeletionReturns = [] := ⟨rfl, rfl⟩
/-- `VolumeUsage.ExceedsLimits` counts the union of the volumes in use and the pod's (`exceedsLimits`) -/
theorem fact_exceeds_limits_union : exceedsLimitsCalls = ["Union"] := rfl
/-- `resolveCustomLabelsFromRequirements` gives the NodeClaim a concrete label for EVERY user-defined requirement key that
    `Any()` yields a value for (not only for single-valued `In`) -/
theorem fact_custom_labels_resolved : resolveCustomLabelsConds =
    ["v1.WellKnownLabels.Has(key) || v1.RestrictedLabels.Has(key) || schedulingSimulationKeys.Has(key)", "value != \"\""] := rfl
/-- the existing nodes of a pass are built from `StateNode.Taints()` and the daemonsets compatible with the node -/
theorem fact_existing_nodes : existingNodeCalls = ["Taints", "getCompatibleDaemonPods", "NewExistingNode"] := rfl

/-- one provisioning round: batch, Synced gate, pass, create -/
theorem fact_reconcile_order : reconcileCalls = ["Wait", "Synced", "Schedule", "CreateNodeClaims"] := rfl
/-- the gate returns before the pass when the cluster is not synced -/
theorem fact_reconcile_gate : reconcileSyncedGate = "!p.cluster.Synced(ctx)" := rfl
/-- the pass schedules against `nodes.Active()`: nodes marked for deletion are not capacity -/
theorem fact_schedule_active : scheduleStateNodesArg = "nodes.Active()" := rfl
theorem fact_active_filter : activeReturns = ["lo.Filter(n, (func", "!node.MarkedForDeletion()"] := rfl
theorem fact_marked_for_deletion : stateNodeMarkedForDeletionReturns = ["in.markedForDeletion || in.Deleted()"] := rfl
/-- `Provisioner.Create` tells cluster state about the NodeClaim right after the API create … -/
theorem fact_create_order : createCalls = ["ExceededBy", "ToNodeClaim", "Create", "UpdateNodeClaim"] := rfl
/-- … and `UpdateNodeClaim` records the (still empty) provider id under the NodeClaim's name, unconditionally -/
theorem fact_update_records :
    updateNodeClaimRecords = ["c.nodeClaimNameToProviderID[nodeClaim.Name] = nodeClaim.Status.ProviderID"] ∧
    updateNodeClaimConds = ["nodeClaim.Status.ProviderID != \"\"", "ok"] := ⟨rfl, rfl⟩
/-- `Synced` refuses on both paths (already synced / first sync) while some recorded provider id is empty -/
theorem fact_synced_conds : (syncedConds.drop 3) =
    ["c.hasSynced.Load()", "providerID == \"\"", "err != nil", "err != nil", "providerID == \"\"", "synced"] := rfl

/-- which representation the scheduler looks at, per lifecycle stage -/
theorem fact_view_taints : stateNodeTaintsConds =
    ["(!in.Registered() && in.Managed()) || in.Node == nil", "!in.Initialized() && in.Managed()",
     "scheduling.IsKnownEphemeralTaint(&taint)", "found"] ∧
    stateNodeTaintsReturns = ["lo.Reject(taints, (func", "true", "t.MatchTaint(&taint)", "true", "false", "taints"] := ⟨rfl, rfl⟩
theorem fact_view_labels : stateNodeLabelsConds = ["in.Node == nil", "in.NodeClaim == nil", "!in.Registered()"] ∧
    stateNodeLabelsReturns = ["in.NodeClaim.Labels", "in.Node.Labels", "in.NodeClaim.Labels", "in.Node.Labels"] := ⟨rfl, rfl⟩
theorem fact_view_allocatable :
    stateNodeAllocatableConds = ["!in.Initialized() && in.NodeClaim != nil", "in.Node != nil", "resources.IsZero(ret[resourceName])"] ∧
    stateNodeAllocatableReturns = ["ret", "in.NodeClaim.Status.Allocatable", "in.Node.Status.Allocatable"] := ⟨rfl, rfl⟩
theorem fact_view_stage_labels :
    stateNodeRegisteredReturns = ["in.Node != nil && in.Node.Labels[v1.NodeRegisteredLabelKey] == \"true\"", "true"] ∧
    stateNodeInitializedReturns = ["in.Node != nil && in.Node.Labels[v1.NodeInitializedLabelKey] == \"true\"", "true"] ∧
    stateNodeManagedReturns = ["in.NodeClaim != nil"] ∧
    nodeRegisteredLabelKey = "karpenter.sh/registered" ∧ nodeInitializedLabelKey = "karpenter.sh/initialized" := ⟨rfl, rfl, rfl, rfl, rfl⟩
/-- the taints a starting node is expected to carry: kubelet's not-ready / unreachable, the cloud controller's
    uninitialized taint and Karpenter's own unregistered taint (the property text: "known-ephemeral taints") -/
theorem fact_ephemeral_table :
    knownEphemeralTaints.map (fun t => (t.1, t.2.2)) =
      [("node.kubernetes.io/not-ready", "NoSchedule"), ("node.kubernetes.io/not-ready", "NoExecute"),
       ("node.kubernetes.io/unreachable", "NoSchedule"), ("node.cloudprovider.kubernetes.io/uninitialized", "NoSchedule"),
       ("karpenter.sh/unregistered", "NoExecute")] ∧
    knownEphemeralTaintKeyPrefixes = ["readiness.k8s.io/"] ∧ isKnownEphemeralTaintCalls = ["MatchTaint", "HasPrefix"] := ⟨rfl, rfl, rfl⟩

/-- "what is already assigned there": `UpdatePod` releases a pod exactly when it is in a TERMINAL PHASE (not when it merely
    has a deletionTimestamp) and charges it otherwise; `DeletePod` releases it -/
theorem fact_update_pod : updatePodConds = ["podutils.IsTerminal(pod)"] ∧
    updatePodCalls = ["IsTerminal", "updateNodeUsageFromPodCompletion", "updateNodeUsageFromPod"] ∧
    deletePodCalls = ["updateNodeUsageFromPodCompletion"] := ⟨rfl, rfl, rfl⟩
/-- every Node event REBUILDS the node's accounting from the pods the API lists for it, skipping exactly the pods in a
    terminal phase — the same test `UpdatePod` uses, so a Node event cannot resurrect what a Pod event released -/
theorem fact_rebuild : newStateFromNodeCalls = ["NewNode", "populateResourceRequests"] ∧
    populateResourceRequestsConds = ["err != nil", "podutils.IsTerminal(pod)", "err != nil"] ∧
    populateResourceRequestsCalls = ["List", "IsTerminal", "updateForPod", "cleanupOldBindings"] := ⟨rfl, rfl, rfl⟩
theorem fact_pod_phase_tests :
    isTerminalReturns = ["pod.Status.Phase == corev1.PodFailed || pod.Status.Phase == corev1.PodSucceeded"] ∧
    isTerminatingReturns = ["pod.DeletionTimestamp != nil"] := ⟨rfl, rfl⟩
/-- the binding bookkeeping the model `Karp.PodAcct` mirrors branch by branch -/
theorem fact_usage_from_pod :
    updateNodeUsageFromPodConds = ["pod.Spec.NodeName == \"\"", "!ok", "bindingKnown && oldNodeName != pod.Spec.NodeName", "err != nil"] ∧
    updateNodeUsageFromPodCalls = ["updateNodeUsageFromPodCompletion", "updateNodeUsageFromPodCompletion", "updateForPod", "cleanupOldBindings"] ∧
    podCompletionConds = ["!bindingKnown", "!ok"] ∧ podCompletionCalls = ["delete", "cleanupForPod"] ∧
    cleanupOldBindingsConds = ["bindingKnown", "oldNodeName == pod.Spec.NodeName", "ok"] := ⟨rfl, rfl, rfl, rfl, rfl⟩
/-- releasing a pod on a node drops its host ports, volumes, requests, limits, daemonset requests / limits and cost together -/
theorem fact_cleanup_for_pod : cleanupForPodCalls = ["DeletePod", "DeletePod", "delete", "delete", "delete", "delete", "delete"] := rfl

/-! ## 1. The guard of OpenNew -/

/-- the guard: no existing node and no NodeClaim of the pass admits the pod in the current state -/
def Needed {κ : Type} (ops : ClaimOps κ) (s : Pass κ) (p : PodD) : Prop :=
  (∀ e ∈ s.existing, existingCanAdd e p = false) ∧ (∀ c ∈ s.claims, ops.canAdd c p = false)

/-- `Scheduler.add` is its variant asked with volume alternatives (`addDecisionV`, section 1b) for a pod without volumes -/
theorem C04_add_without_volumes {κ : Type} (ops : ClaimOps κ) (s : Pass κ) (p : PodD) :
    addDecisionV ops s p [] = addDecision ops s p := by
  simp only [addDecisionV, addDecision, existingCanAddV_nil]

theorem addDecision_spec {κ : Type} (ops : ClaimOps κ) (s : Pass κ) (p : PodD) :
    match addDecision ops s p with
    | .existing i => ∃ e, s.existing[i]? = some e ∧ existingCanAdd e p = true
    | .inflight j => (∀ e ∈ s.existing, existingCanAdd e p = false) ∧ ∃ c, s.claims[j]? = some c ∧ ops.canAdd c p = true
    | _ => Needed ops s p := by
  have h := addDecisionV_spec ops s p []
  simp only [C04_add_without_volumes, existingCanAddV_nil] at h
  exact h

/-- **C04_open_only_if_needed** — whatever the admission function of the pass's NodeClaims is: if `Scheduler.add` opens a
    new NodeClaim for a pod, then in the state of that moment EVERY existing node refuses the pod (`ExistingNode.CanAdd`)
    and EVERY NodeClaim opened earlier in the pass refuses it. -/
theorem C04_open_only_if_needed {κ : Type} (ops : ClaimOps κ) (s : Pass κ) (p : PodD)
    (h : addDecision ops s p = .openNew) : Needed ops s p := by
  have hs := addDecision_spec ops s p
  rw [h] at hs
  exact hs

theorem C04_inflight_only_if_no_existing {κ : Type} (ops : ClaimOps κ) (s : Pass κ) (p : PodD) (j : Nat)
    (h : addDecision ops s p = .inflight j) :
    (∀ e ∈ s.existing, existingCanAdd e p = false) ∧ ∃ c, s.claims[j]? = some c ∧ ops.canAdd c p = true := by
  have hs := addDecision_spec ops s p
  rw [h] at hs
  exact hs

theorem C04_existing_enabled {κ : Type} (ops : ClaimOps κ) (s : Pass κ) (p : PodD) (i : Nat)
    (h : addDecision ops s p = .existing i) : ∃ e, s.existing[i]? = some e ∧ existingCanAdd e p = true := by
  have hs := addDecision_spec ops s p
  rw [h] at hs
  exact hs

/-- **C04_pass_trace** — over a whole pass (any queue of pods, any start state, any NodeClaim admission function): every
    step that opens a NodeClaim satisfies the guard in the state the step was taken in. -/
theorem C04_pass_trace {κ : Type} (ops : ClaimOps κ) : ∀ (ps : List PodD) (s : Pass κ) (p : PodD) (d : Decision) (st : Pass κ),
    (p, d, st) ∈ runPass ops s ps → d = .openNew → Needed ops st p :=
  fun ps s p _ st h hd => C04_open_only_if_needed ops st p ((mem_runPass ops ps s _ h).symm.trans hd)

/-- **C04_refusal_stable** — what a pass has put on a node can only make the node refuse more: a node that refuses a pod
    keeps refusing it after any further pod was added (this is why "no node could admit it at the moment the NodeClaim
    was opened" also covers the required terms the scheduler looked at earlier in the pass). -/
theorem C04_refusal_stable (n : ExNode) (q p : PodD) (hq : 0 ≤ q.cpu ∧ 0 ≤ q.mem)
    (h : existingCanAdd n p = false) : existingCanAdd (existingAdd n q) p = false := by
  rw [← Bool.not_eq_true] at h ⊢
  intro hc
  apply h
  rw [existingCanAdd_iff] at hc ⊢
  obtain ⟨h1, h2, h3, h4⟩ := hc
  simp only [existingAdd] at h3
  exact ⟨h1, portsFree_append n.ports q.ports p.ports h2, by omega, h4⟩

theorem C04_refusal_stable_many : ∀ (qs : List PodD) (n n' : ExNode) (p : PodD),
    (∀ q ∈ qs, 0 ≤ q.cpu ∧ 0 ≤ q.mem) → addAll n qs = some n' → existingCanAdd n p = false → existingCanAdd n' p = false := by
  intro qs n n' p hnn h hr
  fun_induction addAll n qs with
  | case1 n => cases h; exact hr
  | case2 n q rest hc ih =>
    rw [List.forall_mem_cons] at hnn
    exact ih hnn.2 h (C04_refusal_stable n q p hnn.1 hr)
  | case3 n q rest hc => cases h

/-! ## 1b. Room that hangs on volumes and on labels the node does not carry

`ExistingNode.CanAdd` with the pod's volume topology alternatives (`existingCanAddV`): the alternatives are OR-ed, so an
existing node is refused for its volumes only when EVERY alternative fails on it - whatever their order; the guard of
OpenNew carries over.  A daemonset whose node selector names a label the node lacks is not counted for the node
(`isDaemonPodCompatibleWithNode` allows no undefined key), so nothing is reserved for it there. -/

/-- **C04_volume_some_alternative** — a node admits a pod with volumes iff it admits the pod as such and SOME volume
    alternative is compatible with its labels (narrowed by the pod's requirements) -/
theorem C04_volume_some_alternative (n : ExNode) (p : PodD) (alts : List (List KExpr)) :
    existingCanAddV n p alts = true ↔
      existingCanAdd n p = true ∧ (alts = [] ∨ ∃ a ∈ alts, volAltOK n p a = true) := by
  simp [existingCanAddV, List.isEmpty_iff, List.any_eq_true]

/-- a refusal is never due to ONE failing alternative -/
theorem C04_volume_refused_only_if_every_alternative_fails (n : ExNode) (p : PodD) (alts : List (List KExpr))
    (h : existingCanAddV n p alts = false) :
    existingCanAdd n p = false ∨ (alts ≠ [] ∧ ∀ a ∈ alts, volAltOK n p a = false) := by
  rw [← Bool.not_eq_true, C04_volume_some_alternative, Classical.not_and_iff_not_or_not, not_or] at h
  simp only [Bool.not_eq_true, not_exists, not_and] at h
  exact h

/-- **C04_volume_later_alternative_counts** — an alternative that holds on the node counts wherever it stands in the list -/
theorem C04_volume_later_alternative_counts (n : ExNode) (p : PodD) (pre post : List (List KExpr)) (a : List KExpr)
    (h : existingCanAdd n p = true) (ha : volAltOK n p a = true) :
    existingCanAddV n p (pre ++ a :: post) = true := by
  rw [C04_volume_some_alternative]
  exact ⟨h, Or.inr ⟨a, by simp, ha⟩⟩

theorem C04_volume_order_irrelevant (n : ExNode) (p : PodD) (alts alts' : List (List KExpr)) (h : alts.Perm alts') :
    existingCanAddV n p alts = existingCanAddV n p alts' := by
  unfold existingCanAddV
  rw [h.isEmpty_eq, h.any_eq]

/-- **C04_open_only_if_needed_volumes** — the guard of OpenNew for a pod with volumes: every existing node refuses the pod
    as such or fails EVERY volume alternative, and every NodeClaim opened earlier refuses it -/
theorem C04_open_only_if_needed_volumes {κ : Type} (ops : ClaimOps κ) (s : Pass κ) (p : PodD) (alts : List (List KExpr))
    (h : addDecisionV ops s p alts = .openNew) :
    (∀ e ∈ s.existing, existingCanAdd e p = false ∨ (alts ≠ [] ∧ ∀ a ∈ alts, volAltOK e p a = false)) ∧
    (∀ c ∈ s.claims, ops.canAdd c p = false) := by
  have hs := addDecisionV_spec ops s p alts
  rw [h] at hs
  exact ⟨fun e he => C04_volume_refused_only_if_every_alternative_fails e p alts (hs.1 e he), hs.2⟩

/-- what a pass adds to a node does not change which volume alternatives hold on it (labels are fixed) -/
theorem C04_volume_alternative_stable (n : ExNode) (q p : PodD) (a : List KExpr) : volAltOK (existingAdd n q) p a = volAltOK n p a := rfl

/-- **C04_daemon_needs_label_partial** — a daemonset whose node selector is a single `key = value` is NOT counted for a node
    whose labels lack the (normalised) key, whatever the taints and the PreferNoSchedule variant: nothing is reserved for it.
    FULL statement (every selector entry whose key the node lacks): false in the model as in the code for selectors that
    name the same normalised key twice with different values - their intersection is empty, which Karpenter reads as
    `DoesNotExist` and an absent label satisfies (the empty-set-read-as-absent behaviour recorded under C01/C12). -/
theorem C04_daemon_needs_label_partial (pns : Bool) (d : DaemonSet) (k v : String) (ls : Labels) (taints : List Taint)
    (hsel : d.nodeSelector = [(k, v)]) (habs : ls.lookup (normalizeKey k) = none) :
    dsCountedWith pns d ls taints = false := by
  have hr : podReqs (selectorExprs d.nodeSelector) =
      [(normalizeKey k, { key := normalizeKey k, complement := false, values := [v] })] := by
    rw [hsel]; rfl
  -- `In [v]` does not admit the absence of the label
  rw [dsCountedWith, hr, Bool.and_eq_false_iff, ← Bool.not_eq_true (Reqs.compatible ..),
    compatible_labels_iff _ _ (by simp [inSingle_wf])]
  exact Or.inr fun h => by simpa [habs, Req.admits, inSingle_absentOk] using h _ List.mem_cons_self

/-! non-vacuity -/
def dsSpot : DaemonSet := { name := "spot-handler", cpu := 1500, mem := 128, nodeSelector := [("karpenter.sh/capacity-type", "spot")], tolerations := [], hostPorts := [] }
example : dsCountedWith true dsSpot [("kubernetes.io/hostname", "n1"), ("topology.kubernetes.io/zone", "z1")] [] = false := by decide
example : dsCountedWith true dsSpot [("kubernetes.io/hostname", "n1"), ("karpenter.sh/capacity-type", "spot")] [] = true := by decide +kernel
def exZ3 : ExNode := { labels := [("kubernetes.io/hostname", "n1"), ("topology.kubernetes.io/zone", "z3")], taints := [], remCPU := 1000, remMem := 4096, remPods := 10, ports := [] }
def podV : PodD := { cpu := 500, mem := 64, tolerations := [], ports := [], exprs := [] }
def zoneIn (z : String) : List KExpr := [{ key := "topology.kubernetes.io/zone", op := .in_, vals := [z] }]
example : existingCanAddV exZ3 podV [zoneIn "z1", zoneIn "z3"] = true ∧ existingCanAddV exZ3 podV [zoneIn "z1", zoneIn "z2"] = false ∧
    volAltOK exZ3 podV (zoneIn "z1") = false := by decide +kernel
example : (volumeAlts [[zoneIn "z1", zoneIn "z3"], [], [zoneIn "z3"]]).map (·.map (·.vals)) = [[["z3"], ["z3"]]] ∧
    (volumeAlts [[], []]).length = 0 := by decide +kernel

/-! ## 1c. CSI attach limits and the deletion mark

`VolumeUsage.ExceedsLimits` compares the UNION of the claims in use on the node with the pod's claims against the limit
(`exceedsLimits`): a pod that re-mounts what is attached already never exceeds it.  `Cluster.MarkForDeletion` handles every
provider id of the call (`markStep`): none of the state nodes it names is left in `Active()`. -/

theorem C04_union_of_attached : ∀ (podVols used : List String), (∀ v ∈ podVols, v ∈ used) → volUnion used podVols = used := by
  intro podVols
  induction podVols with
  | nil => intro used _; rfl
  | cons v rest ih =>
    intro used h
    rw [List.forall_mem_cons] at h
    have hv : used.contains v = true := by simpa using h.1
    simp only [volUnion, List.foldl_cons, hv, if_true]
    exact ih used h.2

/-- **C04_remount_never_exceeds** — a pod that only mounts claims already in use on the node never runs into the node's
    attach limit, as long as the node itself is within it. -/
theorem C04_remount_never_exceeds (l : Nat) (used podVols : List String)
    (hsub : ∀ v ∈ podVols, v ∈ used) (hin : used.length ≤ l) : exceedsLimits (some l) used podVols = false := by
  simp only [exceedsLimits, C04_union_of_attached podVols used hsub]
  simp; omega

theorem C04_no_limit_never_exceeds (used podVols : List String) : exceedsLimits none used podVols = false := rfl

example : exceedsLimits (some 2) ["default/a", "default/b"] ["default/a"] = false ∧
    exceedsLimits (some 2) ["default/a", "default/b"] ["default/a", "default/c"] = true ∧
    exceedsLimits (some 2) ["default/a"] ["default/c", "default/c"] = false := by decide

/-- **C04_mark_covers_every_id** — ONE `MarkForDeletion` call marks every state node it names, wherever the id stands in the
    list and whatever else the list holds (unknown ids, duplicates). -/
theorem C04_mark_covers_every_id : ∀ (ids : List String) (s : MarkSt) (id : String), id ∈ ids →
    ∀ n ∈ markStep s (.mark ids), n.id = id → n.marked = true := by
  intro ids s id h n hn hid
  simp only [markStep, foldl_setMark, List.mem_map] at hn
  obtain ⟨m, _, rfl⟩ := hn
  by_cases hm : m.id ∈ ids
  · simp [hm]
  · simp only [hm, if_false] at hid
    exact absurd (hid ▸ h) hm

/-- … so none of them is counted as capacity by the next pass (`StateNodes.Active`) -/
theorem C04_marked_ids_not_active (ids : List String) (s : MarkSt) (id : String) (h : id ∈ ids) :
    id ∉ (markStep s (.mark ids)).active := by
  intro hin
  simp only [MarkSt.active, List.mem_map, List.mem_filter] at hin
  obtain ⟨n, ⟨hn, hm⟩, hid⟩ := hin
  have := C04_mark_covers_every_id ids s id h n hn hid
  simp [this] at hm

/-- the ids a call names that have no state node change nothing: the state nodes stay the same -/
theorem C04_mark_keeps_nodes (ids : List String) (s : MarkSt) : (markStep s (.mark ids)).map (·.id) = s.map (·.id) := by
  simp only [markStep, foldl_setMark, List.map_map]
  apply List.map_congr_left
  intro n _
  simp only [Function.comp]
  split <;> rfl

example : (([.seeNode "b", .mark ["a", "x", "b"]] : List MarkEv).foldl markStep []).deleting = ["b"] ∧
    (([.seeNode "a", .seeClaim "a", .seeNode "b", .mark ["a"], .delNode "a", .seeNode "a", .delNode "b"] : List MarkEv).foldl markStep []).deleting = ["a"] := by decide

/-! ## 2. The in-flight view: what the scheduler sees of a launched NodeClaim at each lifecycle stage -/

/-- **C04_view_hides_taints** — until the node is initialized, `StateNode.Taints()` shows the scheduler neither a startup
    taint of the NodeClaim nor a known ephemeral taint, whichever object (NodeClaim or Node) the taints are read from. -/
theorem C04_view_hides_taints (n : SNode) (c : ClaimObj) (hc : n.claim = some c) (hi : n.initialized = false) :
    ∀ t ∈ n.taints, knownEphemeral t = false ∧ c.startupTaints.any (fun st => matchTaint st t) = false :=
  fun t ht => (mem_taints_managed n c hc t ht).2 hi

/-- what may sit on the Node of NodeClaim `c` while it starts: the NodeClaim's own taints (registration copies them), its
    startup taints, and known ephemeral taints -/
def StartingTaints (c : ClaimObj) (ts : List Taint) : Prop :=
  ∀ t ∈ ts, t ∈ c.taints ∨ c.startupTaints.any (fun st => matchTaint st t) = true ∨ knownEphemeral t = true

/-- **C04_view_taints_tolerated** — a pod that tolerated the NodeClaim's taints when it was placed on the NodeClaim
    tolerates what `StateNode.Taints()` shows at EVERY stage (NodeClaim only, Node unregistered, registered, initialized),
    provided the Node carries nothing but the NodeClaim's taints, startup taints and known ephemeral taints while it
    starts, and only the NodeClaim's taints once it is initialized (initialization waits for the others to go). -/
theorem C04_view_taints_tolerated (n : SNode) (c : ClaimObj) (tols : List Toleration) (hc : n.claim = some c)
    (htol : toleratesAll tols c.taints = true)
    (hstart : ∀ nd, n.node = some nd → StartingTaints c nd.taints)
    (hinit : n.initialized = true → ∀ nd, n.node = some nd → ∀ t ∈ nd.taints, t ∈ c.taints) :
    toleratesAll tols n.taints = true := by
  rw [toleratesAll, List.all_eq_true] at htol ⊢
  intro t ht
  obtain ⟨hsrc, hhid⟩ := mem_taints_managed n c hc t ht
  rcases hsrc with h | ⟨nd, hnode, h⟩
  · exact htol t h
  · cases hi : n.initialized with
    | true => exact htol t (hinit hi nd hnode t h)
    | false =>
      -- a taint of a starting Node that is still shown is neither a startup nor an ephemeral one
      rcases hstart nd hnode t h with h1 | h2 | h3
      · exact htol t h1
      · rw [(hhid hi).2] at h2; cases h2
      · rw [(hhid hi).1] at h3; cases h3

/-- **C04_view_alloc** — the in-flight node counts with the allocatable of the instance type it was launched as (what the
    launch wrote into the NodeClaim's status) at EVERY stage, provided the Node reports, per resource, either nothing
    yet (zero) or that same quantity while it starts, and that same quantity once it is initialized. -/
theorem C04_view_alloc (n : SNode) (c : ClaimObj) (hc : n.claim = some c)
    (hstart : ∀ nd, n.node = some nd →
      (nd.alloc.cpu = 0 ∨ nd.alloc.cpu = c.alloc.cpu) ∧ (nd.alloc.mem = 0 ∨ nd.alloc.mem = c.alloc.mem) ∧
      (nd.alloc.pods = 0 ∨ nd.alloc.pods = c.alloc.pods))
    (hinit : n.initialized = true → ∀ nd, n.node = some nd → nd.alloc = c.alloc) :
    n.allocatable = c.alloc := by
  unfold SNode.allocatable
  rw [hc]
  cases hnode : n.node with
  | none =>
    -- a managed node without Node object is not initialized
    have hi : n.initialized = false := by simp [SNode.initialized, SNode.managed, hc, hnode]
    rw [hi]; rfl
  | some nd =>
    cases hi : n.initialized with
    | true => exact hinit hi nd hnode
    | false =>
      obtain ⟨h1, h2, h3⟩ := hstart nd hnode
      simp only [Bool.not_false, if_true, orIfZero_eq _ _ h1, orIfZero_eq _ _ h2, orIfZero_eq _ _ h3]

/-- **C04_view_labels** — on every key on which the registered Node agrees with its NodeClaim (registration copies the
    NodeClaim's labels onto the Node), the scheduler reads the NodeClaim's label at every stage. -/
theorem C04_view_labels (n : SNode) (c : ClaimObj) (k : String) (hc : n.claim = some c)
    (hsync : n.registered = true → ∀ nd, n.node = some nd → nd.labels.lookup k = c.labels.lookup k) :
    n.labels.lookup k = c.labels.lookup k := by
  unfold SNode.labels
  rw [hc]
  cases hnode : n.node with
  | none => rfl
  | some nd =>
    cases hr : n.registered with
    | true => exact hsync hr nd hnode
    | false => rfl

/-! ## 3. Re-admission -/

/-- Full statement (what the property's consequence clause demands), for every launch the provider may choose and every
    lifecycle stage:

      pods `ps` were accepted by NodeClaim `c` in pass 1 and `c` was launched as a permitted instance type
      → at each stage, re-running the pass places every pod of `ps` on capacity that already exists (no new NodeClaim).

    As stated this is violated by the code: the second pass re-packs all pending pods first-fit over the nodes in name
    order, so pods of another NodeClaim can take the room (known finding `C04-repass-reshuffle`, replayed by the corpus
    witness of `c04.repass`).  Proved below is the per-node core, with the hypotheses the proof forces — each is one of the
    "evaluated differently for the in-flight node" cases of the property text and is probed on the real code by
    `c04.history` / `c04.view`:

    **C04_inflight_readmits_partial** — let `n` be the StateNode of a launched NodeClaim `c` at ANY lifecycle stage and
    `ps` the pods pass 1 placed on it: every pod tolerated `c`'s taints, is compatible with the labels of the launch, the
    pods' host ports were free in this order, and their summed requests plus the daemon overhead `g` reserved for the
    launched instance type fit its allocatable (`C01_filter_sound` gives exactly this for every instance type that
    survives the NodeClaim's filter).  If (H1) the daemonset reservation `d` the scheduler computes for the node does not
    exceed `g`, (H2) the Node carries only the NodeClaim's taints, startup taints and known ephemeral taints while it
    starts and only the NodeClaim's taints once initialized, (H3) the Node reports per resource zero or the launched
    allocatable while it starts and the launched allocatable once initialized, (H4) the registered Node agrees with the
    NodeClaim on the labels the pods constrain — then the node, as the scheduler sees it, accepts ALL pods of `ps` one
    after the other: no pod of `ps` needs new capacity as long as the node only holds pods of `ps`. -/
theorem C04_inflight_readmits_partial (n : SNode) (c : ClaimObj) (ps : List PodD)
    (dCPU dMem dPods gCPU gMem gPods : Int) (hc : n.claim = some c)
    (htol : ∀ p ∈ ps, toleratesAll p.tolerations c.taints = true)
    (hlab : ∀ p ∈ ps, (labelReqs c.labels).compatible (podReqs p.exprs) [] = true)
    (hports : portsChain [] ps = true)
    (hnn : ∀ p ∈ ps, 0 ≤ p.cpu ∧ 0 ≤ p.mem)
    (hfit : sumCPU ps + gCPU ≤ c.alloc.cpu ∧ sumMem ps + gMem ≤ c.alloc.mem ∧ (ps.length : Int) + gPods ≤ c.alloc.pods)
    (H1 : dCPU ≤ gCPU ∧ dMem ≤ gMem ∧ dPods ≤ gPods)
    (H2 : (∀ nd, n.node = some nd → StartingTaints c nd.taints) ∧
          (n.initialized = true → ∀ nd, n.node = some nd → ∀ t ∈ nd.taints, t ∈ c.taints))
    (H3 : (∀ nd, n.node = some nd →
            (nd.alloc.cpu = 0 ∨ nd.alloc.cpu = c.alloc.cpu) ∧ (nd.alloc.mem = 0 ∨ nd.alloc.mem = c.alloc.mem) ∧
            (nd.alloc.pods = 0 ∨ nd.alloc.pods = c.alloc.pods)) ∧
          (n.initialized = true → ∀ nd, n.node = some nd → nd.alloc = c.alloc))
    (H4 : ∀ p ∈ ps, ∀ kv ∈ podReqs p.exprs, n.registered = true → ∀ nd, n.node = some nd → nd.labels.lookup kv.1 = c.labels.lookup kv.1) :
    ∃ n', addAll (n.asExisting dCPU dMem dPods) ps = some n' := by
  have halloc := C04_view_alloc n c hc H3.1 H3.2
  apply addAll_succeeds
  · exact fun p hp => C04_view_taints_tolerated n c p.tolerations hc (htol p hp) H2.1 H2.2
  · exact fun p hp => (compatible_labels_congr n.labels c.labels (podReqs p.exprs)
      fun kv hkv => C04_view_labels n c kv.1 hc (H4 p hp kv hkv)).trans (hlab p hp)
  · exact hports
  · exact hnn
  · simp only [SNode.asExisting, halloc]; omega
  · simp only [SNode.asExisting, halloc]; omega
  · simp only [SNode.asExisting, halloc]; omega

/-! ## 4. No pass while a created NodeClaim is unlaunched; deleting nodes are not capacity -/

/-- **C04_synced_gate** — whenever `Cluster.Synced` answers true, no NodeClaim known to cluster state has an empty
    provider id. -/
theorem C04_synced_gate (s : Sync) (h : s.synced.1 = true) : ∀ kv ∈ s.claims, kv.2 ≠ "" := by
  intro kv hkv
  simpa using List.all_eq_true.mp (noneUnlaunched_of_synced s h) kv hkv

/-- what `Provisioner.Create` does to cluster state (`fact_create_order`, `fact_update_records`) leaves it unlaunched -/
theorem C04_create_blocks (st : Sync × List Sync) (name : String) : Unlaunched name (step st (.create name)).1 := by
  simp [Unlaunched, step, Sync.updateNodeClaim, lookup_setKV]

/-- **C04_no_pass_while_unlaunched** — over ALL histories: once cluster state has recorded a NodeClaim without provider id
    (which `Provisioner.Create` does before it returns), no sequence of events that neither launches nor deletes that
    NodeClaim — other NodeClaims created, launched, deleted, nodes appearing, any number of `Provisioner.Reconcile` rounds —
    contains a scheduling pass. -/
theorem C04_no_pass_while_unlaunched (name : String) : ∀ (evs : List Ev) (st : Sync × List Sync),
    Unlaunched name st.1 → (∀ e ∈ evs, touches name e = false) →
    (run st evs).2 = st.2 ∧ Unlaunched name (run st evs).1 := fun evs st h hev =>
  List.foldlRecOn (motive := fun st' => st'.2 = st.2 ∧ Unlaunched name st'.1) evs step ⟨rfl, h⟩ fun st' h' e he =>
    have hs := step_keeps_unlaunched name st' e h'.2 (hev e he)
    ⟨hs.2.trans h'.1, hs.1⟩

/-- **C04_passes_only_when_synced** — every pass of every history ran in a state without unlaunched NodeClaims. -/
theorem C04_passes_only_when_synced : ∀ (evs : List Ev) (st : Sync × List Sync),
    (∀ s ∈ st.2, noneUnlaunched s.claims = true) → ∀ s ∈ (run st evs).2, noneUnlaunched s.claims = true := by
  intro evs
  induction evs with
  | nil => intro st h; exact h
  | cons e rest ih =>
    intro st h
    apply ih (step st e)
    rcases step_log st e with hl | ⟨hl, hok⟩
    · rw [hl]; exact h
    · -- the pass ran in the state the successful check left, whose NodeClaim table is the one it checked
      rw [hl]
      intro s hs
      rcases List.mem_append.mp hs with h1 | h1
      · exact h s h1
      · rw [List.mem_singleton.mp h1, synced_claims]
        exact noneUnlaunched_of_synced st.1 hok

/-- **C04_deleting_excluded** — `StateNodes.Active()` keeps no node that is marked for deletion, whose NodeClaim is being
    deleted / terminated, or (unmanaged) whose Node is being deleted. -/
theorem C04_deleting_excluded (ns : List SNode) :
    (∀ n ∈ active ns, n.markedForDeletion = false) ∧
    (∀ n ∈ ns, n.marked = true → n ∉ active ns) ∧
    (∀ n ∈ ns, ∀ c, n.claim = some c → c.deleting = true → n ∉ active ns) := by
  refine ⟨fun n hn => ((mem_active ns n).mp hn).2, fun n _ hm hn => ?_, fun n _ c hc hd hn => ?_⟩
  · simpa [SNode.markedForDeletion, hm] using ((mem_active ns n).mp hn).2
  · simpa [SNode.markedForDeletion, hc, hd] using ((mem_active ns n).mp hn).2

/-! ## The recorded findings: the literal consequence clause / the Kubernetes reading of OR-ed terms fail for the code as it is -/

def wNode (name : String) (cpu : Int) : ExNode :=
  { labels := [("kubernetes.io/hostname", name)], taints := [], remCPU := cpu, remMem := 16000, remPods := 10, ports := [] }
def wPod (cpu : Int) : PodD := { cpu := cpu, mem := 128, tolerations := [], ports := [], exprs := [] }
/-- NodeClaims of the pass: a cpu counter over the largest (4-cpu) instance type -/
def wOps : ClaimOps Int :=
  { canAdd := fun used p => decide (used + p.cpu ≤ 4000), add := fun used p => used + p.cpu, openFor := fun p => if p.cpu ≤ 4000 then some 0 else none }

/-- `C04-repass-reshuffle` (corpus/c04.repass/reshuffle.json, replayed on the real provisioner every run): pass 1 packs
    2+2 cpu on one NodeClaim and 1.5+1.5 cpu on another; the second is launched as the permitted 3-cpu type and its node
    sorts first.  Pass 2, first-fit in node order, opens a NodeClaim for the last pod — although each node re-admits
    exactly the pods pass 1 had placed on its NodeClaim. -/
theorem C04_repass_reshuffle_witness :
    (runPass wOps { existing := [], claims := [] } [wPod 2000, wPod 2000, wPod 1500, wPod 1500]).map (·.2.1) =
      [.openNew, .inflight 0, .openNew, .inflight 1] ∧
    (runPass wOps { existing := [wNode "a" 3000, wNode "b" 4000], claims := [] } [wPod 2000, wPod 2000, wPod 1500, wPod 1500]).map (·.2.1) =
      [.existing 0, .existing 1, .existing 1, .openNew] ∧
    (addAll (wNode "a" 3000) [wPod 1500, wPod 1500]).isSome = true ∧ (addAll (wNode "b" 4000) [wPod 2000, wPod 2000]).isSome = true := by decide

/-- `C04-or-term-order` (corpus/c04.pass/or-term.json): the pod's requirements are built from the FIRST required term only
    (`updateCachedPodData`); a node in z2 refuses a pod that requires "zone z1 OR zone z2" until relaxation drops the first
    term — which `trySchedule` does only after a NEW NodeClaim could not be opened either (`fact_relax_after_add`). -/
def wTwoTerms : PodSpecM :=
  { cpu := 500, mem := 128, tolerations := [], ports := [], sel := [],
    aff := { required := [[{ key := "topology.kubernetes.io/zone", op := .in_, vals := ["z1"] }], [{ key := "topology.kubernetes.io/zone", op := .in_, vals := ["z2"] }]], preferred := [] } }
def wNodeZ2 : ExNode :=
  { labels := [("topology.kubernetes.io/zone", "z2"), ("kubernetes.io/hostname", "n1")], taints := [], remCPU := 4000, remMem := 16000, remPods := 10, ports := [] }
theorem C04_or_term_witness :
    existingCanAdd wNodeZ2 (podDOf false wTwoTerms) = false ∧
    (relaxStep wTwoTerms.aff).isSome = true ∧
    existingCanAdd wNodeZ2 (podDOf false { wTwoTerms with aff := ((relaxStep wTwoTerms.aff).getD wTwoTerms.aff) }) = true := by decide +kernel

/-! ## Non-vacuity -/

def tStartup : Taint := { key := "startup", value := "", effect := "NoSchedule" }
def tDedicated : Taint := { key := "dedicated", value := "x", effect := "NoSchedule" }
def tNotReady : Taint := { key := "node.kubernetes.io/not-ready", value := "", effect := "NoSchedule" }
def tUnregistered : Taint := { key := "karpenter.sh/unregistered", value := "", effect := "NoExecute" }

def claimA : ClaimObj :=
  { name := "pool-a-1", labels := [("karpenter.sh/nodepool", "pool-a"), ("topology.kubernetes.io/zone", "z1")],
    taints := [tDedicated], startupTaints := [tStartup], alloc := { cpu := 4000, mem := 8192, pods := 10 }, deleting := false }

/-- the Node as the kubelet registers it: startup + not-ready + unregistered taints, cpu not reported yet -/
def nodeStarting : NodeObj :=
  { name := "pool-a-1", labels := [("karpenter.sh/nodepool", "pool-a"), ("topology.kubernetes.io/zone", "z1"), ("karpenter.sh/registered", "true")],
    taints := [tDedicated, tStartup, tNotReady, tUnregistered], alloc := { cpu := 0, mem := 8192, pods := 10 } }

def snRegistered : SNode := { node := some nodeStarting, claim := some claimA, marked := false, nodeDeleting := false }

def podA : PodD :=
  { cpu := 1500, mem := 1024, tolerations := [{ key := "dedicated", operator := "Exists", value := "", effect := "" }], ports := [],
    exprs := [{ key := "topology.kubernetes.io/zone", op := .in_, vals := ["z1"] }] }

/-- what the scheduler sees of the registered, not yet initialized node: the Node's labels, of its four taints only the
    NodeClaim's own, and (cpu not reported yet) the NodeClaim's allocatable -/
theorem snReg_view : (snRegistered.registered = true ∧ snRegistered.initialized = false) ∧ snRegistered.labels = nodeStarting.labels ∧
    snRegistered.taints = [tDedicated] ∧ snRegistered.allocatable = claimA.alloc := by decide
theorem snReg_ex : snRegistered.asExisting 500 128 1 =
    { labels := nodeStarting.labels, taints := [tDedicated], remCPU := 3500, remMem := 8064, remPods := 9, ports := [] } := by
  simp only [SNode.asExisting, snReg_view.2.1, snReg_view.2.2.1, snReg_view.2.2.2]; rfl

example : snRegistered.registered = true ∧ snRegistered.initialized = false := snReg_view.1
example : snRegistered.taints = [tDedicated] := snReg_view.2.2.1
example : snRegistered.allocatable = claimA.alloc := snReg_view.2.2.2
/-- the re-admission theorem applies to a concrete registered, not yet initialized node with two pods … -/
example : ∃ n', addAll (snRegistered.asExisting 500 128 1) [podA, podA] = some n' := by
  have hinit : ¬snRegistered.initialized = true := by simp [snReg_view.1.2]
  refine C04_inflight_readmits_partial snRegistered claimA [podA, podA] 500 128 1 500 128 1 rfl
    (by decide) (by decide) (by decide) (by decide) (by decide) (by decide)
    ⟨?_, ?_⟩ ⟨?_, ?_⟩ ?_
  · intro nd h; cases h
    exact (by decide : ∀ t ∈ nodeStarting.taints, t ∈ claimA.taints ∨
      claimA.startupTaints.any (fun st => matchTaint st t) = true ∨ knownEphemeral t = true)
  · intro h; exact absurd h hinit
  · intro nd h; cases h; exact ⟨Or.inl rfl, Or.inr rfl, Or.inr rfl⟩
  · intro h; exact absurd h hinit
  · intro p hp kv hkv _ nd h
    cases h
    exact (by decide : ∀ p ∈ [podA, podA], ∀ kv ∈ podReqs p.exprs,
      nodeStarting.labels.lookup kv.1 = claimA.labels.lookup kv.1) p hp kv hkv
/-- … and computes: both pods are accepted, a third one is refused (3 × 1500 + 500 > 4000) -/
example : (addAll (snRegistered.asExisting 500 128 1) [podA, podA]).isSome = true ∧
          addAll (snRegistered.asExisting 500 128 1) [podA, podA, podA] = none := by
  rw [snReg_ex]; decide +kernel
/-- H3 is needed: a Node that reports LESS than the launched allocatable makes the in-flight node refuse its own pods -/
example : addAll (({ snRegistered with node := some { nodeStarting with alloc := { cpu := 2000, mem := 8192, pods := 10 } } } : SNode).asExisting 500 128 1)
    [podA, podA] = none := by decide +kernel
/-- H2 is needed: a lasting taint the NodeClaim does not have (here: on an initialized node) keeps the pod off -/
def nodeInitTainted : NodeObj :=
  { nodeStarting with labels := nodeStarting.labels ++ [("karpenter.sh/initialized", "true")], taints := [tDedicated, tStartup], alloc := claimA.alloc }
example : addAll (({ snRegistered with node := some nodeInitTainted } : SNode).asExisting 500 128 1) [podA] = none := by decide +kernel

/-- the guard theorem on a concrete pass: one existing node with 1000m left, pods of 800m each; NodeClaims of the pass
    modelled by a cpu counter with capacity 2000m -/
def opsDemo : ClaimOps Int :=
  { canAdd := fun used p => decide (used + p.cpu ≤ 2000), add := fun used p => used + p.cpu, openFor := fun p => if p.cpu ≤ 2000 then some 0 else none }
def exDemo : ExNode := { labels := [("kubernetes.io/hostname", "n1")], taints := [], remCPU := 1000, remMem := 4096, remPods := 10, ports := [] }
def podDemo : PodD := { cpu := 800, mem := 64, tolerations := [], ports := [], exprs := [] }
example : (runPass opsDemo { existing := [exDemo], claims := [] } [podDemo, podDemo, podDemo, podDemo, podDemo]).map (·.2.1) =
    [.existing 0, .openNew, .inflight 0, .openNew, .inflight 1] := by decide

/-- the gate on a concrete history: create a, reconcile (blocked), create b, launch a, reconcile (blocked by b),
    launch b, reconcile (runs) -/
def sync0 : Sync := { hasSynced := true, claims := [], nodes := [], apiClaims := [], apiNodes := [] }
example : ((run (sync0, []) [.create "a", .reconcile, .create "b", .launch "a" "i-1", .reconcile, .launch "b" "i-2", .reconcile]).2).length = 1 := by decide
example : Unlaunched "a" (run (sync0, []) [.create "a", .reconcile, .create "b", .launch "b" "i-2", .reconcile]).1 ∧
    (run (sync0, []) [.create "a", .reconcile, .create "b", .launch "b" "i-2", .reconcile]).2 = [] := by
  have h := C04_no_pass_while_unlaunched "a" [.reconcile, .create "b", .launch "b" "i-2", .reconcile] (step (sync0, []) (.create "a"))
    (C04_create_blocks _ "a") (by decide)
  exact ⟨h.2, h.1⟩

/-- deleting nodes -/
example : (active [snRegistered, { snRegistered with marked := true }, { snRegistered with claim := some { claimA with deleting := true } }]).length = 1 := by decide

/-! ## 5. What is already assigned to a node

`Karp.PodAcct` models `Cluster.UpdatePod / DeletePod / UpdateNode / DeleteNode` with the binding bookkeeping; the theorems
quantify over ALL histories of API changes (pods created, bound, finished, failed, terminating, removed, re-created under
the same name on another node; nodes created and removed) and informer deliveries, in every interleaving. -/

section Accounting
open Karp.Spec.Assigned
variable {κ ν : Type} [DecidableEq κ] [DecidableEq ν]

/-- **C04_accounting_exact** — after any history, for every pod whose latest API change has been delivered (successfully:
    not answered with "node not found, retry"), every node cluster state tracks is charged for the pod EXACTLY when the
    pod is assigned to it by the independent reading `Karp.Spec.Assigned.assigned` (the object exists, is bound to the node
    and is not in a terminal phase).  So what `ExistingNode` subtracts from the allocatable is what is really assigned
    there — no pod that is over keeps room, none that still runs is forgotten — regardless of the order in which Pod and
    Node events arrived. -/
theorem C04_accounting_exact (evs : List (PodAcct.Ev κ ν)) (k : κ) (n : ν) :
    (PodAcct.run PodAcct.St.init evs).dirty k = false → (PodAcct.run PodAcct.St.init evs).tracked n = true →
    ((PodAcct.run PodAcct.St.init evs).acct n k = true ↔ assigned (PodAcct.run PodAcct.St.init evs).apiPod n k = true) :=
  fun hd ht => (PodAcct.inv_run _ PodAcct.inv_init evs).exact k hd n ht

/-- **C04_finished_pod_released** — a pod that reached a terminal phase and whose Pod event has been delivered is charged
    to no tracked node, whatever Node events (each of which rebuilds the node from the API) came before or after -/
theorem C04_finished_pod_released (evs : List (PodAcct.Ev κ ν)) (k : κ) (n : ν) (r : PodRec ν)
    (hr : (PodAcct.run PodAcct.St.init evs).apiPod k = some r) (hterm : r.terminal = true)
    (hd : (PodAcct.run PodAcct.St.init evs).dirty k = false) (ht : (PodAcct.run PodAcct.St.init evs).tracked n = true) :
    (PodAcct.run PodAcct.St.init evs).acct n k = false := by
  rw [Bool.eq_false_iff]
  intro hc
  have ha := (C04_accounting_exact evs k n hd ht).mp hc
  simp [assigned, hr, hterm] at ha

/-- **C04_terminating_pod_kept** — a pod that only has a deletionTimestamp (its containers still run) stays charged to its
    tracked node: room is not handed out twice -/
theorem C04_terminating_pod_kept (evs : List (PodAcct.Ev κ ν)) (k : κ) (n : ν) (r : PodRec ν)
    (hr : (PodAcct.run PodAcct.St.init evs).apiPod k = some r) (hn : r.node = some n) (hterm : r.terminal = false)
    (hd : (PodAcct.run PodAcct.St.init evs).dirty k = false) (ht : (PodAcct.run PodAcct.St.init evs).tracked n = true) :
    (PodAcct.run PodAcct.St.init evs).acct n k = true :=
  (C04_accounting_exact evs k n hd ht).mpr (by simp [assigned, hr, hn, hterm])

/-- **C04_charged_once** — at every moment of every history a pod is charged to at most one node, the one its recorded
    binding names (so following the binding releases everything) -/
theorem C04_charged_once (evs : List (PodAcct.Ev κ ν)) (k : κ) (n n' : ν)
    (h1 : (PodAcct.run PodAcct.St.init evs).acct n k = true) (h2 : (PodAcct.run PodAcct.St.init evs).acct n' k = true) : n = n' := by
  have i := PodAcct.inv_run _ (PodAcct.inv_init (κ := κ) (ν := ν)) evs
  exact Option.some.inj ((i.acct_binding n k h1).1.symm.trans (i.acct_binding n' k h2).1)

/-- **C04_untracked_uncharged** — at every moment of every history, a node whose Node object cluster state does not hold
    (never seen, or deleted: for a managed node only the NodeClaim half of its StateNode is left) is charged for nothing -/
theorem C04_untracked_uncharged (evs : List (PodAcct.Ev κ ν)) (k : κ) (n : ν)
    (ht : (PodAcct.run PodAcct.St.init evs).tracked n = false) : (PodAcct.run PodAcct.St.init evs).acct n k = false := by
  rw [Bool.eq_false_iff]
  intro hc
  rw [((PodAcct.inv_run _ PodAcct.inv_init evs).acct_binding n k hc).2] at ht
  cases ht

end Accounting

/-- non-vacuity (pods and nodes numbered): node 0 is tracked, pod 7 runs there, finishes, its event is delivered, then two
    Node events arrive — the hypotheses of `C04_finished_pod_released` hold and the pod had been charged before it finished -/
def acctHistory : List (PodAcct.Ev Nat Nat) :=
  [.nodeSet 0, .seeNode 0, .podSet 7 { node := some 0, terminal := false, terminating := false }, .seePod 7,
   .podSet 7 { node := some 0, terminal := true, terminating := false }, .seePod 7, .seeNode 0, .seeNode 0]
example : (PodAcct.run PodAcct.St.init (acctHistory.take 4)).acct 0 7 = true := by decide
example : (PodAcct.run PodAcct.St.init acctHistory).dirty 7 = false ∧ (PodAcct.run PodAcct.St.init acctHistory).tracked 0 = true ∧
    (PodAcct.run PodAcct.St.init acctHistory).acct 0 7 = false := by decide
/-- the skip test of the rebuild matters: were it "has a deletionTimestamp" instead of "is in a terminal phase", the same
    history would leave the finished pod charged to the node after the Node event (and `C04_accounting_exact` would fail) -/
example : (PodAcct.runBy (fun r => r.terminating) PodAcct.St.init acctHistory).acct 0 7 = true := by decide
/-- a terminating pod stays charged across Node events; a pod delivered before its node is tracked stays dirty -/
example : (PodAcct.run PodAcct.St.init [.nodeSet 0, .seeNode 0, .podSet 7 { node := some 0, terminal := false, terminating := true }, .seePod 7, .seeNode 0]).acct 0 7 = true := by decide
example : (PodAcct.run PodAcct.St.init [.podSet 7 { node := some (0 : Nat), terminal := false, terminating := false }, .seePod (7 : Nat)]).dirty 7 = true := by decide
/-- a pod name re-used on another node: the old node is released when the new binding is seen -/
example : let s := PodAcct.run PodAcct.St.init [.nodeSet 0, .seeNode 0, .nodeSet 1, .seeNode 1,
      .podSet 7 { node := some 0, terminal := false, terminating := false }, .seePod 7, .podGone 7,
      .podSet 7 { node := some 1, terminal := false, terminating := false }, .seePod 7]
    s.acct 0 7 = false ∧ s.acct 1 7 = true := by decide

end Karp.C04
