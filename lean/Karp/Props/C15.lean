/-
C15 — Drift is reported for drift-relevant changes and never self-inflicted.

Property theorems (lemmas: `Karp/Proofs/HashLemmas.lean`, `Karp/Proofs/DriftLemmas.lean`, `Karp/Proofs/LaunchLemmas.lean`).
Model: `Karp/Model/Hash.lean` (`NodePool.Hash()` = the hashstructure walk over `v1.NodeClaimTemplate`, field table
generated from the Go source), `Karp/Model/Drift.lean` (`areStaticFieldsDrifted`, `areRequirementsDrifted`,
`instanceTypeNotFound`, `isDrifted`, `Drift.Reconcile`, the nodepool/hash controller, `PopulateNodeClaimDetails`, the launch
under failing API writes).
Spec: `Karp/Spec/DriftSpec.lean` (which NodePools must share a hash; when a NodeClaim must / may be Drifted, with the
Kubernetes node-selector semantics).
-/
import Karp.Proofs.HashLemmas
import Karp.Proofs.DriftLemmas
import Karp.Proofs.LaunchLemmas
import Karp.Model.Template

namespace Karp.C15
open Karp.Hash Karp.Drift Karp.Req Karp.Spec.K8s Karp.Spec.DriftSpec

/-! ## Fact expectations over the tables generated from the Go source -/

/-- `NodePool.Hash()` hashes `in.Spec.Template` and nothing else -/
theorem fact_hashed_expr : Karp.Gen.C15Hash.hashedExpr = "in.Spec.Template" := rfl

/-- lists are hashed as sets, zero values are skipped, nil pointers are zero values; FormatV2 -/
theorem fact_hash_options :
    Karp.Gen.C15Hash.hashOptions = [("IgnoreZeroValue", "true"), ("SlicesAsSets", "true"), ("ZeroNil", "true")] ∧
    Karp.Gen.C15Hash.hashFormat = "hashstructure.FormatV2" := ⟨rfl, rfl⟩

/-- no type below the template overrides hashing (Hashable / Includable / IncludableMap) -/
theorem fact_no_custom_hashers : Karp.Gen.C15Hash.customHashers = [] := rfl

/-- the fields tagged `hash:"ignore"` / `"-"` below `v1.NodeClaimTemplate` -/
def ignoredFields : List (String × String) :=
  Karp.Gen.C15Hash.structs.flatMap (fun (_, short, fields) =>
    (fields.filter (fun (_, _, tag, _) => tag == "ignore" || tag == "-")).map (fun (name, _, _, _) => (short, name)))

/-- **exactly the documented field is ignored**: `requirements` (and the raw spelling of `expireAfter`, which is not a
    separate API field).  A missing or an additional `hash:"ignore"` tag fails here. -/
theorem fact_ignored_fields :
    ignoredFields = [("NodeClaimTemplateSpec", "Requirements"), ("NillableDuration", "Raw")] := by decide

/-- no other tag (`set`, `string`) and no unexported field occurs -/
theorem fact_only_ignore_tags :
    Karp.Gen.C15Hash.structs.all (fun (_, _, fields) => fields.all (fun (_, _, tag, exported) =>
      (tag == "" || tag == "ignore") && exported)) = true := by decide

/-- **the hashed field set** (type name as hashed, then every field in declaration order with its type and tag).  A
    new, removed, renamed, retyped or reordered field of any struct below the template fails here (and the hash version
    must then be bumped, see the comment on `NodePoolHashVersion`): the pair (field set, version) is fixed together.
    The only collections are the two maps and the two taint lists — what "reordering" can touch. -/
theorem fact_hashed_field_set :
    Karp.Gen.C15Hash.hashVersion = "v3" ∧
    Karp.Gen.C15Hash.structs.map (fun (_, short, fields) => (short, fields.map (fun (name, ty, tag, _) => (name, ty, tag)))) =
    [("NodeClaimTemplate", [("ObjectMeta", "v1.ObjectMeta", ""), ("Spec", "v1.NodeClaimTemplateSpec", "")]),
     ("ObjectMeta", [("Labels", "map[string]string", ""), ("Annotations", "map[string]string", "")]),
     ("NodeClaimTemplateSpec", [("Taints", "[]v1.Taint", ""), ("StartupTaints", "[]v1.Taint", ""),
        ("Requirements", "[]v1.NodeSelectorRequirementWithMinValues", "ignore"), ("NodeClassRef", "*v1.NodeClassReference", ""),
        ("TerminationGracePeriod", "*v1.Duration", ""), ("ExpireAfter", "v1.NillableDuration", "")]),
     ("Taint", [("Key", "string", ""), ("Value", "string", ""), ("Effect", "v1.TaintEffect", ""), ("TimeAdded", "*v1.Time", "")]),
     ("Time", [("Time", "time.Time", "")]),
     ("NodeClassReference", [("Kind", "string", ""), ("Name", "string", ""), ("Group", "string", "")]),
     ("Duration", [("Duration", "time.Duration", "")]),
     ("NillableDuration", [("Duration", "*time.Duration", ""), ("Raw", "[]byte", "ignore")])] := ⟨rfl, rfl⟩

/-- budgets, limits, weight, consolidation settings (and replicas) are fields of `NodePoolSpec` next to `Template`,
    hence outside the hashed expression -/
theorem fact_non_drifting_fields_outside_template :
    Karp.Gen.C15Hash.nodePoolSpecFields.map (·.1) = ["Template", "Disruption", "Limits", "Weight", "Replicas"] ∧
    Karp.Gen.C15Hash.disruptionFields.map (·.1) = ["ConsolidateAfter", "ConsolidationPolicy", "Budgets"] := ⟨rfl, rfl⟩

/-- the order of the checks in `isDrifted`: static hash, requirements, instance types, provider -/
theorem fact_isDrifted_order :
    Karp.Gen.C15Drift.isDriftedCalls =
      ["areStaticFieldsDrifted", "areRequirementsDrifted", "GetInstanceTypes", "instanceTypeNotFound", "IsDrifted"] := rfl

/-- the hash controller migrates the NodeClaims before it rewrites the NodePool's own annotations -/
theorem fact_hash_controller_order :
    Karp.Gen.C15Drift.hashReconcileCalls = ["updateNodeClaimHash", "Hash", "Patch"] ∧
    Karp.Gen.C15Drift.updateNodeClaimHashCalls = ["ListManaged", "Get", "Hash", "Patch"] := ⟨rfl, rfl⟩

/-- a drift reason is never the empty string (which `isDrifted` uses for "not drifted") and the three are distinct -/
theorem fact_reasons :
    Karp.Gen.C15Drift.reasonNodePoolDrifted ≠ "" ∧ Karp.Gen.C15Drift.reasonRequirementsDrifted ≠ "" ∧
    Karp.Gen.C15Drift.reasonInstanceTypeNotFound ≠ "" ∧
    Karp.Gen.C15Drift.reasonNodePoolDrifted ≠ Karp.Gen.C15Drift.reasonRequirementsDrifted ∧
    Karp.Gen.C15Drift.conditionDrifted = "Drifted" ∧ Karp.Gen.C15Drift.conditionLaunched = "Launched" := by decide

/-- the instance-type check asks `it.Offerings.HasCompatible(reqs)` on the full offering list: no `Available()` (or
    other) filter in between — what `Karp.Drift.instanceTypeNotFound` models by not reading `Offer.available` -/
theorem fact_instance_type_check_reads_all_offerings :
    Karp.Gen.C15Drift.instanceTypeNotFoundOfferingCalls = ["HasCompatible"] := rfl

/-- `Launch.Reconcile`: the cached answer or a real launch (`launchNodeClaim`, which only calls `Create` and merges
    nothing itself), then — after the two paths have joined — the answer is cached, merged into the NodeClaim
    (`PopulateNodeClaimDetails`) and only then `Launched` is set: what `Karp.Drift.launchReconcile` models -/
theorem fact_launch_merges_on_both_paths :
    Karp.Gen.C15Drift.launchReconcileCalls =
      ["cache.Get", "launchNodeClaim", "cache.SetDefault", "PopulateNodeClaimDetails", "SetTrue"] ∧
    Karp.Gen.C15Drift.launchNodeClaimCalls = ["Create"] := ⟨rfl, rfl⟩

/-- the API writes of the lifecycle controller's reconcile, in order: the finalizer patch, (the sub-reconcilers), the
    metadata patch, the status patch — the numbering of `failAt` in `Karp.Drift.launchReconcile` -/
theorem fact_lifecycle_write_order :
    Karp.Gen.C15Drift.lifecycleReconcileCalls =
      ["AddFinalizer", "kubeClient.Patch", "reconciler.Reconcile", "kubeClient.Patch", "kubeClient.Status().Patch"] := rfl

/-- **a NodeClaim built from a NodePool is stamped with the hash of the template it is built from**: inside
    `NewNodeClaimTemplate` the only expression assigned to the `karpenter.sh/nodepool-hash` annotation is `Hash()` of the
    NodePool passed in (not, e.g., the NodePool's own annotation, which lags behind the template until the hash controller
    has reconciled an edit), and the only hash version is the current one — what `Karp.Drift.stampOf` models. -/
theorem fact_claim_stamped_with_template_hash :
    Karp.Gen.C15Drift.claimHashStamps = [Karp.Gen.C15Drift.claimTemplateParam ++ ".Hash()"] ∧
    Karp.Gen.C15Drift.claimHashVersionStamps = ["v1.NodePoolHashVersion"] := ⟨rfl, rfl⟩

/-- **building a NodeClaim from a NodePool does not write into the NodePool**: the NodeClaim `NewNodeClaimTemplate` starts
    from shares its label and annotation maps with the NodePool's template (`v1.NodeClaimTemplate.ToNodeClaim` copies
    nothing), and the static-capacity code builds several templates from one NodePool object; so the function fills only
    fresh maps (`lo.Assign`) and contains no in-place write (`m[k] = v`, `delete`, `clear`) at all — what
    `C15_creation_leaves_nodepool` models, and what c15.drift observes on the NodePool object handed in. -/
theorem fact_claim_template_never_written_in_place : Karp.Gen.C15Drift.claimTemplateInPlaceWrites = [] := rfl

variable {U : Type}

/-! ## The hash: invariance -/

/-- **C15_order_insensitive** — reordering the labels, the annotations, the taints and the startup taints of a template
    (any permutation of each, all four at once) leaves the hash unchanged; for every template, every hash primitive set
    with a commutative and associative `xor` (in particular the FNV instance that reproduces the real value). -/
theorem C15_order_insensitive (P : Prims U) (hL : Lawful P) (a b : Template) (h : SameUpToOrder a b)
    (hreq : a.requirements = b.requirements) (hraw : a.expireAfterRaw = b.expireAfterRaw) :
    hashTemplate P a = hashTemplate P b := by
  apply hash_invariant P hL a b h
  · simp only [Template.specIsZero, h.taints.isNone_eq, h.startupTaints.isNone_eq, hreq, h.nodeClassRef, h.tgp,
      h.expireAfter, hraw]
  · right; rw [hraw]

/-- **C15_ignored (requirements)** — for a template with a node class reference (required by the CRD), replacing the
    requirements by ANY other requirement list (also nil ↔ non-nil) leaves the hash unchanged. -/
theorem C15_ignored_requirements (P : Prims U) (hL : Lawful P) (t : Template) (r : Option (List Sel))
    (href : t.nodeClassRef.isSome = true) :
    hashTemplate P { t with requirements := r } = hashTemplate P t := by
  apply hash_invariant P hL
  · exact ⟨OptPerm.refl _, OptPerm.refl _, OptPerm.refl _, OptPerm.refl _, rfl, rfl, rfl⟩
  · rw [specIsZero_of_ref t href]; exact specIsZero_of_ref _ href
  · right; rfl

/-- **C15_ignored (spelling of expireAfter)** — with a duration set, the raw text it was written as ("720h",
    "43200m", "720h0m0s") does not matter. -/
theorem C15_ignored_raw (P : Prims U) (hL : Lawful P) (t : Template) (raw : Option String)
    (hd : t.expireAfter.isSome = true) :
    hashTemplate P { t with expireAfterRaw := raw } = hashTemplate P t := by
  apply hash_invariant P hL
  · exact ⟨OptPerm.refl _, OptPerm.refl _, OptPerm.refl _, OptPerm.refl _, rfl, rfl, rfl⟩
  · rw [specIsZero_of_expireAfter t hd]; exact specIsZero_of_expireAfter _ hd
  · left; exact hd

/-- **C15_ignored (outside the template)** — budgets, limits, weight, consolidateAfter / consolidationPolicy, replicas
    and the NodePool's own metadata never reach the hash: it is a function of `spec.template` alone. -/
theorem C15_ignored_outside (P : Prims U) (p : Pool) (o : Outside) :
    poolHash P { p with outside := o } = poolHash P p := rfl

/-- **C15_spec_must_equal** (the specification's "must be equal" verdict is met by the model, for all NodePools):
    whenever the property text demands equal hashes — valid templates that differ only in the order of lists / maps,
    in `requirements`, in the spelling of `expireAfter`, and in anything outside the template — the hashes are equal. -/
theorem C15_spec_must_equal (P : Prims U) (hL : Lawful P) (a b : Pool)
    (h : fingerprintVerdict a b = .mustEqual) : poolHash P a = poolHash P b := by
  revert h
  fun_cases fingerprintVerdict a b
  all_goals intro h
  case case2 hvalid hsame hrepr =>
    obtain ⟨hva, hvb⟩ := Bool.and_eq_true_iff.mp (by simpa using hvalid)
    simp only [validTemplate, Bool.and_eq_true, beq_iff_eq] at hva hvb
    simp only [sameUpToOrder, Bool.and_eq_true, beq_iff_eq] at hsame
    simp only [sameRepresentation, Bool.and_eq_true] at hrepr
    obtain ⟨⟨⟨⟨⟨⟨hl, han⟩, ht⟩, hst⟩, href⟩, htgp⟩, hexp⟩ := hsame
    obtain ⟨⟨⟨rl, ran⟩, rt⟩, rst⟩ := hrepr
    refine hash_invariant P hL _ _ ⟨isPerm_optPerm _ _ hl rl, isPerm_optPerm _ _ han ran, isPerm_optPerm _ _ ht rt,
      isPerm_optPerm _ _ hst rst, href, htgp, hexp⟩ ?_ (Or.inr ?_)
    · rw [specIsZero_of_ref _ hva.1.1.1.1, specIsZero_of_ref _ hvb.1.1.1.1]
    · -- `Raw` is set exactly when the duration is, on both sides
      rw [← Option.not_isSome, ← Option.not_isSome, ← hva.1.1.1.2, ← hvb.1.1.1.2, hexp]
  all_goals cases h

/-! ## The hash: sensitivity

Full statement (what the property demands): *any* change of a non-ignored template field changes the hash.  For a
64-bit hash this can only hold up to collisions; proved is the structural part — with collision-free primitives
(`CollisionFree`, the named hypothesis) a change of the value hash of ONE hashed field, the others unchanged, is never
masked or cancelled by the walk (this is what `hashFinishUnordered` after every field is for).  That a changed field
value changes its own value hash is again collision-freeness, except for the taint lists: they are XOR-folded, so
duplicates cancel (`C15_duplicates_cancel` below — excluded by runtime validation: a taint (key, effect) occurs once). -/

inductive Field | labels | annotations | taints | startupTaints | nodeClassRef | tgp | expireAfter
deriving DecidableEq, Repr

/-- the value hash of each hashed field (`none` = zero value, the field is skipped) -/
def leaf (P : Prims U) (t : Template) : Field → Option U
  | .labels => hMap P t.labels
  | .annotations => hMap P t.annotations
  | .taints => hTaints P t.taints
  | .startupTaints => hTaints P t.startupTaints
  | .nodeClassRef => hRef P t.nodeClassRef
  | .tgp => hTGP P t.tgp
  | .expireAfter => hExpire P t.expireAfter t.expireAfterRaw

/-- **C15_sensitive_partial** — for collision-free primitives: if two templates have the same shape (the same fields
    are zero), the value hash of exactly one hashed field `f` differs and the value hashes of all others agree, then
    the template hashes differ.  For every template pair and every one of the seven hashed fields. -/
theorem C15_sensitive_partial (P : Prims U) (hL : Lawful P) (hC : CollisionFree P) (a b : Template) (f : Field)
    (hshape : ∀ g, (leaf P a g).isSome = (leaf P b g).isSome)
    (hmz : a.metaIsZero = b.metaIsZero) (hsz : a.specIsZero = b.specIsZero)
    (hothers : ∀ g, g ≠ f → leaf P a g = leaf P b g)
    (hdiff : leaf P a f ≠ leaf P b f) : hashTemplate P a ≠ hashTemplate P b := by
  intro heq
  apply hdiff
  rw [hashTemplate_eq, hashTemplate_eq] at heq
  have hl := hothers .labels; have han := hothers .annotations; have ht := hothers .taints
  have hst := hothers .startupTaints; have hr := hothers .nodeClassRef; have hg := hothers .tgp
  have he := hothers .expireAfter
  simp only [leaf] at hl han ht hst hr hg he
  have sl := hshape .labels; have san := hshape .annotations; have st := hshape .taints
  have sst := hshape .startupTaints; have sr := hshape .nodeClassRef; have sg := hshape .tgp
  have se := hshape .expireAfter
  simp only [leaf] at sl san st sst sr sg se
  by_cases hmeta : f = .labels ∨ f = .annotations
  · -- the Spec field agrees: peel it, then look inside ObjectMeta
    have hspec : hSpec P a = hSpec P b := by
      rw [hSpec_eq, hSpec_eq, hsz]
      rcases hmeta with h | h <;> rw [ht (by simp [h]), hst (by simp [h]), hr (by simp [h]), hg (by simp [h]), he (by simp [h])]
    rw [hspec] at heq
    have h1 := inc_acc_inj hL hC _ _ _ _ heq
    rw [hMeta_eq, hMeta_eq, hmz] at h1
    by_cases hz : b.metaIsZero = true
    · -- both maps nil on both sides: nothing differs
      have hza : a.metaIsZero = true := by rw [hmz]; exact hz
      simp only [Template.metaIsZero, Bool.and_eq_true, Option.isNone_iff_eq_none] at hz hza
      rcases hmeta with h | h <;> subst h <;> simp [leaf, hz.1, hz.2, hza.1, hza.2]
    · simp only [hz] at h1
      have h2 := inc_val_inj hC _ _ _ _ h1
      rcases hmeta with h | h <;> subst h
      · rw [han (by simp)] at h2
        have h3 := inc_acc_inj hL hC _ _ _ _ h2
        exact inc_opt_inj hC _ _ _ _ sl h3
      · rw [hl (by simp)] at h2
        exact inc_opt_inj hC _ _ _ _ san h2
  · -- ObjectMeta agrees: peel to the Spec struct
    have hmeta' : hMeta P a = hMeta P b := by
      rw [hMeta_eq, hMeta_eq, hmz, hl (by intro h; exact hmeta (Or.inl h.symm)),
        han (by intro h; exact hmeta (Or.inr h.symm))]
    rw [hmeta'] at heq
    rw [hSpec_eq, hSpec_eq, hsz] at heq
    by_cases hz : b.specIsZero = true
    · have hza : a.specIsZero = true := by rw [hsz]; exact hz
      simp only [Template.specIsZero, Bool.and_eq_true, Option.isNone_iff_eq_none] at hz hza
      obtain ⟨⟨⟨⟨⟨⟨z1, z2⟩, _⟩, z4⟩, z5⟩, z6⟩, z7⟩ := hz
      obtain ⟨⟨⟨⟨⟨⟨y1, y2⟩, _⟩, y4⟩, y5⟩, y6⟩, y7⟩ := hza
      cases f <;> simp [leaf, z1, z2, z4, z5, z6, z7, y1, y2, y4, y5, y6, y7, hExpire_eq] at hmeta ⊢
    · simp only [hz] at heq
      have h1 := inc_val_inj hC _ _ _ _ heq
      cases f with
      | labels => exact absurd (Or.inl rfl) hmeta
      | annotations => exact absurd (Or.inr rfl) hmeta
      | expireAfter =>
        rw [ht (by simp), hst (by simp), hr (by simp), hg (by simp)] at h1
        exact inc_opt_inj hC _ _ _ _ se h1
      | tgp =>
        rw [ht (by simp), hst (by simp), hr (by simp), he (by simp)] at h1
        have h2 := inc_acc_inj hL hC _ _ _ _ h1
        exact inc_opt_inj hC _ _ _ _ sg h2
      | nodeClassRef =>
        rw [ht (by simp), hst (by simp), hg (by simp), he (by simp)] at h1
        have h2 := inc_acc_inj hL hC _ _ _ _ (inc_acc_inj hL hC _ _ _ _ h1)
        exact inc_opt_inj hC _ _ _ _ sr h2
      | startupTaints =>
        rw [ht (by simp), hr (by simp), hg (by simp), he (by simp)] at h1
        have h2 := inc_acc_inj hL hC _ _ _ _ (inc_acc_inj hL hC _ _ _ _ (inc_acc_inj hL hC _ _ _ _ h1))
        exact inc_opt_inj hC _ _ _ _ sst h2
      | taints =>
        rw [hst (by simp), hr (by simp), hg (by simp), he (by simp)] at h1
        have h2 := inc_acc_inj hL hC _ _ _ _ (inc_acc_inj hL hC _ _ _ _ (inc_acc_inj hL hC _ _ _ _
          (inc_acc_inj hL hC _ _ _ _ h1)))
        exact inc_opt_inj hC _ _ _ _ st h2

/-! ### Boundaries of the invariance theorems (machine-checked on the FNV instance = the real hash values)

These are consequences of `IgnoreZeroValue` / XOR set hashing, all replayed on the real `NodePool.Hash()` by the
correspondence op `c15.hash` (corpus `c15.hash/*`). -/

def wRef : NodeClassRef := { kind := "TestNodeClass", name := "default", group := "karpenter.test.sh" }
def wTaint : Taint := { key := "dedicated", value := "a", effect := "NoSchedule" }
def wSel : Sel := { key := "team", op := .in_, values := ["a"], minValues := none }

/-- XOR set hashing: a taint repeated an odd number of times hashes like a single occurrence, an even number of times
    like an empty (non-nil) list.  Excluded by runtime validation (a taint (key, effect) pair occurs once). -/
theorem C15_duplicates_cancel :
    hashTemplate fnvPrims { nodeClassRef := some wRef, taints := some [wTaint, wTaint, wTaint] } =
      hashTemplate fnvPrims { nodeClassRef := some wRef, taints := some [wTaint] } ∧
    hashTemplate fnvPrims { nodeClassRef := some wRef, taints := some [wTaint, wTaint] } =
      hashTemplate fnvPrims { nodeClassRef := some wRef, taints := some [] } :=
  ⟨hashTemplate_congr _ _ _ rfl rfl rfl rfl (hTaints_cons_cons_self _ fnvPrims_xor_undo _ _) rfl rfl rfl rfl,
   hashTemplate_congr _ _ _ rfl rfl rfl rfl (hTaints_cons_cons_self _ fnvPrims_xor_undo _ _) rfl rfl rfl rfl⟩

/-- a nil list and an empty list hash differently (the specification leaves this pair unspecified) -/
theorem C15_nil_vs_empty :
    hashTemplate fnvPrims { nodeClassRef := some wRef, taints := none } ≠
      hashTemplate fnvPrims { nodeClassRef := some wRef, taints := some [] } := by
  -- the struct walk by its lemmas, FNV by evaluation
  simp only [hashTemplate_eq, hMeta_eq, hSpec_eq, hExpire_eq, hRef_eq, hTGP_eq, hTaints, hTaint_eq, hTimeAdded_eq,
    utf8_eq_bytes]
  decide +kernel

/-- without a node class reference (forbidden by the CRD) the `Spec` field can be all-zero, and then the IGNORED
    requirements decide whether it is skipped: `C15_ignored_requirements` needs its hypothesis. -/
theorem C15_ignored_needs_nodeClassRef :
    hashTemplate fnvPrims { requirements := some [wSel] } ≠ hashTemplate fnvPrims { requirements := none } := by
  simp only [hashTemplate_eq, hMeta_eq, hSpec_eq, hExpire_eq, hRef_eq, hTGP_eq, hTaints, hTaint_eq, hTimeAdded_eq,
    utf8_eq_bytes]
  decide

/-! ## Drift: the three predicates -/

/-- **C15_static_drift** — `areStaticFieldsDrifted` reports drift exactly when both objects carry both annotations, the
    hash versions agree and the hashes differ ("its hash differs under the same hash version"). -/
theorem C15_static_drift (np nc : Ann) :
    staticDrifted np nc = true ↔
      ∃ ph pv ch cv, np.hash = some ph ∧ np.version = some pv ∧ nc.hash = some ch ∧ nc.version = some cv ∧
        pv = cv ∧ ph ≠ ch := by
  constructor
  · intro h
    unfold staticDrifted at h
    split at h
    · next ph pv ch cv h1 h2 h3 h4 => exact ⟨ph, pv, ch, cv, h1, h2, h3, h4, by simpa using h⟩
    · cases h
  · rintro ⟨ph, pv, ch, cv, h1, h2, h3, h4, e, ne⟩
    simp [staticDrifted, h1, h2, h3, h4, e, ne]

theorem C15_static_drift_spec (np nc : Ann) :
    staticDrifted np nc = hashDiffersUnderSameVersion np.hash np.version nc.hash nc.version := rfl

theorem C15_same_annotations_not_drifted (a : Ann) : staticDrifted a a = false := staticDrifted_self a

/-- the executable `readable` of the specification (what the driver evaluates on the implementation's observations)
    gives the `Readable` hypothesis of the theorems below, for labels that form a map -/
theorem C15_readable_of_spec (sels : List Sel) (labels : Karp.Drift.Labels) (h : readable sels labels = true)
    (hnd : (labels.map (·.1)).Nodup) : Readable sels labels := by
  unfold readable at h
  simp only [Bool.and_eq_true, List.all_eq_true, Bool.not_eq_true'] at h
  obtain ⟨hs, hl⟩ := h
  refine ⟨?_, ?_, ?_, hnd⟩
  · intro s hsm
    obtain ⟨⟨h1, _⟩, h3⟩ := hs s hsm
    unfold validSel
    rw [h1]
    simp only [Bool.true_and, Bool.not_eq_true']
    exact h3
  · intro s hsm; exact normalizeKey_of_not_alias _ (hs s hsm).1.2
  · intro kv hkv; exact normalizeKey_of_not_alias _ (hl kv hkv)

/-- **C15_no_false_requirements_drift** (never self-inflicted, requirement part) — whenever the NodeClaim's labels
    satisfy every requirement expression of the NodePool under the Kubernetes node-selector semantics,
    `areRequirementsDrifted` reports no drift.  For all requirement lists (any number of expressions per key, all eight
    operators) and all label sets, under `Readable` (validated operands, no deprecated alias keys, labels a map). -/
theorem C15_no_false_requirements_drift (sels : List Sel) (labels : Karp.Drift.Labels) (hr : Readable sels labels)
    (hsat : labelsSatisfy sels labels = true) : requirementsDrifted sels labels = .ok false := by
  have hsat' : ∀ s ∈ sels, k8sMatch s.op s.values (labels.lookup s.key) = true := by
    simpa [labelsSatisfy, List.all_eq_true] using hsat
  refine (requirementsDrifted_iff sels labels hr).mpr fun p hp => accepts_admits ?_
  -- every expression on this key accepts the actual label, hence so does their intersection
  apply accepts_add (fun k => labels.lookup k) (sels.map selReq) p hp
  intro r hrm hrk
  obtain ⟨s, hs, rfl⟩ := List.mem_map.mp hrm
  have hk : s.key = p.1 := by rw [← hrk, selReq_key, hr.selKeys s hs]
  exact accepts_selReq s _ (hr.valid s hs) (hk ▸ hsat' s hs)

/-- Full statement (what the property demands): for every readable requirement list and label set,

      labelsSatisfy sels labels = false → requirementsDrifted sels labels = .ok true.

    It is false for the code as it is (`C15_drift_missed_*` below; replayed on the real disruption controller, recorded
    in known_findings.json).  Proved:

    **C15_drift_detects_partial** — if some requirement expression is violated by the NodeClaim's labels, drift IS
    reported whenever the violated expression's label is present on the NodeClaim; and also when it is absent, provided
    the requirement representation is `Faithful` for the NodePool's requirement list (it is whenever each key carries
    one expression; it fails exactly for the two recorded classes). -/
theorem C15_drift_detects_partial (sels : List Sel) (labels : Karp.Drift.Labels) (hr : Readable sels labels)
    (s : Sel) (hs : s ∈ sels) (hviol : k8sMatch s.op s.values (labels.lookup s.key) = false)
    (hcase : (labels.lookup s.key).isSome = true ∨ Faithful sels) :
    requirementsDrifted sels labels = .ok true := by
  obtain ⟨b, hb⟩ : ∃ b, requirementsDrifted sels labels = .ok b :=
    ⟨_, requirementsDrifted_eq sels labels fun x hx => validOperands_of_validSel x (hr.valid x hx)⟩
  cases b with
  | true => exact hb
  | false =>
    have := satisfy_of_not_drifted sels labels hr hb s hs hcase
    rw [hviol] at this; cases this

/-- **C15_drift_detects_one_expression_per_key** — for a NodePool that constrains every key with ONE expression (the
    overwhelmingly common shape; any of the eight operators, `Gt MaxInt` / `Lt MinInt` excepted) requirement drift is
    detected completely: the NodeClaim is reported drifted if AND ONLY IF its labels violate some requirement expression
    under the Kubernetes semantics. -/
theorem C15_drift_detects_one_expression_per_key (sels : List Sel) (labels : Karp.Drift.Labels) (hr : Readable sels labels)
    (hx : ∀ s ∈ sels, noExtreme s = true) (hnd : (sels.map (fun s => normalizeKey s.key)).Nodup) :
    requirementsDrifted sels labels = .ok (!labelsSatisfy sels labels) := by
  have hf : Faithful sels := faithful_of_distinct sels (fun s hs => ⟨hr.valid s hs, hx s hs⟩) hnd
  cases hsat : labelsSatisfy sels labels with
  | true => exact C15_no_false_requirements_drift sels labels hr hsat
  | false =>
    obtain ⟨s, hs, hm⟩ := List.all_eq_false.mp hsat
    exact C15_drift_detects_partial sels labels hr s hs (Bool.eq_false_iff.mpr hm) (Or.inr hf)

def wLabels : Karp.Drift.Labels := [("karpenter.sh/nodepool", "pool-a"), ("topology.kubernetes.io/zone", "z1")]

/-- negation witness 1 (recorded finding C15-unsatisfiable-requirements-read-as-absent): `tier In [gold]` together with
    `tier In [silver]` is violated by every label set, yet a NodeClaim without the label is not drifted -/
theorem C15_drift_missed_unsatisfiable :
    labelsSatisfy [{ key := "tier", op := .in_, values := ["gold"], minValues := none },
                   { key := "tier", op := .in_, values := ["silver"], minValues := none }] wLabels = false ∧
    (requirementsDrifted [{ key := "tier", op := .in_, values := ["gold"], minValues := none },
                         { key := "tier", op := .in_, values := ["silver"], minValues := none }] wLabels).toOption = some false := by decide +kernel

/-- negation witness 2 (recorded finding C15-presence-lost-with-notin): `n Gt 2` needs the label, but next to
    `n NotIn [5]` a NodeClaim without it is not drifted -/
theorem C15_drift_missed_presence_lost :
    labelsSatisfy [{ key := "example.com/n", op := .gt, values := ["2"], minValues := none },
                   { key := "example.com/n", op := .notIn, values := ["5"], minValues := none }] wLabels = false ∧
    (requirementsDrifted [{ key := "example.com/n", op := .gt, values := ["2"], minValues := none },
                         { key := "example.com/n", op := .notIn, values := ["5"], minValues := none }] wLabels).toOption = some false := by decide +kernel

/-! ## Drift: the sub-reconciler -/

/-- **C15_reconcile_reports** — on a launched NodeClaim, `Drift.Reconcile` sets the Drifted condition whenever the hash
    differs under the same hash version (reason NodePoolDrifted, which takes precedence) or the labels are not
    `Compatible` with the NodePool's requirements (reason RequirementsDrifted) — before any provider call, so for every
    provider answer and error. -/
theorem C15_reconcile_reports (s : St) (c : Claim) (hl : c.launched = true) (b : Bool)
    (hreq : requirementsDrifted (s.pool.pool.template.requirements.getD []) c.labels = .ok b)
    (h : staticDrifted s.pool.ann c.ann = true ∨ b = true) :
    ∃ c' k, driftReconcile s c = .ok (c', false, k) ∧
      c'.drifted = some (if staticDrifted s.pool.ann c.ann then Karp.Gen.C15Drift.reasonNodePoolDrifted
                         else Karp.Gen.C15Drift.reasonRequirementsDrifted) := by
  have e1 : (Karp.Gen.C15Drift.reasonNodePoolDrifted == "") = false := beq_false_of_ne fact_reasons.1
  have e2 : (Karp.Gen.C15Drift.reasonRequirementsDrifted == "") = false := beq_false_of_ne fact_reasons.2.1
  unfold driftReconcile isDrifted
  simp only [hl, Bool.not_true, Bool.false_eq_true, if_false, hreq, bind, Except.bind, pure, Except.pure]
  by_cases hs : staticDrifted s.pool.ann c.ann = true
  · simp only [hs, if_true, e1, Bool.false_eq_true, if_false]
    exact ⟨_, _, rfl, rfl⟩
  · have hb : b = true := by rcases h with h | h; exact absurd h hs; exact h
    simp only [hs, hb, if_true, e2, Bool.false_eq_true, if_false]
    exact ⟨_, _, rfl, rfl⟩

theorem C15_not_launched_not_drifted (s : St) (c : Claim) (hl : c.launched = false) :
    driftReconcile s c = .ok ({ c with drifted := none }, false, false) := by
  unfold driftReconcile; simp [hl, pure, Except.pure]

/-! ## The hash controller -/

/-- **C15_hash_controller_stamps** — after the hash controller ran on a managed NodePool it carries its current hash and
    the current hash version; the spec is untouched. -/
theorem C15_hash_controller_stamps (s : St) (hp : s.pool.present = true) (hm : s.poolManaged = true) :
    (hashReconcile s).pool.ann = freshAnn s ∧ (hashReconcile s).pool.pool = s.pool.pool := by
  unfold hashReconcile freshAnn
  simp [hp, hm]

/-- **C15_migration_never_drifts** (a hash-version bump is never self-inflicted) — a NodeClaim with an older hash version
    and no Drifted condition is re-stamped with the NodePool's new hash: right after the migration it is not statically
    drifted, whatever hash it carried before. -/
theorem C15_migration_never_drifts (h : String) (c : Claim) (hd : c.drifted = none)
    (hv : c.ann.version ≠ some currentVersion) :
    staticDrifted { hash := some h, version := some currentVersion } (migrateClaim h c).ann = false := by
  unfold migrateClaim
  have : (c.ann.version != some currentVersion) = true := by simpa using hv
  simp [this, hd, staticDrifted]

/-- a NodeClaim that was already Drifted keeps its old hash (it stays comparable as drifted); one that already carries the
    current version is not touched at all -/
theorem C15_migration_keeps (h : String) (c : Claim) :
    (c.drifted.isSome = true → (migrateClaim h c).ann.hash = c.ann.hash ∧ (migrateClaim h c).drifted = c.drifted) ∧
    (c.ann.version = some currentVersion → migrateClaim h c = c) := by
  refine ⟨fun hd => ?_, migrateClaim_current h c⟩
  unfold migrateClaim
  cases hdr : c.drifted with
  | none => rw [hdr] at hd; cases hd
  | some r => by_cases hv : (c.ann.version != some currentVersion) = true <;> simp [hv, hdr]

/-! ## No self-inflicted drift -/

/-- **C15_no_self_drift** (invariant over ALL histories) — take any state in which the NodePool carries its current
    hash and hash version, the provider reports no drift, and every NodeClaim is stamped with the NodePool's
    annotations, has no Drifted condition, has labels `Compatible` with the NodePool's requirements and an instance type
    and offering the provider still lists.  Then along every history — of any length — of hash-controller runs,
    disruption-controller reconciles of any NodeClaim and clock advances (no edit of the NodePool, of a NodeClaim or of
    the provider's catalogue), with provider calls failing or not, no NodeClaim is ever reported Drifted: every
    intermediate state is settled again. -/
theorem C15_no_self_drift (s : St) (steps : List Step) (hs : Settled s) (hq : ∀ st ∈ steps, quiet st = true) :
    ∃ out, run s steps = .ok out ∧ ∀ p ∈ out, Settled p.1 ∧ ∀ c ∈ p.1.claims, c.drifted = none := by
  obtain ⟨out, hrun, hout⟩ := settled_run steps s hs hq
  exact ⟨out, hrun, fun p hp => ⟨hout p hp, fun c hc => ((hout p hp).claims c hc).2.1⟩⟩

/-- **C15_fresh_claim_settled** — a NodeClaim created from the NodePool (annotations = the NodePool's current hash and
    version, as `NewNodeClaimTemplate` stamps them; no Drifted condition) whose labels after launch satisfy the
    NodePool's requirements (Kubernetes reading) and whose instance type / offering are listed, together with the
    NodePool after the hash controller ran, is a settled state — so `C15_no_self_drift` applies to it. -/
theorem C15_fresh_claim_settled (s : St) (hp : s.pool.ann = freshAnn s) (hv : s.prov.drift = "")
    (hc : ∀ c ∈ s.claims, c.ann = freshAnn s ∧ c.drifted = none ∧
      Readable (s.pool.pool.template.requirements.getD []) c.labels ∧
      labelsSatisfy (s.pool.pool.template.requirements.getD []) c.labels = true ∧
      instanceTypeNotFound s.prov.its c.labels s.wellKnown s.reservedLabels = false) : Settled s :=
  ⟨hp, hv, fun c hcm =>
    let ⟨h1, h2, h3, h4, h5⟩ := hc c hcm
    ⟨h1, h2, C15_no_false_requirements_drift _ _ h3 h4, h5⟩⟩

/-- Full statement (what the property demands): the labels of EVERY freshly created and launched NodeClaim satisfy its
    NodePool's requirements.  It is false for the code as it is in three recorded situations (all replayed end to end,
    corpus `c15.selfdrift/*`): a template whose own label contradicts its own requirement (hypothesis `htemplate`
    below); a custom integer label for which `Requirement.Any()` finds no canonical value; and a custom label the
    NodePool needs present whose presence requirement the scheduler lost next to a pod's `NotIn` (the last two are
    excluded by hypothesis `hdefined`).  Proved:

    **C15_launch_labels_satisfy_partial** — the labels of a launched NodeClaim are, in order of precedence, the custom
    labels resolved at creation, the template's labels (with the NodePool / NodeClass labels), and below them the
    provider's labels (`PopulateNodeClaimDetails`).  If each of the three sources only carries values the NodePool's
    expressions on that key accept (resolved labels: `C13_resolved_labels_admitted`; provider labels: the provider
    contract "Create returns labels satisfying the NodeClaim's requirements"; template labels: a consistent NodePool),
    and every key some expression needs present is defined by one of them, then the final labels satisfy every
    requirement expression — whatever shadows whatever. -/
theorem C15_launch_labels_satisfy_partial (sels : List Sel) (templateLabels resolved providerLabels : Karp.Drift.Labels)
    (htemplate : ∀ s ∈ sels, ∀ v, templateLabels.lookup s.key = some v → k8sMatch s.op s.values (some v) = true)
    (hresolved : ∀ s ∈ sels, ∀ v, resolved.lookup s.key = some v → k8sMatch s.op s.values (some v) = true)
    (hprovider : ∀ s ∈ sels, ∀ v, providerLabels.lookup s.key = some v → k8sMatch s.op s.values (some v) = true)
    (hdefined : ∀ s ∈ sels, k8sMatch s.op s.values none = false →
      ((resolved.lookup s.key).isSome || (templateLabels.lookup s.key).isSome || (providerLabels.lookup s.key).isSome) = true) :
    labelsSatisfy sels (populateLabels (Karp.Template.assign templateLabels resolved) providerLabels) = true := by
  unfold labelsSatisfy
  rw [List.all_eq_true]
  intro s hs
  rw [lookup_populate, show Karp.Template.assign templateLabels resolved = resolved ++ templateLabels from rfl,
    List.lookup_append]
  cases h1 : resolved.lookup s.key with
  | some v => simpa using hresolved s hs v h1
  | none =>
    cases h2 : templateLabels.lookup s.key with
    | some v => simpa using htemplate s hs v h2
    | none =>
      cases h3 : providerLabels.lookup s.key with
      | some v => simpa using hprovider s hs v h3
      | none =>
        simp only [Option.or_none]
        cases hm : k8sMatch s.op s.values none with
        | true => rfl
        | false =>
          have := hdefined s hs hm
          simp [h1, h2, h3] at this

/-! ## The launch under failing API writes, and capacity that sells out -/

/-- **C15_launch_creates_once** — along every history of lifecycle reconciles of a fresh NodeClaim, whichever API writes
    fail (any write of any reconcile, any number of times), `CloudProvider.Create` is called at most once: a launch whose
    write-back failed is replayed from the cache, never repeated. -/
theorem C15_launch_creates_once (l0 p : Karp.Drift.Labels) (fs : List Nat) :
    (launchFinal { labels := l0 } p fs).creates ≤ 1 := by
  have h := launchInv_final l0 p fs _ (launchInv_init l0 p)
  rcases h.creates with ⟨h0, _⟩ | ⟨h1, _⟩
  · rw [h0]; exact Nat.zero_le 1
  · rw [h1]; exact Nat.le_refl 1

/-- **C15_launch_replay_keeps_launch_choice** (invariant over ALL histories of reconciles and write failures) — in every
    state in which the stored NodeClaim is `Launched`, it carries, key by key, exactly the labels of
    `PopulateNodeClaimDetails` applied to the labels it was created with and the provider's answer: its own labels, and
    below them the provider's (instance type, zone, capacity type, …) — also when the metadata or the status patch
    failed first and the launch was replayed from the cache, once or repeatedly. -/
theorem C15_launch_replay_keeps_launch_choice (l0 p : Karp.Drift.Labels) (fs : List Nat) :
    ∀ r ∈ launchRun { labels := l0 } p fs, r.1.launched = true →
      ∀ k, r.1.labels.lookup k = (populateLabels l0 p).lookup k :=
  fun r hr hl => (launchInv_run l0 p fs _ (launchInv_init l0 p) r hr).launched hl

/-- … hence the drift verdicts on it are those of the undisturbed launch: whatever the NodePool's requirements, the
    labels of a NodeClaim launched through any history of write failures satisfy them exactly when the labels of the
    undisturbed launch do (to which `C15_launch_labels_satisfy_partial` applies). -/
theorem C15_launch_replay_labels_satisfy (sels : List Sel) (l0 p : Karp.Drift.Labels) (fs : List Nat)
    (hl : (launchFinal { labels := l0 } p fs).launched = true) :
    labelsSatisfy sels (launchFinal { labels := l0 } p fs).labels = labelsSatisfy sels (populateLabels l0 p) := by
  have h := (launchInv_final l0 p fs _ (launchInv_init l0 p)).launched hl
  unfold labelsSatisfy
  apply List.all_congr rfl
  intro s
  rw [h s.key]

/-- a reconcile none of whose writes fails leaves the NodeClaim Launched, from every state (cache filled or not): the
    histories of the two theorems above do reach `Launched` -/
theorem C15_launch_clean_reconcile_launches (s : LaunchSt) (p : Karp.Drift.Labels) :
    (launchReconcile s p 0).1.launched = true ∧ (launchReconcile s p 0).2 = false := by
  unfold launchReconcile
  by_cases hl : s.launched = true
  · simp [hl]
  · have hl' : s.launched = false := by simpa using hl
    by_cases hf : s.finalizer = true <;> simp [hl', hf]

/-- **C15_sold_out_offering_is_still_offered** — `instanceTypeNotFound`, and with it the whole drift decision
    `isDrifted`, does not depend on which of the listed offerings can currently be launched into: two catalogues that list
    the same instance types and offerings and differ only in availability give the same verdict, for every NodeClaim.
    (A NodeClaim whose launch offering is sold out is not drifted by that; an offering that is REMOVED is reported.) -/
theorem C15_sold_out_offering_is_still_offered (s : St) (its' : List ITD) (c : Claim)
    (h : listed s.prov.its = listed its') :
    instanceTypeNotFound s.prov.its c.labels s.wellKnown s.reservedLabels =
      instanceTypeNotFound its' c.labels s.wellKnown s.reservedLabels ∧
    isDrifted { s with prov := { s.prov with its := its' } } c = isDrifted s c := by
  have e := instanceTypeNotFound_listed s.prov.its its' h c.labels s.wellKnown s.reservedLabels
  refine ⟨e, ?_⟩
  unfold isDrifted
  simp only [e]

/-! ## NodeClaims created in mid-history (the provisioner runs at any point relative to the hash controller) -/

/-- **C15_create_stamps_template** — a NodeClaim the provisioner creates from the stored NodePool carries the hash of the
    template it is built from and the current hash version, has no Drifted condition, and leaves the NodePool untouched —
    whatever the NodePool's own annotations say at that moment (absent, stale after an edit, tampered with). -/
theorem C15_create_stamps_template (s s' : St) (n : String) (resolved providerLabels : Karp.Drift.Labels) (launched : Bool)
    (h : createClaim s n resolved providerLabels launched = .ok s') (hp : s.pool.present = true)
    (hnew : s.claims.any (·.name == n) = false) :
    ∃ c, s'.claims = s.claims ++ [c] ∧ c.name = n ∧ c.ann = stampOf s.pool.pool ∧ c.drifted = none ∧ s'.pool = s.pool := by
  have hc := createClaim_ok s s' n resolved providerLabels launched h
  rw [if_neg (by simp [hp, hnew])] at hc
  obtain ⟨c, rfl, h1, h2, h3⟩ := hc
  exact ⟨c, rfl, h1, h2, h3, rfl⟩

/-- **C15_stamp_ignores_annotation** — the stamp is a function of the NodePool's spec (`Pool`) alone: the NodePool's own
    annotations (`PoolSt.ann`) are no argument of `stampOf`. -/
theorem C15_stamp_ignores_annotation (p : Pool) : stampOf p = { hash := some p.hashString, version := some currentVersion } := rfl

/-- **C15_created_claim_keeps_template_stamp** (invariant over ALL histories) — start in any state without a NodeClaim
    named `n`.  Along every history, of any length, of steps that neither edit the NodePool's spec nor overwrite a
    NodeClaim's annotations — creations (of `n` and of others), hash-controller runs (hash-version migrations included),
    disruption-controller reconciles, label / Launched / provider / clock changes, tampering with the NodePool's own
    annotations — every NodeClaim named `n` carries, in every state, the hash of the NodePool's current template under
    the current hash version. -/
theorem C15_created_claim_keeps_template_stamp (s : St) (n : String) (steps : List Step) (out : List (St × Bool))
    (hnew : ∀ c ∈ s.claims, c.name ≠ n) (hq : ∀ st ∈ steps, keepsStamp st = true) (hrun : run s steps = .ok out) :
    ∀ p ∈ out, ∀ c ∈ p.1.claims, c.name = n → c.ann = stampOf p.1.pool.pool :=
  tracks_run n steps s (fun c hc hn => absurd hn (hnew c hc)) hq out hrun

/-- **C15_created_claim_never_self_drifted** (invariant over ALL timely histories) — along every such history in which,
    moreover, the disruption controller reconciles only while the NodePool's annotation is up to date with its template
    (i.e. the hash controller has run since the last edit — `C15_hash_controller_stamps`) and the provider never answers
    with the reason `NodePoolDrifted`, no NodeClaim named `n` is ever reported `NodePoolDrifted`: a NodeClaim created
    between a template edit and the hash controller's next run is not drifted by that edit. -/
theorem C15_created_claim_never_self_drifted (s : St) (n : String) (steps : List Step) (out : List (St × Bool))
    (hnew : ∀ c ∈ s.claims, c.name ≠ n) (hq : timelyRun s steps = true) (hrun : run s steps = .ok out) :
    ∀ p ∈ out, ∀ c ∈ p.1.claims, c.name = n →
      c.ann = stampOf p.1.pool.pool ∧ c.drifted ≠ some Karp.Gen.C15Drift.reasonNodePoolDrifted :=
  calm_run n steps s (fun c hc hn => absurd hn (hnew c hc)) hq out hrun

/-- the hash controller brings the NodePool's annotation up to date: the hypothesis of `timely` holds after it ran -/
theorem C15_hash_controller_makes_timely (s : St) (hp : s.pool.present = true) (hm : s.poolManaged = true) :
    (hashReconcile s).pool.ann = stampOf (hashReconcile s).pool.pool := by
  obtain ⟨h1, h2⟩ := C15_hash_controller_stamps s hp hm
  rw [h1, h2]; rfl

def wStaleTemplate : Template :=
  { labels := some [("team", "b")], nodeClassRef := some wRef,
    requirements := some [{ key := "example.com/n", op := .gt, values := ["2"], minValues := none }] }
def wStale : St :=
  { pool := { name := "pool-a", pool := { template := wStaleTemplate },
              ann := { hash := some ({ template := { wStaleTemplate with labels := some [("team", "a")] } } : Pool).hashString,
                       version := some currentVersion } },
    claims := [], prov := { its := [{ name := "it-a", offerings := [{ reqs := [] }] }] },
    nodeClass := ("karpenter.test.sh", "TestNodeClass") }
def wProviderLabels : Karp.Drift.Labels := [("node.kubernetes.io/instance-type", "it-a"), ("topology.kubernetes.io/zone", "z1")]
/-- an outcome of the `Any()` calls: a value for the bounded custom key, and the single values of the label keys -/
def wResolved (n : String) : Karp.Drift.Labels :=
  [("example.com/n", n), ("team", "b"), ("karpenter.test.sh/testnodeclass", "default")]

/-- **C15_stale_window_transient** (what the hypothesis `timely` excludes; the standing assumption of manifest/C15.json,
    here as a fact of the model, replayed on the real controllers: corpus `c15.drift/006`) — while the NodePool's
    annotation is behind its template, `areStaticFieldsDrifted` compares the hash of a NodeClaim created from the NEW
    template with the annotation of the OLD one: the NodePool was stamped when its template said team=a, the template
    now says team=b, the hash controller has not run yet; a NodeClaim created now and reconciled right away is reported
    `NodePoolDrifted` — transiently: not (second part) once the hash controller has run first.  In that window the two
    clauses of the property contradict each other (the hash does differ from the NodePool's annotation under the same
    hash version), so the specification gives no verdict there. -/
theorem C15_stale_window_transient :
    (run wStale [.create "new-0" (wResolved "7") wProviderLabels true, .reconcile "new-0"]).toOption.map
      (fun out => out.map (fun p => p.1.claims.map (·.drifted))) = some [[none], [some "NodePoolDrifted"]] ∧
    (run wStale [.create "new-0" (wResolved "7") wProviderLabels true, .hashctl, .reconcile "new-0"]).toOption.map
      (fun out => out.map (fun p => p.1.claims.map (·.drifted))) = some [[none], [none], [none]] := by decide +kernel

/-! ## Several NodeClaims built from ONE in-memory NodePool object

The static-capacity code builds several NodeClaimTemplates from one NodePool object: `static.provisioning` one per missing
replica, `StaticDrift.ComputeCommands` one per drifted candidate.  Building a NodeClaim reads the NodePool and must not
write to it (the template's label map is handed out by `v1.NodeClaimTemplate.ToNodeClaim()` without a copy, so an in-place
write would change what every later `nodePool.Hash()` on that object returns). -/

/-- **C15_creation_leaves_nodepool** — along every history, of any length, of creations (by any way; a static-capacity
    controller meeting a NodePool it does not manage does nothing), the NodePool — its template, its annotations — is in
    every state what it was at the start. -/
theorem C15_creation_leaves_nodepool (steps : List Step) : ∀ (s : St) (out : List (St × Bool)),
    (∀ st ∈ steps, creationStep st = true) → run s steps = .ok out →
    ∀ p ∈ out, p.1.pool = s.pool ∧ p.1.nodeClass = s.nodeClass := by
  intro s out hc h
  refine run_inv (fun x => x.pool = s.pool ∧ x.nodeClass = s.nodeClass) creationStep ?_ steps s out ⟨rfl, rfl⟩ hc h
  intro a st a' e hcs hi hs
  have h1 := creationStep_leaves_nodepool a a' st e hcs hs
  exact ⟨h1.1.trans hi.1, h1.2.trans hi.2⟩

/-- **C15_claims_of_one_nodepool_object_share_stamp** — in every state along a batch of creations of any length, by any
    mix of ways, from the NodePool of state `s`, every NodeClaim with a new name carries the hash of `s`'s template and the
    current hash version: the second and every further NodeClaim built from one NodePool object is stamped exactly like
    the first, so (with `C15_created_claim_never_self_drifted`) none of the replicas of a static NodePool is born
    NodePoolDrifted. -/
theorem C15_claims_of_one_nodepool_object_share_stamp (s : St) (b : List Creation) (n : String) (out : List (St × Bool))
    (hnew : ∀ c ∈ s.claims, c.name ≠ n) (hrun : run s (batchSteps s b) = .ok out) :
    ∀ p ∈ out, p.1.pool = s.pool ∧ ∀ c ∈ p.1.claims, c.name = n → c.ann = stampOf s.pool.pool := by
  have hcs : ∀ st ∈ batchSteps s b, creationStep st = true := by
    intro st hst
    simp only [batchSteps, List.mem_map] at hst
    obtain ⟨c, _, rfl⟩ := hst
    exact creationStep_createStep s c
  intro p hp
  have hpool := (C15_creation_leaves_nodepool (batchSteps s b) s out hcs hrun p hp).1
  refine ⟨hpool, ?_⟩
  intro c hc hn
  have := C15_created_claim_keeps_template_stamp s n (batchSteps s b) out hnew
    (fun st hst => creationStep_keepsStamp st (hcs st hst)) hrun p hp c hc hn
  rw [this, hpool]

/-- on a NodePool the provider manages every way of creation is the creation `createClaim` models -/
theorem C15_static_batch_of_managed_nodepool_creates (s : St) (v : Via) (n : String) (r p : Karp.Drift.Labels) (l : Bool)
    (hm : s.poolManaged = true) : createStep s v n r p l = .create n r p l := by
  simp [createStep, hm]

/-- the static-capacity controllers do nothing for a NodePool they do not manage -/
theorem C15_static_controllers_skip_unmanaged (s : St) (v : Via) (n : String) (r p : Karp.Drift.Labels) (l : Bool)
    (hv : v.managedOnly = true) (hm : s.poolManaged = false) : step s (createStep s v n r p l) = .ok (s, false) := by
  simp [createStep, hv, hm, step, pure, Except.pure]

/-- non-vacuity: replicas of a static NodePool whose template carries a label (the hypotheses of the batch theorem hold
    and the run succeeds), and an unmanaged NodePool the static controllers skip -/
example : (run wStale (batchSteps wStale [(.static, "new-0", wResolved "7", wProviderLabels, true),
      (.staticDrift, "new-1", wResolved "3", wProviderLabels, false)])).toOption.map
      (fun out => out.map (fun p => p.1.claims.map (fun c => (c.name, c.ann.version, c.launched)))) =
    some [[("new-0", some currentVersion, true)], [("new-0", some currentVersion, true), ("new-1", some currentVersion, false)]] := by decide
example : wStale.poolManaged = true ∧ ({ wStale with nodeClass := ("other", "Other") } : St).poolManaged = false := by decide


/-! ## Non-vacuity -/

def wTaint2 : Taint := { key := "gpu", value := "true", effect := "NoExecute" }
def wA : Template :=
  { labels := some [("team", "a"), ("tier", "b")], taints := some [wTaint, wTaint2], nodeClassRef := some wRef,
    requirements := some [wSel], tgp := some 30000000000, expireAfter := some 2592000000000000, expireAfterRaw := some "\"720h\"" }
def wB : Template :=
  { labels := some [("tier", "b"), ("team", "a")], taints := some [wTaint2, wTaint], nodeClassRef := some wRef,
    requirements := none, tgp := some 30000000000, expireAfter := some 2592000000000000, expireAfterRaw := some "\"43200m\"" }

/-- the hypotheses on the primitives are met by the FNV instance (lawful) and by a symbolic instance (lawful and
    collision-free) -/
example : Lawful fnvPrims := fnvPrims_lawful
example : Lawful symPrims ∧ CollisionFree symPrims := ⟨symPrims_lawful, symPrims_collisionFree⟩

/-- a reordered template with different requirements and a different spelling of expireAfter: same up to order … -/
theorem wA_wB : SameUpToOrder wA wB :=
  ⟨List.Perm.swap _ _ _, OptPerm.refl _, List.Perm.swap _ _ _, OptPerm.refl _, rfl, rfl, rfl⟩
example : SameUpToOrder wA wB := wA_wB
/-- … the specification says "must be equal", and the real hash values (FNV instance) are equal -/
example : fingerprintVerdict { template := wA } { template := wB, outside := { weight := some 10 } } = .mustEqual := by decide +kernel
example : hashTemplate fnvPrims wA = hashTemplate fnvPrims wB :=
  hash_invariant _ fnvPrims_lawful _ _ wA_wB rfl (Or.inl rfl)
/-- a changed label value: "must differ", and the real values differ -/
example : fingerprintVerdict { template := wA } { template := { wA with labels := some [("team", "a"), ("tier", "c")] } } = .mustDiffer := by decide
example : hashTemplate fnvPrims wA ≠ hashTemplate fnvPrims { wA with labels := some [("team", "a"), ("tier", "c")] } := by
  simp only [hashTemplate_eq, hMeta_eq, hSpec_eq, hExpire_eq, hRef_eq, hTGP_eq, hTaints, hTaint_eq, hTimeAdded_eq,
    utf8_eq_bytes]
  decide +kernel

/-- the hypotheses of `C15_sensitive_partial` on a concrete pair (terminationGracePeriod 30s → 31s, symbolic primitives) -/
example : hashTemplate symPrims wA ≠ hashTemplate symPrims { wA with tgp := some 31000000000 } := by
  apply C15_sensitive_partial symPrims symPrims_lawful symPrims_collisionFree wA _ .tgp
  · intro g; cases g <;> simp only [leaf, hTGP, Option.isSome_map] <;> rfl
  · rfl
  · rfl
  · intro g hg; cases g <;> first | exact absurd rfl hg | rfl
  · simp only [leaf, wA, hTGP, Option.map_some, structHash_duration]; decide

def wSels : List Sel :=
  [{ key := "team", op := .in_, values := ["a", "b"], minValues := none },
   { key := "example.com/n", op := .gt, values := ["2"], minValues := none },
   { key := "example.com/n", op := .notIn, values := ["5"], minValues := none },
   { key := "tier", op := .doesNotExist, values := [], minValues := none }]
def wGood : Karp.Drift.Labels := [("karpenter.sh/nodepool", "pool-a"), ("team", "a"), ("example.com/n", "07")]

/-- a readable requirement list (two expressions on one key, four operators) with labels that satisfy it … -/
example : Readable wSels wGood := C15_readable_of_spec wSels wGood (by decide +kernel) (by decide)
example : labelsSatisfy wSels wGood = true := by decide
/-- … and labels that violate it through a PRESENT label (the unconditional branch of `C15_drift_detects_partial`) -/
example : k8sMatch .in_ ["a", "b"] (([("team", "c")] : Karp.Drift.Labels).lookup "team") = false := by decide
/-- one expression per key: the hypotheses of `C15_drift_detects_one_expression_per_key` on a concrete NodePool -/
def wSels1 : List Sel :=
  [{ key := "team", op := .in_, values := ["a", "b"], minValues := none },
   { key := "example.com/n", op := .gt, values := ["2"], minValues := none },
   { key := "tier", op := .doesNotExist, values := [], minValues := none }]
example : (∀ s ∈ wSels1, noExtreme s = true) ∧ (wSels1.map (fun s => normalizeKey s.key)).Nodup ∧ Readable wSels1 wGood :=
  ⟨by decide, by decide, C15_readable_of_spec wSels1 wGood (by decide +kernel) (by decide)⟩
/-- `Faithful` holds, e.g., for a single `In` expression -/
example : Faithful [wSel] := faithful_of_distinct [wSel] (by decide) (by decide)

/-- a settled state: one launched NodeClaim stamped with the NodePool's current annotations -/
def wPool : Pool := { template := { wA with requirements := some wSels } }
def wState : St :=
  { pool := { name := "pool-a", pool := wPool, ann := { hash := some wPool.hashString, version := some currentVersion } },
    claims := [{ name := "nc-0", labels := wGood ++ [("node.kubernetes.io/instance-type", "it-a")],
                 ann := { hash := some wPool.hashString, version := some currentVersion } }],
    prov := { its := [{ name := "it-a", offerings := [{ reqs := [] }] }] } }

example : Settled wState :=
  C15_fresh_claim_settled wState rfl rfl (by
    intro c hc
    simp only [wState, List.mem_singleton] at hc
    subst hc
    exact ⟨rfl, rfl, C15_readable_of_spec _ _ (by decide +kernel) (by decide), by decide,
      by decide⟩)

/-- the launch theorems on a concrete history: the metadata patch fails, then the status patch fails, then an
    undisturbed reconcile — `Create` was called once, the NodeClaim is Launched and carries zone and instance type -/
example : (launchRun { labels := wGood } wProviderLabels [2, 2, 0]).map (fun r => (r.1.launched, r.1.creates, r.2)) =
    [(false, 1, true), (false, 1, true), (true, 1, false)] ∧
    (launchFinal { labels := wGood } wProviderLabels [2, 2, 0]).labels.lookup "topology.kubernetes.io/zone" = some "z1" := by decide

/-- the hypothesis of `C15_sold_out_offering_is_still_offered`: the same catalogue with the only offering sold out; the
    NodeClaim's instance type is found in both — and not once the offering is removed -/
example : listed wState.prov.its = listed [{ name := "it-a", offerings := [{ reqs := [], available := false }] }] ∧
    instanceTypeNotFound [{ name := "it-a", offerings := [{ reqs := [], available := false }] }]
      (wGood ++ [("node.kubernetes.io/instance-type", "it-a")]) [] [] = false ∧
    instanceTypeNotFound [{ name := "it-a", offerings := [] }]
      (wGood ++ [("node.kubernetes.io/instance-type", "it-a")]) [] [] = true := by decide

/-- the migration theorem's hypotheses: an un-drifted NodeClaim with an old hash version -/
example : staticDrifted { hash := some "new", version := some currentVersion }
    (migrateClaim "new" { name := "nc", labels := [], ann := { hash := some "old", version := some "v2" } }).ann = false := by decide

/-- the hypotheses of `C15_created_claim_never_self_drifted` on the interleaving "NodePool stamped → template edited →
    NodeClaim created → hash controller → reconcile": the history is timely, and the name is new -/
example : timelyRun wStale [.create "new-0" (wResolved "7") wProviderLabels true, .hashctl, .reconcile "new-0", .advance 1,
    .create "new-1" (wResolved "3") wProviderLabels true, .reconcile "new-1"] = true := by
  -- the creation is no reconcile, the hash controller then stamps the NodePool, and nothing after it edits the NodePool
  refine timelyRun_cons _ _ _ rfl rfl fun s1 _ h1 => timelyRun_cons _ _ _ rfl rfl fun s2 _ h2 => ?_
  have hc := createClaim_ok _ _ _ _ _ _ (step_create_ok _ _ _ _ _ _ _ h1)
  rw [if_neg (by decide)] at hc
  obtain ⟨c, rfl, _⟩ := hc
  cases h2
  exact timelyRun_of_upToDate _ _
    ⟨C15_hash_controller_makes_timely _ rfl rfl, by change wStale.prov.drift ≠ NPD; decide⟩ (by decide)
example : ∀ c ∈ wStale.claims, c.name ≠ "new-0" := by intro c hc; cases hc
/-- … and the `Any()` outcome used there is one the relation allows, the created labels satisfy the NodePool's requirement -/
example : (templateReqs (wStaleTemplate.requirements.getD []) (templateLabels "pool-a" wStaleTemplate wRef)).toOption.map
    (fun R => resolvedAllowed Karp.Gen.Labels.wellKnownLabels R (wResolved "7") &&
              !resolvedAllowed Karp.Gen.Labels.wellKnownLabels R (wResolved "2")) = some true := by decide +kernel

end Karp.C15
