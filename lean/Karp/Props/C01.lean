/-
C01 — Simulated placements are feasible on every launch option.

Property theorems; lemmas in `Karp/Proofs/Sched.lean` (and the C12 algebra).
Model: `Karp/Model/Sched.lean` (pod requirements, relaxation, ExistingNode.CanAdd/Add; for new NodeClaims: resource lists,
       allocatable groups per offering override, `fits`, `compatible`, `filterInstanceTypesByRequirements` with its minValues tail).
Spec:  `Karp/Spec/K8sSelector.lean` (Kubernetes selector semantics) and `Karp/Spec/Admissible.lean` (whole-pass
       admissibility, evaluated on every real scheduling pass by the `c01.pass` op).
-/
import Karp.Proofs.Sched

namespace Karp.C01
open Karp.Req Karp.Scn Karp.Sched Karp.Spec.K8s

/-- **C01_relax_sound** — one relaxation step removes either the FIRST of at least two OR-ed required terms or the
    heaviest preferred term: the remaining required terms are a non-empty suffix of the old ones (so any node that
    satisfies a remaining term satisfies one of the pod's original terms), and a single required term is never removed. -/
theorem C01_relax_sound (a a' : PodAffinitySpec) (h : relaxStep a = some a') :
    (∃ dropped, a.required = dropped ++ a'.required) ∧
    (a.required ≠ [] → a'.required ≠ []) ∧
    (a.required.length ≤ 1 → a'.required = a.required) := by
  unfold relaxStep at h
  cases hr : removeRequiredTerm a with
  | some a1 =>
    rw [hr] at h
    cases h
    obtain ⟨t, ht, hne⟩ := removeRequiredTerm_some a a' hr
    refine ⟨⟨[t], ht⟩, fun _ => hne, fun hl => ?_⟩
    rw [ht, List.length_cons] at hl
    exact absurd (List.eq_nil_of_length_eq_zero (by omega)) hne
  | none =>
    rw [hr] at h
    rw [removePreferredTerm_some a a' h]
    exact ⟨⟨[], rfl⟩, id, fun _ => rfl⟩

/-- `n` relaxation steps (`none` once nothing is left to relax) -/
def relaxN : Nat → PodAffinitySpec → Option PodAffinitySpec
  | 0, a => some a
  | n + 1, a => (relaxStep a).bind (relaxN n)

/-- lifted to any number of relaxation steps -/
theorem C01_relax_star (n : Nat) : ∀ (a a' : PodAffinitySpec), relaxN n a = some a' →
    (∃ dropped, a.required = dropped ++ a'.required) ∧ (a.required ≠ [] → a'.required ≠ []) := by
  induction n with
  | zero => intro a a' h; simp [relaxN] at h; subst h; exact ⟨⟨[], by simp⟩, id⟩
  | succ n ih =>
    intro a a' h
    obtain ⟨a1, hs, h⟩ := Option.bind_eq_some_iff.mp h
    obtain ⟨⟨d1, hd1⟩, hne1, _⟩ := C01_relax_sound a a1 hs
    obtain ⟨⟨d2, hd2⟩, hne2⟩ := ih a1 a' h
    exact ⟨⟨d1 ++ d2, by rw [hd1, hd2, List.append_assoc]⟩, fun hne => hne2 (hne1 hne)⟩

/-- the requirement Karpenter derives for a key tolerates the label's absence only if every expression of the pod on
    that key does.  This is what the requirement REPRESENTATION cannot guarantee: it fails exactly for the two recorded
    findings (an empty intersection read as `DoesNotExist`; `Exists`/`Gt`/`Lt` lost next to `NotIn`) — see the negation
    witnesses below. -/
def Faithful (es : List KExpr) : Prop :=
  ∀ k r, (podReqs es).lookup k = some r → r.absentOk = true →
    ∀ e ∈ es, normalizeKey e.key = k → k8sMatch e.op e.vals none = true

/-- Full statement (what the property demands), WITHOUT the `Faithful` hypothesis:

      existingCanAdd n p = true → ∀ e ∈ p.exprs, k8sMatch e.op e.vals (n.labels.lookup (normalizeKey e.key)) = true

    It is false for the code as it is (`C01_existing_violated_*` below; both replayed on the real scheduler and
    recorded in known_findings.json).  Proved: the statement under `Faithful`.

    **C01_existing_sound_partial** — if `ExistingNode.CanAdd` accepts the pod, then every taint of the node is
    tolerated, no host port conflicts with a port in use, the requests fit the remaining resources, and the node's
    actual labels satisfy, under Kubernetes semantics, EVERY expression the pod's requirements were built from (node
    selector and the chosen required term), for all nodes, pods and validated expression lists. -/
theorem C01_existing_sound_partial (n : ExNode) (p : PodD)
    (hvalid : ∀ e ∈ p.exprs, validExpr e = true) (hf : Faithful p.exprs)
    (h : existingCanAdd n p = true) :
    (∀ t ∈ n.taints, ∃ tol ∈ p.tolerations, tolerates tol t = true) ∧
    portsFree n.ports p.ports = true ∧
    (p.cpu ≤ n.remCPU ∧ p.mem ≤ n.remMem ∧ 1 ≤ n.remPods) ∧
    ∀ e ∈ p.exprs, k8sMatch e.op e.vals (n.labels.lookup (normalizeKey e.key)) = true := by
  obtain ⟨ht, hp, hfit, hc⟩ := (existingCanAdd_iff n p).mp h
  refine ⟨fun t htm => List.any_eq_true.mp (List.all_eq_true.mp ht t htm), hp, hfit, fun e he => ?_⟩
  obtain ⟨-, hkey, hhas⟩ := newReq_spec e (hvalid e he)
  -- the reading `k8sMatch e.op e.vals` agrees with `newReq e` on values; the absent label is what `Faithful` covers
  have := compatible_add_labels n.labels (p.exprs.map newReq)
    (List.forall_mem_map.mpr fun e he => (newReq_spec e (hvalid e he)).1) hc (newReq e) (List.mem_map_of_mem he)
    (k8sMatch e.op e.vals) hhas fun _ q hq ha => hf _ q (hkey ▸ hq) ha e he rfl
  rwa [hkey] at this

/-- `Faithful` holds whenever the pod has at most one expression per key (the overwhelmingly common case):
    a single validated expression is represented exactly (`Gt`/`Lt` excepted: `Gt MaxInt` / `Lt MinInt` "match
    nothing" and are stored as `DoesNotExist`, another instance of the empty-set finding). -/
theorem C01_faithful_single (e : KExpr) (hv : validExpr e = true) (hgt : e.op ≠ .gt) (hlt : e.op ≠ .lt) : Faithful [e] := by
  intro k r hl habs e' he' hk
  obtain rfl := List.mem_singleton.mp he'
  have hl' : (podReqs [e']).lookup k = some (newReq e') := by
    simp [podReqs, Reqs.add, lookup_add1, (newReq_spec e' hv).2.1, hk]
  obtain rfl := Option.some.inj (hl'.symm.trans hl)
  obtain ⟨hvo, hin⟩ := (Bool.and_eq_true _ _).mp hv
  obtain ⟨r, hr⟩ := new_ok_of_valid e'.key e'.op none e'.vals hvo
  rw [newReq, hr] at habs
  by_cases hni : e'.op = .notIn
  · rw [hni]; rfl
  · refine (absentOk_new _ _ _ _ r hvo hr ?_ (fun h => absurd h hgt) (fun h => absurd h hlt)).symm.trans habs
    -- validation rejects an empty `In`
    rintro (hop | hop) hnil
    · rw [hop, hnil] at hin; cases hin
    · exact hni hop

/-- **C01_existing_capacity** — over any sequence of pods accepted and added one after the other, the remaining
    resources never go negative: the sum of the accepted requests stays within what was available. -/
theorem C01_existing_capacity (ps : List PodD) : ∀ (n : ExNode),
    0 ≤ n.remCPU → 0 ≤ n.remMem → 0 ≤ n.remPods →
    (ps.foldl (fun (acc : Option ExNode) p => acc.bind (fun m => if existingCanAdd m p then some (existingAdd m p) else none)) (some n)
      = some m') → 0 ≤ m'.remCPU ∧ 0 ≤ m'.remMem ∧ 0 ≤ m'.remPods := by
  intro n h1 h2 h3
  -- the bounds hold of whatever node the accumulator holds, at every step of the fold
  have hacc : ∀ m, some n = some m → 0 ≤ m.remCPU ∧ 0 ≤ m.remMem ∧ 0 ≤ m.remPods := fun m hm => by
    cases hm; exact ⟨h1, h2, h3⟩
  generalize some n = acc at hacc
  induction ps generalizing acc with
  | nil => exact hacc m'
  | cons p rest ih =>
    refine ih _ fun m1 hm1 => ?_
    obtain ⟨m, rfl, hstep⟩ := Option.bind_eq_some_iff.mp hm1
    split at hstep
    · rename_i hc
      cases hstep
      have hfit := ((existingCanAdd_iff m p).mp hc).2.2.1
      have := hacc m rfl
      simp only [existingAdd]; omega
    · cases hstep

/-- **C01_fits_pair** — the two results of `fits`: ONE group must both hold the requests and have a compatible offering -/
theorem C01_fits_pair (it : ITM) (req : ResList) (R : Reqs) (wk : List String) :
    ((itFits it req R wk).1 = true ↔
      ∃ ag ∈ it.groups, resFits req ag.alloc = true ∧ ∃ o ∈ ag.offerings, R.compatible o.reqs wk = true) ∧
    ((itFits it req R wk).2 = true ↔ ∃ ag ∈ it.groups, ∃ o ∈ ag.offerings, R.compatible o.reqs wk = true) ∧
    ((itFits it req R wk).1 = true → (itFits it req R wk).2 = true) := by
  simp only [itFits, fitsLoop_eq, groupHasOffering, Bool.false_or, List.any_eq_true, Bool.and_eq_true]
  -- the closed form of the loop is the second description literally, and the first with its two conjuncts swapped
  exact ⟨⟨fun ⟨ag, hag, ho, hf⟩ => ⟨ag, hag, hf, ho⟩, fun ⟨ag, hag, hf, ho⟩ => ⟨ag, hag, ho, hf⟩⟩, trivial,
    fun ⟨ag, hag, ho, _⟩ => ⟨ag, hag, ho⟩⟩

theorem mem_filterITs (options : List ITM) (groups : List Group) (R : Reqs) (podKey : String) (pp : List HostPort)
    (total : ResList) (wk : List String) (it : ITM) :
    it ∈ filterITs options groups R podKey pp total wk ↔
      ∃ g ∈ groups, portsFree (g.portsOfOthers podKey) pp = true ∧
        (∃ n ∈ g.its, options.find? (fun a => a.name == n) = some it) ∧ itCompatible it R = true ∧
        ∃ ag ∈ it.groups, resFits (resMerge total g.overhead) ag.alloc = true ∧
          ∃ o ∈ ag.offerings, R.compatible o.reqs wk = true := by
  have hfit (g : Group) := C01_fits_pair it (resMerge total g.overhead) R wk
  -- `itHasOffering`, the third criterion, follows from `itFits`
  have hm (g : Group) : meetsAll (criteria R total wk (g, it)) = true ↔
      itCompatible it R = true ∧ (itFits it (resMerge total g.overhead) R wk).1 = true := by
    simp only [meetsAll, criteria, Bool.and_eq_true]
    exact ⟨fun h => h.1, fun h => ⟨h, (hfit g).2.2 h.2⟩⟩
  simp only [filterITs, List.mem_map, List.mem_filter, mem_filterCandidates, ← fun g => (hfit g).1]
  constructor
  · rintro ⟨c, ⟨⟨hg, hp, hn⟩, hmeets⟩, rfl⟩
    exact ⟨c.1, hg, hp, hn, (hm c.1).mp hmeets⟩
  · rintro ⟨g, hg, hp, hn, h⟩
    exact ⟨(g, it), ⟨⟨hg, hp, hn⟩, (hm g).mpr h⟩, rfl⟩

/-- **C01_filter_sound** — every instance type that survives `filterInstanceTypesByRequirements` (for ANY options,
    daemon-overhead groups, requirements, pod, requests and ANY allocatable groups per instance type)
    (a) is one of the options and its requirements intersect the claim's,
    (b) belongs to a daemon-overhead group whose host ports (reserved by other pods) do not conflict with the pod's, and
    (c) has ONE allocatable group that contains an offering compatible with the requirements AND holds the summed
        requests plus that daemon group's overhead: `resources.Fits` holds, in particular every resource satisfies
        `total + daemon overhead ≤ allocatable` in that group. -/
theorem C01_filter_sound (options : List ITM) (groups : List Group) (R : Reqs) (podKey : String) (pp : List HostPort)
    (total : ResList) (wk : List String) (it : ITM)
    (h : it ∈ filterITs options groups R podKey pp total wk) :
    it ∈ options ∧ itCompatible it R = true ∧
    ∃ g ∈ groups, g.its.contains it.name = true ∧ portsFree (g.portsOfOthers podKey) pp = true ∧
      ∃ ag ∈ it.groups,
        (∃ o ∈ ag.offerings, R.compatible o.reqs wk = true) ∧
        resFits (resMerge total g.overhead) ag.alloc = true ∧
        ∀ k, total.get k + g.overhead.get k ≤ ag.alloc.get k := by
  obtain ⟨g, hg, hp, ⟨n, hn, hf⟩, hcompat, ag, hag, hres, ho⟩ := (mem_filterITs ..).mp h
  have hname : it.name = n := by simpa using List.find?_some hf
  exact ⟨List.mem_of_find?_eq_some hf, hcompat, g, hg, by rw [hname]; simpa using hn, hp, ag, hag, ho, hres,
    resFits_merge_le _ _ _ hres⟩

/-- **C01_filter_complete** — the converse: an option (the only one of its name) that belongs to a daemon-overhead
    group without a host-port conflict, whose requirements intersect the claim's, and that has one allocatable group
    with a compatible offering in which the requests plus the group's overhead fit, survives. -/
theorem C01_filter_complete (options : List ITM) (groups : List Group) (R : Reqs) (podKey : String) (pp : List HostPort)
    (total : ResList) (wk : List String) (it : ITM)
    (hmem : it ∈ options) (huniq : ∀ a ∈ options, a.name = it.name → a = it)
    (hcompat : itCompatible it R = true)
    (g : Group) (hg : g ∈ groups) (hin : g.its.contains it.name = true)
    (hp : portsFree (g.portsOfOthers podKey) pp = true)
    (ag : AllocGroup) (hag : ag ∈ it.groups)
    (o : OfferingM) (ho : o ∈ ag.offerings) (hoc : R.compatible o.reqs wk = true)
    (hres : resFits (resMerge total g.overhead) ag.alloc = true) :
    it ∈ filterITs options groups R podKey pp total wk := by
  have hfind : options.find? (fun a => a.name == it.name) = some it := by
    cases hf : options.find? (fun a => a.name == it.name) with
    | none => simpa using List.find?_eq_none.mp hf it hmem
    | some a => rw [huniq a (List.mem_of_find?_eq_some hf) (by simpa using List.find?_some hf)]
  exact (mem_filterITs ..).mpr ⟨g, hg, hp, ⟨it.name, by simpa using hin, hfind⟩, hcompat, ag, hag, hres, o, ho, hoc⟩

/-- **C01_groups_exact** — `precompute` / `groupOfferingsByOverride`: every offering of every allocatable group is an
    AVAILABLE offering of the instance type and the group's allocatable is exactly what a launch through that offering
    gets (capacity and overhead with that offering's overrides); conversely every available offering sits in such a
    group; and the first group is the base allocatable. -/
theorem C01_groups_exact (raw : ITRaw) :
    (∀ ag ∈ allocGroups raw, ∀ om ∈ ag.offerings,
      ∃ o ∈ raw.offerings, o.available = true ∧ o.toM = om ∧ ag.alloc = allocFor raw o) ∧
    (∀ o ∈ raw.offerings, o.available = true → ∃ ag ∈ allocGroups raw, o.toM ∈ ag.offerings ∧ ag.alloc = allocFor raw o) ∧
    (∃ g0 rest, allocGroups raw = g0 :: rest ∧ g0.alloc = computeAlloc raw [] none) := by
  refine ⟨fun ag hag om hom => allocGroups_sound raw ag hag om hom, fun o ho hav => allocGroups_complete raw o ho hav, ?_⟩
  obtain ⟨rest, h⟩ := allocGroups_base_first raw
  exact ⟨_, rest, h, rfl⟩

/-- **C01_launch_sound** — the property for a new NodeClaim, over instance types as the cloud provider describes them
    (capacity, overhead, offerings with per-offering capacity / overhead overrides): every instance type that survives
    the filter can be launched through an AVAILABLE offering that is compatible with the claim's requirements and whose
    OWN allocatable holds, resource by resource, the summed requests plus the daemon overhead of a daemon group the
    instance type belongs to and whose host ports do not conflict with the pod's. -/
theorem C01_launch_sound (raws : List ITRaw) (groups : List Group) (R : Reqs) (podKey : String) (pp : List HostPort)
    (total : ResList) (wk : List String) (it : ITM)
    (h : it ∈ filterITs (raws.map ITRaw.toITM) groups R podKey pp total wk) :
    ∃ raw ∈ raws, it = raw.toITM ∧ raw.reqs.intersects R = true ∧
    ∃ g ∈ groups, g.its.contains raw.name = true ∧ portsFree (g.portsOfOthers podKey) pp = true ∧
      ∃ o ∈ raw.offerings, o.available = true ∧ R.compatible o.reqs wk = true ∧
        ∀ k, total.get k + g.overhead.get k ≤ (allocFor raw o).get k := by
  obtain ⟨hopt, hcompat, g, hg, hin, hp, ag, hag, ⟨om, hom, hoc⟩, _, hle⟩ :=
    C01_filter_sound _ groups R podKey pp total wk it h
  obtain ⟨raw, hraw, rfl⟩ := List.mem_map.mp hopt
  obtain ⟨o, ho, hav, rfl, halloc⟩ := allocGroups_sound raw ag hag om hom
  exact ⟨raw, hraw, rfl, hcompat, g, hg, hin, hp, o, ho, hav, hoc, by rw [← halloc]; exact hle⟩

/-- **C01_launch_complete** — conversely, an instance type (the only one of its name) with an available compatible
    offering whose own allocatable passes `resources.Fits` for the requests plus the overhead of a conflict-free daemon
    group it belongs to, and whose requirements intersect the claim's, survives the filter. -/
theorem C01_launch_complete (raws : List ITRaw) (groups : List Group) (R : Reqs) (podKey : String) (pp : List HostPort)
    (total : ResList) (wk : List String) (raw : ITRaw)
    (hmem : raw ∈ raws) (huniq : ∀ a ∈ raws, a.name = raw.name → a = raw)
    (hcompat : raw.reqs.intersects R = true)
    (g : Group) (hg : g ∈ groups) (hin : g.its.contains raw.name = true)
    (hp : portsFree (g.portsOfOthers podKey) pp = true)
    (o : OfferingRaw) (ho : o ∈ raw.offerings) (hav : o.available = true) (hoc : R.compatible o.reqs wk = true)
    (hres : resFits (resMerge total g.overhead) (allocFor raw o) = true) :
    raw.toITM ∈ filterITs (raws.map ITRaw.toITM) groups R podKey pp total wk := by
  obtain ⟨ag, hag, hom, halloc⟩ := allocGroups_complete raw o ho hav
  refine C01_filter_complete _ groups R podKey pp total wk raw.toITM (List.mem_map.mpr ⟨raw, hmem, rfl⟩) ?_ hcompat
    g hg hin hp ag hag o.toM hom hoc (by rw [halloc]; exact hres)
  intro a ha hn
  obtain ⟨r, hr, rfl⟩ := List.mem_map.mp ha
  rw [huniq r hr hn]

/-- **C01_filter_result** — the minValues tail only ever shrinks the result: what `filterInstanceTypesByRequirements`
    returns is the filtered list or nothing; an error is returned exactly when nothing remains; under the strict policy
    a violated minValues leaves nothing; under the relaxing policy the filtered list is returned unchanged. -/
theorem C01_filter_result (options : List ITM) (groups : List Group) (R : Reqs) (podKey : String) (pp : List HostPort)
    (total : ResList) (wk : List String) (relax : Bool) :
    ((filterResult options groups R podKey pp total wk relax).remaining = filterITs options groups R podKey pp total wk ∨
      (filterResult options groups R podKey pp total wk relax).remaining = []) ∧
    ((filterResult options groups R podKey pp total wk relax).err.isSome = true ↔
      (filterResult options groups R podKey pp total wk relax).remaining = []) ∧
    (relax = false → (filterResult options groups R podKey pp total wk relax).unsat ≠ [] →
      (filterResult options groups R podKey pp total wk relax).remaining = []) ∧
    (relax = true →
      (filterResult options groups R podKey pp total wk relax).remaining = filterITs options groups R podKey pp total wk) := by
  simp only [filterResult]
  generalize filterITs options groups R podKey pp total wk = rem
  generalize (if hasMinValues R = true then minValuesUnsat rem R else []) = unsat
  cases unsat <;> cases relax <;> cases rem <;> simp

/-! ## The recorded findings: the full statement is false for the code as it is -/

def nodeNoTeam : ExNode := { labels := [("kubernetes.io/hostname", "n1")], taints := [], remCPU := 4000, remMem := 4096, remPods := 10, ports := [] }

/-- F1 `empty-set-read-as-absent`: nodeSelector `team=blue` together with a required `team In [red]` — no node can
    satisfy both, yet the node WITHOUT a `team` label is accepted -/
def podContradictory : PodD :=
  { cpu := 100, mem := 64, tolerations := [], ports := [],
    exprs := [{ key := "team", op := .in_, vals := ["blue"] }, { key := "team", op := .in_, vals := ["red"] }] }

theorem C01_existing_violated_empty_set :
    existingCanAdd nodeNoTeam podContradictory = true ∧
    k8sMatch .in_ ["blue"] (nodeNoTeam.labels.lookup "team") = false := by decide

/-- F2 `presence-lost-with-notin`: `tier Exists` together with `tier NotIn [gold]` — the node has no `tier` label -/
def podExistsNotIn : PodD :=
  { cpu := 100, mem := 64, tolerations := [], ports := [],
    exprs := [{ key := "tier", op := .exists_, vals := [] }, { key := "tier", op := .notIn, vals := ["gold"] }] }

theorem C01_existing_violated_presence_lost :
    existingCanAdd nodeNoTeam podExistsNotIn = true ∧
    k8sMatch .exists_ [] (nodeNoTeam.labels.lookup "tier") = false := by decide

/-! ## Non-vacuity -/

def nodeZ : ExNode :=
  { labels := [("topology.kubernetes.io/zone", "z1"), ("team", "red"), ("kubernetes.io/hostname", "n1")],
    taints := [{ key := "dedicated", value := "x", effect := "NoSchedule" }], remCPU := 1000, remMem := 1024, remPods := 2,
    ports := [{ port := 8080, proto := "TCP", ip := "" }] }
def podOK : PodD :=
  { cpu := 500, mem := 512, tolerations := [{ key := "dedicated", operator := "Exists", value := "", effect := "" }],
    ports := [{ port := 8081, proto := "TCP", ip := "" }],
    exprs := [{ key := "failure-domain.beta.kubernetes.io/zone", op := .in_, vals := ["z1", "z2"] }, { key := "team", op := .notIn, vals := ["blue"] }] }

example : existingCanAdd nodeZ podOK = true := by decide +kernel
example : existingCanAdd nodeZ { podOK with cpu := 1001 } = false := by decide
example : existingCanAdd nodeZ { podOK with ports := [{ port := 8080, proto := "TCP", ip := "10.0.0.1" }] } = false := by decide
example : existingCanAdd nodeZ { podOK with tolerations := [] } = false := by decide
example : (∀ e ∈ podOK.exprs, validExpr e = true) := by decide

/-! ### Non-vacuity for the NodeClaim filter: a two-group instance type -/

def zoneKey := "topology.kubernetes.io/zone"
def itKey := "node.kubernetes.io/instance-type"
def inReq (k : String) (vs : List String) : String × Req := (k, { key := k, complement := false, values := vs })
def offeringIn (z : String) (capOverride : ResList := []) (available := true) : OfferingRaw :=
  { reqs := [inReq zoneKey [z], inReq Karp.Gen.Labels.capacityTypeLabelKey ["on-demand"]], available := available,
    capOverride := capOverride }

/-- 4 vCPU sold as such in z1, but in z2 only with a CapacityOverride of 2 vCPU: two allocatable groups -/
def flexIT : ITRaw :=
  { name := "flex", reqs := [inReq itKey ["flex"], inReq zoneKey ["z1", "z2"]],
    capacity := [("cpu", 4000), ("memory", 8192), ("pods", 10)], overhead := [("cpu", 100)],
    offerings := [offeringIn "z1", offeringIn "z2" [("cpu", 2000)]] }
def bigIT : ITRaw :=
  { name := "big", reqs := [inReq itKey ["big"], inReq zoneKey ["z1", "z2"]],
    capacity := [("cpu", 8000), ("memory", 16384), ("pods", 10)], overhead := [("cpu", 100)],
    offerings := [offeringIn "z1", offeringIn "z2"] }
def dsGroup : Group :=
  { its := ["flex", "big"], overhead := [("cpu", 200), ("pods", 1)],
    usage := [("ds-exporter", [{ port := 9100, proto := "TCP", ip := "" }])] }
def wantZ (z : String) : Reqs := [inReq zoneKey [z]]
def req3cpu : ResList := [("cpu", 3000), ("pods", 1)]
def wk := Karp.Gen.Labels.wellKnownLabels

/-- the two groups of `flex`: base (3900m) with the z1 offering, override (1900m) with the z2 offering -/
example : (allocGroups flexIT).map (fun g => (g.alloc.get "cpu", g.offerings.length)) = [(3900, 1), (1900, 1)] := by decide
/-- the roomy group is incompatible with "zone z2", the compatible group is too small: `flex` is filtered out,
    `big` survives (`fits` = (false, true) for `flex`) -/
example : (filterITs [flexIT.toITM, bigIT.toITM] [dsGroup] (wantZ "z2") "pod-a" [] req3cpu wk).map (·.name) = ["big"] := by decide +kernel
example : itFits flexIT.toITM (resMerge req3cpu dsGroup.overhead) (wantZ "z2") wk = (false, true) := by decide +kernel
/-- the same request aimed at z1 keeps both -/
example : (filterITs [flexIT.toITM, bigIT.toITM] [dsGroup] (wantZ "z1") "pod-a" [] req3cpu wk).map (·.name) = ["flex", "big"] := by decide +kernel
/-- a smaller request fits the override group as well -/
example : (filterITs [flexIT.toITM, bigIT.toITM] [dsGroup] (wantZ "z2") "pod-a" [] [("cpu", 1700), ("pods", 1)] wk).map (·.name) = ["flex", "big"] := by decide +kernel
/-- the daemon overhead counts: 1800m + 200m of daemons do not fit 1900m -/
example : (filterITs [flexIT.toITM, bigIT.toITM] [dsGroup] (wantZ "z2") "pod-a" [] [("cpu", 1800), ("pods", 1)] wk).map (·.name) = ["big"] := by decide +kernel
/-- a host port of the pod that a daemon of the group already uses skips the whole group; the same entry owned by
    the pod itself does not -/
example : filterITs [flexIT.toITM, bigIT.toITM] [dsGroup] (wantZ "z1") "pod-a" [{ port := 9100, proto := "TCP", ip := "10.0.0.1" }] req3cpu wk = [] := by decide
example : (filterITs [flexIT.toITM, bigIT.toITM] [dsGroup] (wantZ "z1") "ds-exporter" [{ port := 9100, proto := "TCP", ip := "10.0.0.1" }] req3cpu wk).map (·.name) = ["flex", "big"] := by decide +kernel
/-- an unavailable offering is in no group; requirements nothing offers leave nothing and set the error -/
example : (allocGroups { flexIT with offerings := [offeringIn "z1" [] false, offeringIn "z2" [("cpu", 2000)]] }).map (·.offerings.length) = [0, 1] := by decide
example : (filterResult [flexIT.toITM, bigIT.toITM] [dsGroup] (wantZ "z3") "pod-a" [] req3cpu wk false).err.isSome = true := by decide
/-- the hypotheses of `C01_launch_complete` are met by `big` through its z2 offering -/
example : bigIT.reqs.intersects (wantZ "z2") = true ∧ (wantZ "z2").compatible (offeringIn "z2").reqs wk = true ∧
    resFits (resMerge req3cpu dsGroup.overhead) (allocFor bigIT (offeringIn "z2")) = true := by decide +kernel

end Karp.C01
