/-
C07 — Disruption never targets protected or ineligible nodes, over all worlds: any NodeClaim / Node / NodePool state,
any list of pods and PDBs, any clock value.
Model: `Karp/Model/Candidate.lean` (the anchored Go code as it is).
Spec:  `Karp/Spec/Protected.lean` (one predicate per blocker of the property text; `allowed w m`).
-/
import Karp.Proofs.CandidateHistory

namespace Karp.C07
open Karp.Candidate Karp.Spec.Protected Karp.Spec.ProtectedHistory Karp.CandidateLemmas Karp.CandidateHistory Karp.Gen

/-- the controller runs exactly the five methods the model covers -/
theorem fact_method_order :
    CandidateFacts.methodOrder.length = 5 ∧ ∀ m ∈ Method.all, m.name ∈ CandidateFacts.methodOrder := by decide

/-- "only drift may override": Drift and StaticDrift are the only methods of the eventual class, the three
    consolidation methods are graceful, and no other type in the package declares a class -/
theorem fact_method_classes :
    classOf? .emptiness = some .graceful ∧ classOf? .multi = some .graceful ∧ classOf? .single = some .graceful ∧
    classOf? .drift = some .eventual ∧ classOf? .staticDrift = some .eventual ∧
    CandidateFacts.methodClass.length = 5 := by decide

theorem fact_classes_distinct : CandidateFacts.gracefulClass ≠ CandidateFacts.eventualClass := by decide

/-- the protection window after a nomination: max(2 × BatchMaxDuration, 10 s) -/
theorem fact_nomination_window :
    CandidateFacts.nominationBatchFactor = 2 ∧ CandidateFacts.nominationFloorNs = 10 * 1000000000 := ⟨rfl, rfl⟩

/-- eviction cost = 1 + deletionCost/2^27 + priority/2^25, clamped to an interval that contains 0 in its interior
    (so clamping never changes the sign the emptiness test looks at) -/
theorem fact_eviction_cost :
    CandidateFacts.evictionBase = 1 ∧ CandidateFacts.evictionDelExp = 27 ∧ CandidateFacts.evictionPrioExp = 25 ∧
    CandidateFacts.evictionClampLo < 0 ∧ 0 < CandidateFacts.evictionClampHi := ⟨rfl, rfl, rfl, by decide, by decide⟩

/-- the per-node base cost that `IsEmpty` compares with is the one `computeRescheduleDisruptionCost` starts from -/
theorem fact_base_cost : CandidateFacts.perNodeBaseCostNum = 1 ∧ CandidateFacts.perNodeBaseCostDen = 1 := ⟨rfl, rfl⟩

/-- the Drift method reads the condition named like its reason -/
theorem fact_drift_condition : CandidateFacts.reasonDrifted = CandidateFacts.condDrifted := rfl

theorem fact_keys :
    CandidateFacts.doNotDisruptKey = "karpenter.sh/do-not-disrupt" ∧
    CandidateFacts.nodePoolLabelKey = "karpenter.sh/nodepool" ∧
    CandidateFacts.nodeInitializedLabelKey = "karpenter.sh/initialized" ∧
    CandidateFacts.condConsolidatable = "Consolidatable" ∧
    CandidateFacts.policyWhenEmpty = "WhenEmpty" := ⟨rfl, rfl, rfl, rfl, rfl⟩

/-- every check the model of `ValidateNodeDisruptable` / `ValidatePodsDisruptable` / `NewCandidate` makes is still
    called by the Go function (membership, not order: a reordering is harmless) -/
theorem fact_validator_calls :
    (∀ c ∈ ["Initialized", "MarkedForDeletion", "Nominated", "Annotations", "Labels"], c ∈ CandidateFacts.validateNodeCalls) ∧
    (∀ c ∈ ["Pods", "IsDisruptable", "CanEvictPods"], c ∈ CandidateFacts.validatePodsCalls) ∧
    "Deleted" ∈ CandidateFacts.markedForDeletionCalls ∧
    (∀ c ∈ ["HasAny", "ValidateNodeDisruptable", "ValidatePodsDisruptable", "IgnorePodBlockEvictionError"],
        c ∈ CandidateFacts.newCandidateCalls) ∧
    (∀ c ∈ ["DeepCopyNodes", "NewCandidate", "shouldDisrupt"], c ∈ CandidateFacts.getCandidatesCalls) := by decide +kernel

theorem fact_filter_calls :
    (∀ c ∈ ["OwnedByStaticNodePool", "IsEmpty", "IsTrue"], c ∈ CandidateFacts.consolidationFilterCalls) ∧
    (∀ c ∈ ["OwnedByStaticNodePool", "HasBufferPods", "IsEmpty", "IsTrue"], c ∈ CandidateFacts.emptinessFilterCalls) ∧
    (∀ c ∈ ["OwnedByStaticNodePool", "IsTrue"], c ∈ CandidateFacts.driftFilterCalls) ∧
    (∀ c ∈ ["OwnedByStaticNodePool", "IsTrue"], c ∈ CandidateFacts.staticDriftFilterCalls) ∧
    (∀ c ∈ ["IsActive", "ToleratesDisruptedNoScheduleTaint", "IsOwnedByNode", "IsDoNotDisruptActive"],
        c ∈ CandidateFacts.isEvictableCalls) ∧
    (∀ c ∈ ["IsActive", "IsDoNotDisruptActive"], c ∈ CandidateFacts.isDisruptableCalls) ∧
    (∀ c ∈ ["Clear", "IsUnderConsolidateAfter", "SetTrue"], c ∈ CandidateFacts.consolidatableCalls) := by decide +kernel

/-- the Consolidation sub-reconciler runs — and what it did is persisted — whatever the Drift sub-reconciler
    returned: `runReconcilers` runs drift then consolidation in a loop without early exit (errors are collected), and
    `Controller.Reconcile` cannot return between `runReconcilers` and the status patch.  `reconcileClaimF` (which
    ignores `RFaults.drift`) rests on this. -/
theorem fact_sub_reconcilers :
    CandidateFacts.subReconcilers = ["drift", "consolidation"] ∧
    CandidateFacts.subReconcilerLoopExits = 0 ∧ CandidateFacts.reconcileReturnsBeforePatch = 0 := ⟨rfl, rfl, rfl⟩

/-- what each method looks at again between the listing of its candidates and its command: Drift simulates
    scheduling for the one candidate of its command; Single/MultiNodeConsolidation go through
    `computeConsolidation` → `SimulateScheduling` and validate; Emptiness only validates; **StaticDrift neither
    simulates nor looks at the deletion state nor validates** (known finding C07-staticdrift-late-deletion — when it
    is repaired this fact and `C07_late_deletion_partial` change).  `SimulateScheduling` derives the deleting nodes
    from the cluster's node list before anything else. -/
theorem fact_final_look :
    simulates .drift = true ∧ simulates .single = true ∧ simulates .multi = true ∧
    simulates .emptiness = false ∧ simulates .staticDrift = false ∧
    CandidateFacts.staticDriftComputeCalls = [] ∧
    CandidateFacts.emptinessComputeCalls.contains "Validate" = true ∧
    CandidateFacts.singleComputeCalls.contains "Validate" = true ∧
    CandidateFacts.multiComputeCalls.contains "Validate" = true ∧
    CandidateFacts.simulateSchedulingCalls.take 2 = ["DeepCopyNodes", "Deleting"] ∧
    (Method.all.all fun m => revalidates m == !isDrift m) = true := by decide +kernel

theorem eventual_eq_isDrift (m : Method) : (classOf m == .eventual) = isDrift m := by
  obtain ⟨he, hm, hs, hd, hsd, -⟩ := fact_method_classes
  unfold classOf
  cases m <;> simp only [he, hm, hs, hd, hsd] <;> rfl

/-- **C07_no_protected** — for every world and each of the five methods: if the method selects the node, then the
    node is managed, initialized, not deleting (nor already queued), not recently nominated, not annotated
    do-not-disrupt, hosts no pod with an active do-not-disrupt annotation or a blocking PDB unless the method is a
    drift method and the NodeClaim has a terminationGracePeriod; and consolidation methods additionally had a
    Consolidatable NodeClaim of a dynamic pool with consolidation enabled, a policy other than WhenEmpty unless the
    node is empty (buffer placements count as non-empty), the emptiness method only ever taking empty nodes.
    `wellFormed`: the initialized label is only found on nodes that carry the registered label (lifecycle order). -/
theorem C07_no_protected (w : World) (m : Method) (hwf : wellFormed w = true) (h : selected w m = true) :
    allowed w m = true := by
  obtain ⟨s, md, hs, hc, hmd, hsd⟩ := selected_unfold h
  obtain ⟨hcand, hcl, hnode⟩ := candidate_ok hwf hs hc
  have hcons := shouldDisrupt_consolidation hcl hnode hsd
  rw [eventual_eq_isDrift] at hcand
  show (candidateAllowed w (isDrift m) && (!isConsolidation m || consolidationOk w m)) = true
  rw [hcand, hcons]
  rfl

/-- **C07_blockers** — the conclusion of `C07_no_protected`, one blocker of the property's list at a time; the
    pod-level blockers may only be present for a drift method on a NodeClaim with a terminationGracePeriod -/
theorem C07_blockers (w : World) (m : Method) (hwf : wellFormed w = true) (h : selected w m = true) :
    unmanaged w = false ∧ uninitialized w = false ∧ deleting w = false ∧ recentlyNominated w = false ∧
    nodeDoNotDisrupt w = false ∧
    ((podDoNotDisrupt w = true ∨ pdbBlocks w = true) → isDrift m = true ∧ hasTGP w = true) := by
  obtain ⟨⟨a, b, c, d, e⟩, h2, _⟩ := allowed_unfold (C07_no_protected w m hwf h)
  refine ⟨a, b, c, d, e, fun hp => h2.resolve_left fun h' => ?_⟩
  rcases hp with hp | hp
  · rw [h'.1] at hp; cases hp
  · rw [h'.2] at hp; cases hp

/-- **C07_graceful_never_overrides** — emptiness and the two consolidation methods never select a node hosting a
    pod with an active do-not-disrupt annotation or a blocking PDB, terminationGracePeriod or not -/
theorem C07_graceful_never_overrides (w : World) (m : Method) (hwf : wellFormed w = true)
    (hm : isDrift m = false) (h : selected w m = true) : podDoNotDisrupt w = false ∧ pdbBlocks w = false := by
  obtain ⟨_, h2, _⟩ := allowed_unfold (C07_no_protected w m hwf h)
  exact h2.resolve_right fun h' => by rw [hm] at h'; cases h'.1

/-- **C07_consolidation** — what consolidation additionally requires -/
theorem C07_consolidation (w : World) (m : Method) (hwf : wellFormed w = true)
    (hm : isConsolidation m = true) (h : selected w m = true) :
    consolidatable w = true ∧ w.pool.static = false ∧ w.pool.consolidateAfter.isSome = true ∧
    (empty w = false → w.pool.policy ≠ .whenEmpty) ∧ (m = .emptiness → empty w = true ∧ w.buffer = 0) := by
  have hc := (allowed_unfold (C07_no_protected w m hwf h)).2.2 hm
  have hb : empty w = true → w.buffer = 0 := fun he => by
    unfold empty at he; simp only [Bool.and_eq_true, beq_iff_eq] at he; exact he.1
  unfold consolidationOk at hc
  cases he : empty w <;> simp_all

/-- **C07_new_candidate** — `NewCandidate` per disruption class: graceful never overrides a pod-level blocker,
    eventual only with a terminationGracePeriod; no class overrides a node-level blocker -/
theorem C07_new_candidate (w : World) (cls : Class) (hwf : wellFormed w = true)
    (h : newCandidate w cls = .ok) : candidateAllowed w (cls == .eventual) = true := by
  revert h
  fun_cases newCandidate w cls <;> intro h
  · cases h
  · exact (candidate_ok hwf ‹_› h).1

/-- **C07_empty_literal** — with Kubernetes' default costs (no negative deletion cost, no negative priority) "empty" is literal: the node
    hosts no pod that would have to move, and holds no capacity-buffer placement -/
theorem C07_empty_literal (w : World)
    (hdef : ∀ p ∈ w.pods, 0 ≤ p.delCost.getD 0 ∧ 0 ≤ p.prio.getD 0) :
    empty w = true ↔ (w.buffer = 0 ∧ ∀ p ∈ w.pods, p.onNode = true → mustMove p = false) := by
  have hcontrib : ∀ p ∈ w.pods, contributes p = true := by
    intro p hp
    have ⟨h1, h2⟩ := hdef p hp
    obtain ⟨e1, e3, e4, -, -⟩ := fact_eviction_cost
    unfold contributes
    rw [e1, e3, e4]
    show decide (0 < 1 * (2:Int) ^ 27 + p.delCost.getD 0 * (2:Int) ^ 0 + p.prio.getD 0 * (2:Int) ^ 2) = true
    rw [decide_eq_true_eq]
    omega
  unfold empty hosted
  simp only [Bool.and_eq_true, beq_iff_eq, List.all_eq_true, List.mem_filter, Bool.not_eq_true', and_imp]
  constructor <;> rintro ⟨hb, hall⟩ <;> refine ⟨hb, fun p hp hon => ?_⟩
  · simpa [hcontrib p hp] using hall p hp hon
  · rw [hall p hp hon]; rfl

/-- **C07_dnd_duration** — a duration-valued annotation is active iff the duration is positive and, when the pod
    has a start time, `now - start < d` (no start time: active, fail safe) -/
theorem C07_dnd_duration (now d : Int) (p : Pod) (hd : p.dnd = .dur d) :
    dndActive now p = true ↔ (0 < d ∧ ∀ s, p.start = some s → now - s < d) := by
  rw [dnd_eq]
  unfold annotationActive
  rw [hd]
  cases p.start <;> simp <;> omega

theorem dnd_started {now d s : Int} {p : Pod} (hd : p.dnd = .dur d) (hs : p.start = some s) :
    dndActive now p = true ↔ 0 < d ∧ now < s + d := by
  rw [C07_dnd_duration now d p hd, hs]
  simp only [Option.some.injEq, forall_eq']
  omega

/-- **C07_dnd_expiry_monotone** — time only moves forward: an expired duration annotation never becomes active again -/
theorem C07_dnd_expiry_monotone (now now' d s : Int) (p : Pod) (hd : p.dnd = .dur d) (hs : p.start = some s)
    (hle : now ≤ now') (hoff : dndActive now p = false) : dndActive now' p = false := by
  rw [Bool.eq_false_iff, Ne, dnd_started hd hs] at hoff ⊢
  omega

/-- **C07_dnd_protects_until** — a duration annotation with `0 < d` is active at every instant before `start + d` -/
theorem C07_dnd_protects_until (now d s : Int) (p : Pod) (hd : p.dnd = .dur d) (hs : p.start = some s)
    (hpos : 0 < d) (hlt : now < s + d) : dndActive now p = true :=
  (dnd_started hd hs).mpr ⟨hpos, hlt⟩

/-- **C07_active_annotation_blocks** — a running pod whose annotation is active blocks every graceful method and every drift method without TGP -/
theorem C07_active_annotation_blocks (w : World) (m : Method) (p : Pod) (hwf : wellFormed w = true)
    (hp : p ∈ w.pods) (hon : p.onNode = true) (hrun : p.terminal = false ∧ p.terminating = false)
    (hact : dndActive w.now p = true) (hno : isDrift m = false ∨ hasTGP w = false) : selected w m = false := by
  have hblk : podDoNotDisrupt w = true := by
    unfold podDoNotDisrupt hosted
    rw [List.any_eq_true]
    refine ⟨p, List.mem_filter.mpr ⟨hp, hon⟩, ?_⟩
    rw [← dnd_eq, hact]
    simp [running, hrun.1, hrun.2]
  cases hsel : selected w m with
  | false => rfl
  | true =>
    obtain ⟨h1, h2⟩ := (C07_blockers w m hwf hsel).2.2.2.2.2 (Or.inl hblk)
    rcases hno with h | h
    · rw [h] at h1; cases h1
    · rw [h] at h2; cases h2

theorem past_window {w : World} {t now : Int} (h : ¬now < t + window w) :
    t + 10 * 1000000000 ≤ now ∧ t + 2 * w.batchMax ≤ now := by
  unfold window at h
  rw [fact_nomination_window.1, fact_nomination_window.2] at h
  omega

/-- **C07_nomination_window** — a node nominated at instant `t` is not selected by any method before
    `t + max(10 s, 2 × BatchMaxDuration)` -/
theorem C07_nomination_window (w : World) (m : Method) (t : Int) (hwf : wellFormed w = true)
    (hn : w.nominatedAt = some t) (h : selected w m = true) :
    t + 10 * 1000000000 ≤ w.now ∧ t + 2 * w.batchMax ≤ w.now := by
  obtain ⟨_, _, _, hr, _, _⟩ := C07_blockers w m hwf h
  unfold recentlyNominated at hr
  rw [hn] at hr
  exact past_window (of_decide_eq_false hr)

/-- **C07_consolidatable** — the sub-reconciler sets Consolidatable exactly when the specification allows it:
    consolidation enabled, NodeClaim initialized, and consolidateAfter elapsed since the last pod event (since the
    Initialized transition when there was none); otherwise it removes the condition. -/
theorem C07_consolidatable (pool : Pool) (c : Claim) (now : Int) (hdyn : pool.static = false) :
    (consolidatableAfter pool c now = .true_ ↔ mayBeConsolidatable pool c now = true) ∧
    (mayBeConsolidatable pool c now = false → consolidatableAfter pool c now = .absent) := by
  rw [consolidatableAfter_eq pool c now hdyn]
  cases mayBeConsolidatable pool c now <;> simp

/-- **C07_consolidatable_elapsed** — what "elapsed" means, in the open -/
theorem C07_consolidatable_elapsed (pool : Pool) (c : Claim) (now : Int)
    (h : mayBeConsolidatable pool c now = true) :
    pool.static = false ∧ c.initialized = .true_ ∧
    ∃ ca, pool.consolidateAfter = some ca ∧ (ca = 0 ∨ c.lastPodEvent.getD c.initAt + ca ≤ now) := by
  unfold mayBeConsolidatable at h
  cases hca : pool.consolidateAfter with
  | none => simp [hca] at h
  | some ca =>
    simp only [hca, Bool.and_eq_true, Bool.not_eq_true', beq_iff_eq] at h
    obtain ⟨hs, hi, he⟩ := h
    refine ⟨hs, hi, ca, rfl, ?_⟩
    unfold elapsedSince at he
    cases hl : c.lastPodEvent <;> simp_all

/-- **C07_reconcile** — the whole controller, under ANY combination of faults of one run (failing drift check,
    failing NodePool read, refused status patch): a NodeClaim it must not or cannot touch keeps its condition; a live
    NodeClaim of an existing, readable dynamic pool whose status write is accepted ends up Consolidatable iff the
    specification allows it — whether or not the drift check of the same run failed. -/
theorem C07_reconcile (f : RFaults) (pool : Pool) (c : Claim) (now : Int) :
    let c' := reconcileClaimF f pool c now
    (c.deleting = true ∨ c.md.pool ≠ .this ∨ pool.present = false ∨ pool.static = true ∨
        f.poolGet = true ∨ f.patch = true → c' = c) ∧
    (c.deleting = false → c.md.pool = .this → pool.present = true → pool.static = false →
      f.poolGet = false → f.patch = false →
      (c'.consolidatable = .true_ ↔ mayBeConsolidatable pool c now = true)) := by
  rw [← afterController_eq]
  unfold afterController controllerActs
  constructor
  · intro h
    rcases h with h | h | h | h | h | h <;> simp [h]
  · intro h1 h2 h3 h4 h5 h6
    simp only [h1, h2, h3, h4, h5, h6]
    cases mayBeConsolidatable pool c now <;> simp

/-- **C07_reconcile_acceptable** — the same in the specification's words (`controllerActs`, `conditionAcceptable`):
    under any faults the persisted condition is acceptable — True only if the window has elapsed when the controller
    has its say, and only as a leftover when it has not. -/
theorem C07_reconcile_acceptable (f : RFaults) (pool : Pool) (c : Claim) (now : Int) :
    conditionAcceptable f pool c now (reconcileClaimF f pool c now).consolidatable = true := by
  rw [← afterController_eq]
  unfold conditionAcceptable afterController
  cases hact : controllerActs f pool c
  · cases hc : c.consolidatable <;> simp [hc]
  · cases hmb : mayBeConsolidatable pool c now <;> simp

/-- **C07_reconcile_withdraws** — a pod event is honoured at the next run even when the drift check of that run
    fails: if the controller has its say and consolidateAfter has not elapsed since the last pod event, the persisted
    NodeClaim is not Consolidatable afterwards, for every value of `f.drift`. -/
theorem C07_reconcile_withdraws (f : RFaults) (pool : Pool) (c : Claim) (now : Int)
    (hact : controllerActs f pool c = true) (h : mayBeConsolidatable pool c now = false) :
    (reconcileClaimF f pool c now).consolidatable = .absent := by
  rw [← afterController_eq]
  unfold afterController
  simp [hact, h]

/-- **C07_drift_fault_irrelevant** — what is persisted does not depend on whether the drift check failed -/
theorem C07_drift_fault_irrelevant (f : RFaults) (d : Bool) (pool : Pool) (c : Claim) (now : Int) :
    reconcileClaimF { f with drift := d } pool c now = reconcileClaimF f pool c now := rfl

/-- `C07_consolidation_pipeline` with the instant of the controller's run a variable -/
theorem elapsed_at_run {w : World} {m : Method} {c : Claim} {f : RFaults} {now : Int}
    (hall : allowed w m = true) (hm : isConsolidation m = true)
    (hc : w.claim = some (reconcileClaimF f w.pool c now))
    (hlive : c.deleting = false) (hlbl : c.md.pool = .this) (hget : f.poolGet = false) (hpatch : f.patch = false) :
    mayBeConsolidatable w.pool c now = true := by
  obtain ⟨⟨hun, _⟩, _, hcons⟩ := allowed_unfold hall
  have hok := hcons hm
  simp only [consolidationOk, consolidatable, hc, Bool.and_eq_true, Bool.not_eq_true', beq_iff_eq] at hok
  obtain ⟨⟨⟨⟨hcd, hdyn⟩, _⟩, _⟩, _⟩ := hok
  -- managed ⇒ the pool exists
  have hpres : w.pool.present = true := by
    unfold unmanaged at hun
    cases hn : w.node <;> simp_all
  exact ((C07_reconcile f w.pool c now).2 hlive hlbl hpres hdyn hget hpatch).mp hcd

/-- **C07_consolidation_pipeline** — when the condition on the NodeClaim is the one the controller has just
    maintained (same instant; the run may have had a failing drift check, but read the pool and wrote the status), a
    consolidation method selecting the node implies that consolidateAfter has elapsed since the last pod event. -/
theorem C07_consolidation_pipeline (w : World) (c : Claim) (m : Method) (f : RFaults)
    (hc : w.claim = some (reconcileClaimF f w.pool c w.now))
    (hlive : c.deleting = false) (hlbl : c.md.pool = .this) (hget : f.poolGet = false) (hpatch : f.patch = false)
    (hwf : wellFormed w = true) (hm : isConsolidation m = true) (h : selected w m = true) :
    mayBeConsolidatable w.pool c w.now = true :=
  elapsed_at_run (C07_no_protected w m hwf h) hm hc hlive hlbl hget hpatch

/-- **C07_state_refines_log** — after ANY event sequence the cluster-state entry (flags, "until" instant, cached
    objects) is exactly what the log of the history stands for. -/
theorem C07_state_refines_log (b : Int) (pool : Pool) (es : List Ev) (t0 : Int) :
    hrun b pool { now := t0, sn := none } es = absState b (specRun pool { now := t0 } es) :=
  (run_abs b pool es { now := t0 } (loginv_init t0)).1

/-- **C07_history** — for every event history and every method: if the method selects the node after the history,
    the node the log describes is not protected. -/
theorem C07_history (env : World) (es : List Ev) (t0 : Int) (m : Method)
    (hwf : wellFormed ((specRun env.pool { now := t0 } es).world env) = true)
    (h : hselected env (hrun env.batchMax env.pool { now := t0, sn := none } es) m = true) :
    allowedAfter env (specRun env.pool { now := t0 } es) m = true := by
  have hinv := (run_abs env.batchMax env.pool es { now := t0 } (loginv_init t0)).2
  rw [C07_state_refines_log, hselected_abs env _ m hinv.visible] at h
  have hall := C07_no_protected _ m hwf h
  obtain ⟨⟨_, _, _, hrn, _⟩, _, _⟩ := allowed_unfold hall
  obtain ⟨_, c, _, hc, _⟩ := selected_tracked h
  -- a NodeClaim, so the log tracks the node; "some nomination is younger than the window" is excluded as well
  exact allowedAfter_iff.mpr
    ⟨by simp [Log.tracked, show (specRun _ _ _).claim = some c from hc], hall, not_recent_of_latest hrn⟩

/-- **C07_history_windows** — under the hypotheses of `C07_history`, the last mark/unmark record is not a mark and no
    nomination record is younger than the window. -/
theorem C07_history_windows (env : World) (es : List Ev) (t0 : Int) (m : Method)
    (hwf : wellFormed ((specRun env.pool { now := t0 } es).world env) = true)
    (h : hselected env (hrun env.batchMax env.pool { now := t0, sn := none } es) m = true) :
    (specRun env.pool { now := t0 } es).marks.getLast? ≠ some true ∧
    (∀ t ∈ (specRun env.pool { now := t0 } es).noms,
      t + 10 * 1000000000 ≤ (specRun env.pool { now := t0 } es).now ∧
      t + 2 * env.batchMax ≤ (specRun env.pool { now := t0 } es).now) := by
  obtain ⟨_, hall, hrec⟩ := allowedAfter_iff.mp (C07_history env es t0 m hwf h)
  obtain ⟨⟨_, _, hd, _⟩, _, _⟩ := allowed_unfold hall
  constructor
  · intro hc
    simp [deleting, Log.world, Log.marked, hc] at hd
  · intro t ht
    unfold Log.recentlyNominated at hrec
    exact past_window (by simpa using List.any_eq_false.mp hrec t ht)

/-- **C07_history_consolidatable** — along any history: if the last thing that happened to the NodeClaim was a run
    of the nodeclaim.disruption controller (at the instant the prefix `es₁` ends, on the live, labelled NodeClaim `c`;
    the run may have had a failing drift check, but read the pool and wrote the status),
    and a consolidation method selects the node after any number of later clock ticks, nominations, marks and Node
    events, then at that run consolidateAfter had elapsed since the last pod event and `c` was initialized. -/
theorem C07_history_consolidatable (env : World) (es₁ es₂ : List Ev) (t0 : Int) (m : Method) (c : Claim) (f : RFaults)
    (hc : (specRun env.pool { now := t0 } es₁).claim = some c)
    (hlive : c.deleting = false) (hlbl : c.md.pool = .this) (hget : f.poolGet = false) (hpatch : f.patch = false)
    (hq : ∀ e ∈ es₂, quiet e = true)
    (hwf : wellFormed ((specRun env.pool { now := t0 } (es₁ ++ [Ev.reconcile f] ++ es₂)).world env) = true)
    (hm : isConsolidation m = true)
    (h : hselected env (hrun env.batchMax env.pool { now := t0, sn := none } (es₁ ++ [Ev.reconcile f] ++ es₂)) m = true) :
    mayBeConsolidatable env.pool c (specRun env.pool { now := t0 } es₁).now = true := by
  apply elapsed_at_run (allowedAfter_iff.mp (C07_history env _ t0 m hwf h)).2.1 hm _ hlive hlbl hget hpatch
  -- the final claim is what the controller left
  rw [List.append_assoc, specRun_append]
  show (specRun env.pool _ ([Ev.reconcile f] ++ es₂)).claim = some (reconcileClaimF f env.pool c _)
  simp only [List.singleton_append, specRun, ← afterController_eq]
  apply quiet_run_keeps_claim env.pool es₂ _ _ hq
  simp [specStep, hc]

def okMeta : Meta := { dnd := .none, pool := .this, it := .known, ct := true, zone := true }

def okClaim : Claim :=
  { md := okMeta, deleting := false, terminating := .absent, tgp := false, drifted := .true_, consolidatable := .true_,
    initialized := .true_, initAt := 10000000000, lastPodEvent := none }

def okNode : Node := { md := okMeta, init := .true_, reg := .true_, deleting := false }

def okPool : Pool :=
  { present := true, managed := true, static := false, consolidateAfter := some 30000000000,
    policy := .whenEmptyOrUnderutilized, hasITs := true }

def plainPod : Pod :=
  { onNode := true, ns := 0, app := none, terminal := false, terminating := false, daemon := false, mirror := false,
    sts := false, tol := .none, dnd := .none, start := some 3600000000000, notReady := false, delCost := none, prio := none }

def busy : World :=
  { now := 7200000000000, batchMax := 10000000000, claim := some okClaim, node := some okNode, marked := false,
    nominatedAt := none, inQueue := false, buffer := 0, pool := okPool, pods := [plainPod], pdbs := [] }

def okStatic : World := { busy with pool := { okPool with static := true } }
def emptyNode : World := { busy with pods := [{ plainPod with daemon := true }] }
def dndPod : Pod := { plainPod with dnd := .true_ }
def blockedTGP : World := { busy with claim := some { okClaim with tgp := true }, pods := [dndPod] }
def blockedNoTGP : World := { busy with pods := [dndPod] }

theorem late_marks (w : World) (e : LateDeletion) (c : Claim) (hc : w.claim = some c) :
    ∃ s, stateNode (e.apply w) = some s ∧ s.markedForDeletion = true := by
  unfold stateNode StateNode.markedForDeletion StateNode.deleted
  -- the NodeClaim is there, so the entry is; each event sets one of the three marks
  cases e <;> simp only [LateDeletion.apply, hc] <;> exact ⟨_, rfl, by simp [isTrue_eq]⟩

theorem looks_again {m : Method} (hm : m ≠ .staticDrift) : simulates m = true ∨ revalidates m = true := by
  obtain ⟨hd, hs, hmu, -⟩ := fact_final_look
  cases m with
  | staticDrift => exact absurd rfl hm
  | drift => exact Or.inl hd
  | single => exact Or.inl hs
  | multi => exact Or.inl hmu
  | emptiness => exact Or.inr (by decide)

/-- every method but StaticDrift looks at its candidates again, so the node of its command is not marked for deletion
    in the later world: either the final look of `SimulateScheduling` or the validation saw it -/
theorem mayCommand_not_marked {w0 w1 : World} {m : Method} {s : StateNode} (hm : m ≠ .staticDrift)
    (h : mayCommand m w0 w1 = true) (hs : stateNode w1 = some s) : s.markedForDeletion = false := by
  unfold mayCommand at h
  simp only [Bool.and_eq_true, Bool.or_eq_true, Bool.not_eq_true'] at h
  obtain ⟨⟨_, hsim⟩, hrev⟩ := h
  rcases looks_again hm with hl | hl
  · have : finalLook w1 = true := by simpa [hl] using hsim
    simpa [finalLook, hs] using this
  · have hsel : selected w1 m = true := by simpa [hl] using hrev
    obtain ⟨s', _, hs', _, hm', _⟩ := selected_tracked hsel
    cases hs.symm.trans hs'
    exact hm'

/- FULL STATEMENT (fails for StaticDrift, see `C07_late_deletion_staticdrift`):
     ∀ w0 e m, mayCommand m w0 (e.apply w0) = false
   "a node that starts deleting — MarkForDeletion, NodeClaim deleted, InstanceTerminating — after the controller listed
   the candidates of a method and before the method computes its commands is in no command of that method". -/

/-- **C07_late_deletion_partial** — the full statement for every method but StaticDrift: Drift and Single/MultiNode
    consolidation through the final look of `SimulateScheduling`, Emptiness (and consolidation again) through
    validation. -/
theorem C07_late_deletion_partial (w0 : World) (e : LateDeletion) (m : Method) (hm : m ≠ .staticDrift) :
    mayCommand m w0 (e.apply w0) = false := by
  cases hsel : selected w0 m with
  | false => simp [mayCommand, hsel]
  | true =>
    obtain ⟨_, c, _, hc, _⟩ := selected_tracked hsel
    obtain ⟨s, hs, hmk⟩ := late_marks w0 e c hc
    cases h : mayCommand m w0 (e.apply w0) with
    | false => rfl
    | true => exact absurd hmk (by rw [mayCommand_not_marked hm h hs]; decide)

/-- the negation of the full statement on a witness (replayed on the real code: corpus/c07.controller/
    k-staticdrift-late-deletion.json): StaticDrift puts a node whose NodeClaim was deleted meanwhile in a command -/
theorem C07_late_deletion_staticdrift :
    mayCommand .staticDrift okStatic (LateDeletion.claimDelete.apply okStatic) = true ∧
    wellFormed (LateDeletion.claimDelete.apply okStatic) = true ∧
    deleting (LateDeletion.claimDelete.apply okStatic) = true ∧
    allowed (LateDeletion.claimDelete.apply okStatic) .staticDrift = false := by decide

/-- **C07_command_not_deleting** — whatever happened between the listing (`w0`) and the computation (`w1`, ANY world):
    a node the cluster state still tracks that is in a command of a method other than StaticDrift is not
    "already deleting" in `w1` (not marked, NodeClaim neither deleting nor terminating; the queue is the
    controller's own and cannot change during its pass) -/
theorem C07_command_not_deleting (w0 w1 : World) (m : Method) (hm : m ≠ .staticDrift)
    (htr : (stateNode w1).isSome = true) (hq : w1.inQueue = false) (h : mayCommand m w0 w1 = true) :
    deleting w1 = false := by
  cases hs1 : stateNode w1 with
  | none => simp [hs1] at htr
  | some s => exact not_deleting hs1 (mayCommand_not_marked hm h hs1) hq

/-- **C07_command_revalidated** — a method that validates: whatever changed meanwhile, the node of a command is
    allowed by the specification in the later world too -/
theorem C07_command_revalidated (w0 w1 : World) (m : Method) (hr : revalidates m = true)
    (hwf : wellFormed w1 = true) (h : mayCommand m w0 w1 = true) : allowed w1 m = true := by
  unfold mayCommand at h
  simp only [Bool.and_eq_true, Bool.or_eq_true, Bool.not_eq_true', hr] at h
  exact C07_no_protected w1 m hwf (by simpa using h.2)

/-- the lifecycle hypothesis `wellFormed` of `C07_no_protected` cannot be dropped: a Node that carries
    `karpenter.sh/initialized=true` but has LOST `karpenter.sh/registered` (only possible by tampering with
    Karpenter's own labels: registration sets the label before initialization can happen and nothing removes it) is
    read through its NodeClaim's annotations, so a do-not-disrupt annotation on the Node object is not seen.  The
    real code behaves the same (modifier `reg-absent` of `c07.candidate`, model equality). -/
theorem C07_wellFormed_needed :
    let w := { busy with node := some { okNode with reg := .absent, md := { okMeta with dnd := .true_ } } }
    wellFormed w = false ∧ nodeDoNotDisrupt w = true ∧ selected w .drift = true := by decide

-- every method selects some node (the hypotheses of C07_no_protected are satisfiable for each method) …
example : wellFormed busy = true ∧ selected busy .drift = true ∧ selected busy .multi = true ∧
    selected busy .single = true ∧ selected busy .emptiness = false := by decide
example : selected emptyNode .emptiness = true ∧ selected emptyNode .multi = false := by decide
example : selected okStatic .staticDrift = true ∧ selected okStatic .drift = false := by decide
-- … the override exception is real and is the only one …
example : podDoNotDisrupt blockedTGP = true ∧ selected blockedTGP .drift = true ∧ selected blockedTGP .multi = false ∧
    selected blockedNoTGP .drift = false := by decide
-- … each node-level blocker alone flips every selection …
example : selected { busy with marked := true } .drift = false ∧
    selected { busy with inQueue := true } .drift = false ∧
    selected { busy with nominatedAt := some (7200000000000 - 20000000000 + 1) } .drift = false ∧
    selected { busy with nominatedAt := some (7200000000000 - 20000000000) } .drift = true ∧
    selected { busy with node := some { okNode with md := { okMeta with dnd := .true_ } } } .drift = false ∧
    selected { busy with node := some { okNode with init := .other } } .drift = false ∧
    selected { busy with claim := none } .drift = false := by decide
-- … duration-valued annotations at the clock edge (start 3600 s, now 7200 s: age exactly 3600 s) …
example : dndActive 7200000000000 { plainPod with dnd := .dur 3600000000001 } = true ∧
    dndActive 7200000000000 { plainPod with dnd := .dur 3600000000000 } = false ∧
    dndActive 7200000000000 { plainPod with dnd := .dur 60, start := none } = true ∧
    dndActive 7200000000000 { plainPod with dnd := .dur (-5) , start := none } = false := by decide
-- … a pod that declared itself free to disrupt leaves the node "empty" (designs/balanced-consolidation.md) …
example : empty { busy with pods := [{ plainPod with delCost := some (-134217728) }] } = true ∧
    empty { busy with pods := [{ plainPod with delCost := some (-134217727) }] } = false ∧
    empty { emptyNode with buffer := 1 } = false := by decide
-- … the Consolidatable condition at the consolidateAfter edge (last pod event at 7170 s, consolidateAfter 30 s) …
example : consolidatableAfter okPool { okClaim with lastPodEvent := some 7170000000000 } 7200000000000 = .true_ ∧
    consolidatableAfter okPool { okClaim with lastPodEvent := some 7170000000000 } 7199999999999 = .absent ∧
    mayBeConsolidatable okPool { okClaim with lastPodEvent := some 7170000000000 } 7199999999999 = false := by decide
-- … a pod event is honoured by the next run of the controller although the drift check of that run fails; a refused
-- status patch leaves the stale condition (the controller has no say then) …
def podEventClaim : Claim := { okClaim with lastPodEvent := some 7190000000000 }
example : controllerActs { drift := true } okPool podEventClaim = true ∧
    mayBeConsolidatable okPool podEventClaim 7200000000000 = false ∧
    (reconcileClaimF { drift := true } okPool podEventClaim 7200000000000).consolidatable = .absent ∧
    selected { busy with claim := some (reconcileClaimF { drift := true } okPool podEventClaim 7200000000000) } .multi = false ∧
    controllerActs { patch := true } okPool podEventClaim = false ∧
    (reconcileClaimF { patch := true } okPool podEventClaim 7200000000000).consolidatable = .true_ := by decide
def podEventHistory : List Ev :=
  [.claim (some okClaim), .node (some okNode), .tick 60000000000, .podEvent, .tick 1000000000,
   .reconcile { drift := true }, .tick 28999999999, .reconcile { drift := true }, .tick 1, .reconcile { drift := true }]
example : (hobserve busy { now := 0, sn := none } podEventHistory).map (fun r => r.getD 3 false)
    = [false, true, true, true, true, false, false, false, false, true] := by decide
-- … and a history: nominate, wait out the window, mark, unmark; Drift's verdict after every event
def demoHistory : List Ev :=
  [.claim (some okClaim), .node (some okNode), .nominate, .tick 19999999999, .tick 1, .mark, .node (some okNode), .unmark]
example : (hobserve busy { now := 0, sn := none } demoHistory).map (fun r => r.getD 2 false)
    = [false, true, false, false, true, false, false, true] := by decide
example : wellFormed ((specRun busy.pool { now := 0 } demoHistory).world busy) = true ∧
    hselected busy (hrun busy.batchMax busy.pool { now := 0, sn := none } demoHistory) .drift = true := by decide
-- … the pass is not atomic: nothing changed -> commandable; a late deletion -> not (every method but StaticDrift)
example : mayCommand .drift busy busy = true ∧ mayCommand .single busy busy = true ∧
    mayCommand .emptiness emptyNode emptyNode = true ∧
    mayCommand .drift busy (LateDeletion.mark.apply busy) = false ∧
    (stateNode busy).isSome = true ∧ deleting (LateDeletion.claimTerminating.apply busy) = true := by decide +kernel

/-! ## The callers of the marks and nominations: Results.Record and the orchestration queue (c07.commands) -/

/-- the two writers of the in-memory protections, as the source has them: `Results.Record` nominates (one call)
    and no `return` of it precedes that call — an early exit ("nothing to report") cannot skip the nominations, the
    model's `.record` nominates whatever the rest of the result looks like; `Queue.StartCommand` marks;
    `Queue.CompleteCommand` releases the candidates only under the guard `!cmd.Succeeded` — the model's `.queue`
    unmarks for a failed command only. -/
theorem fact_protection_writers :
    CandidateFacts.recordNominateCalls = 1 ∧ CandidateFacts.recordReturnsBeforeNominate = 0 ∧
    CandidateFacts.startCommandMarks = 1 ∧
    CandidateFacts.completeCommandUnmarkGuards = ["!cmd.Succeeded"] := ⟨rfl, rfl, rfl, rfl⟩

/-- **C07_commands_refine** — every command-level event (a recorded scheduling result, StartCommand, a run of the
    queue on the command, an informer delivery) is exactly the list of writes `lower` gives: the histories of
    commands are histories in the sense of `C07_history`. -/
theorem C07_commands_refine (env : World) (st : QState) (e : QEv) :
    (qstep env st e).h = hrun env.batchMax env.pool st.h (lower env st e) := qstep_h env st e

/-- **C07_commands_history** — for every history of recorded scheduling results, commands, queue runs (succeeding,
    requeued, failing), informer deliveries and the events of `C07_history`, and every method: if the method selects
    the node afterwards then no command naming the node is in the queue and the node the LOG of the corresponding
    writes describes is not protected (last mark/unmark record is not a mark, no nomination younger than the window,
    …).  (The queue is part of the state: `env.inQueue` is assumed `false`.) -/
theorem C07_commands_history (env : World) (es : List QEv) (t0 : Int) (m : Method) (henv : env.inQueue = false)
    (hwf : wellFormed ((specRun env.pool { now := t0 }
      (lowerRun env { h := { now := t0, sn := none } } es)).world env) = true)
    (h : qselected env (qrun env { h := { now := t0, sn := none } } es) m = true) :
    (qrun env { h := { now := t0, sn := none } } es).inQueue = false ∧
    allowedAfter env (specRun env.pool { now := t0 } (lowerRun env { h := { now := t0, sn := none } } es)) m = true := by
  obtain ⟨hq, hsel⟩ := qselected_hselected env _ m henv h
  rw [qrun_h] at hsel
  exact ⟨hq, C07_history env _ t0 m hwf hsel⟩

/-- **C07_command_protects** — "already deleting" at the level where it is decided: once the queue has accepted a
    command for the node (`StartCommand`), NO method selects the node after ANY continuation that contains no failing
    command, no raw unmark and no removal of the objects — while the command is queued, after it was requeued, after
    it was carried out (`.queue .none`: the NodeClaim is deleted through the API and the cluster state has NOT seen
    the deletionTimestamp), before and after the informer delivers it, whatever scheduling results are recorded and
    however far the clock advances. -/
theorem C07_command_protects (env : World) (st : QState) (m m' : Method) (es : List QEv)
    (hacc : startAccepted env st m = true) (hk : ∀ e ∈ es, qkeepsMark e = true) :
    qselected env (qrun env (qstep env st (.start m)) es) m' = false := by
  apply marked_not_selected (qenv env _)
  apply qrun_keeps_mark env es _ hk
  rw [qstep_h]
  have hsel : qselected env st m = true := by
    unfold startAccepted at hacc; simp only [Bool.and_eq_true] at hacc; exact hacc.2
  simp only [lower, hacc, if_true, hrun, hstep]
  unfold qselected hselected at hsel
  unfold hmarked
  cases hs : st.h.sn with
  | none => simp [hs] at hsel
  | some s => simp

/-- **C07_completed_command_stays_protected** — the instance that matters most: right after the queue carried the
    command out, the node is out of the queue, its API copy is deleting, the cluster state's copy is not — and no
    method selects it. -/
theorem C07_completed_command_stays_protected (env : World) (st : QState) (m m' : Method)
    (hacc : startAccepted env st m = true) :
    let st' := qstep env (qstep env st (.start m)) (.queue .none)
    st'.inQueue = false ∧ st'.apiDeleting = true ∧ qselected env st' m' = false := by
  have hsel := C07_command_protects env st m m' [.queue .none] hacc (List.forall_mem_singleton.mpr rfl)
  refine ⟨?_, ?_, hsel⟩ <;> simp [qstep, hacc]

/-- **C07_record_nominates** — "recently nominated for pending pods" at the level where it is decided: after a
    recorded scheduling result that places at least one real pending pod on the node — whatever else the result
    contains: virtual buffer pods, new NodeClaims with or without pods, or NO new NodeClaim at all — no method selects
    the node before the nomination window has passed. -/
theorem C07_record_nominates (env : World) (st : QState) (real virt newPods d : Nat) (m : Method)
    (hr : 0 < real) (hd : (d : Int) < nominationWindow env.batchMax) :
    qselected env (qstep env (qstep env st (.record real virt newPods)) (.base (.tick d))) m = false := by
  unfold qselected hselected
  rw [qstep_h]
  simp only [lower, hrun, hstep]
  simp only [qstep, lower, hr, if_true, hrun, hstep]
  cases hs : st.h.sn with
  | none => simp
  | some s =>
    have hlt : st.h.now + (d : Int) < st.h.now + nominationWindow env.batchMax := by omega
    simp [selectedOn, newCandidateOn, StateNode.validateNode, StateNode.nominated, envAt, qenv, hlt]

-- … a recorded result nominates (existing nodes only: no new NodeClaim), a carried-out command keeps protecting
def cmdStart : QState := qrun busy { h := { now := 0, sn := none } } [.base (.claim (some okClaim)), .base (.node (some okNode))]
example : startAccepted busy cmdStart .drift = true ∧
    qselected busy (qstep busy cmdStart (.record 1 0 0)) .drift = false ∧
    qselected busy (qstep busy cmdStart (.record 0 1 2)) .drift = true ∧
    qselected busy (qrun busy cmdStart [.record 1 0 0, .base (.tick 19999999999)]) .drift = false ∧
    qselected busy (qrun busy cmdStart [.record 1 0 0, .base (.tick 20000000000)]) .drift = true ∧
    qselected busy (qrun busy cmdStart [.start .drift, .queue .none]) .drift = false ∧
    qselected busy (qrun busy cmdStart [.start .drift, .queue .none, .sync, .base .podEvent]) .drift = false ∧
    qselected busy (qrun busy cmdStart [.start .drift, .queue .deleteError]) .drift = false ∧
    qselected busy (qrun busy cmdStart [.start .drift, .queue .replacementLost]) .drift = true := by decide
example : wellFormed ((specRun busy.pool { now := 0 } (lowerRun busy { h := { now := 0, sn := none } }
      [.base (.claim (some okClaim)), .base (.node (some okNode)), .start .drift, .queue .replacementLost])).world busy) = true ∧
    busy.inQueue = false := by decide

end Karp.C07
