/-
C02 — property theorems over the TopologyGroup model (`Karp/Model/Topo.lean`).

The property is about the end state of a whole scheduling pass; the pass reaches that state through one
mechanism: for every pod and every candidate node it asks each topology group for the admissible domains
(`TopologyGroup.Get`), and after committing it `Record`s the placement.  The theorems below state, for every
group state reachable by any sequence of `Record`/`Register`/`Unregister` calls and for every pair of
pod/node domain requirements, what `Get` can return, and lift that to unbounded sequences of
ask-then-record steps:

* anti-affinity : only domains with count zero are offered, so however many self-matching pods are placed a
                  domain's count never passes `max initial 1` (`C02_anti_*`);
* affinity      : an offered domain holds a match, or the pod matches itself and no domain it can use holds
                  one, and then exactly one domain is offered; a self-matching set therefore ends in one
                  domain (`C02_affinity_*`);
* spread        : the offered domain satisfies `count + self − globalMin ≤ maxSkew` with the kube-scheduler
                  reading of `globalMin` (zero below `minDomains`), so the skew among the counted domains never
                  passes `max initial maxSkew` over any number of placements (`C02_spread_*`).

The link to the end state of the real pass is the whole-pass oracle `c02.pass` (Karp/Spec/InterPod.lean);
the link of this model to `topologygroup.go` is the op-sequence correspondence `c02.group`.
-/
import Karp.Proofs.Topo
import Karp.Proofs.ReqLemmas
import Karp.Spec.TopoSpec

namespace Karp.C02
open Karp.Req Karp.Topo Karp.Spec.Topo

/-- every state reachable from `NewTopologyGroup` keeps `emptyDomains` = "registered with count zero" -/
theorem C02_index_invariant (kind : Kind) (isHost : Bool) (maxSkew : Int) (minDomains : Option Int) (ai : Bool)
    (ds : List Val) (ops : List Topo.Op) :
    ((TG.new kind isHost maxSkew minDomains ai ds).run ops).Inv :=
  inv_run _ _ (inv_new ..)

/-- where an offered domain comes from: the node's single hostname if nothing is counted there, else the
    `emptyDomains` index, filtered by what the pod allows -/
theorem mem_antiGet (t : TG) (pod node : Req) (d : Val) (hd : d ∈ t.antiGet pod node) :
    (t.isHost = true ∧ vals node = [d] ∧ t.domains.cnt d = 0) ∨ (d ∈ t.empty ∧ pod.has d = true) := by
  revert hd
  fun_cases TG.antiGet t pod node with
  | case1 x hx hh hc =>
    intro hd
    cases List.mem_singleton.1 hd
    exact Or.inl ⟨hh, hx, by simpa using hc⟩
  | case2 => exact fun hd => nomatch hd
  | case3 =>
    intro hd
    simp only [List.mem_filter, Bool.and_eq_true, decide_eq_true_eq] at hd
    exact Or.inr ⟨hd.2.1, hd.2.2⟩
  | case4 =>
    intro hd
    simp only [List.mem_filter, Bool.and_eq_true] at hd
    exact Or.inr ⟨hd.1, hd.2.2⟩

/-- `nextDomainAntiAffinity` offers only domains in which no matching pod has been counted -/
theorem C02_anti_sound (t : TG) (h : t.Inv) (pod node : Req) (d : Val) (hd : d ∈ t.antiGet pod node) :
    t.domains.cnt d = 0 := by
  rcases mem_antiGet t pod node d hd with ⟨_, _, h0⟩ | ⟨he, _⟩
  · exact h0
  · exact cnt_of_cnt? _ _ _ ((h.emptyIff d).1 he)

/-- outside the single-hostname shortcut the offered domains are also ones the pod's own requirements allow -/
theorem C02_anti_pod_compatible (t : TG) (pod node : Req) (d : Val) (hd : d ∈ t.antiGet pod node)
    (hns : ¬ (t.isHost = true ∧ ∃ h, vals node = [h])) : pod.has d = true := by
  rcases mem_antiGet t pod node d hd with ⟨h1, h2, _⟩ | ⟨_, hp⟩
  · exact absurd ⟨h1, d, h2⟩ hns
  · exact hp

/-- one scheduling step of a pod that carries and matches the term: ask, then block every offered domain the
    node may still end up in (`Topology.Record` records *all* candidate domains for anti-affinity) -/
structure AntiStep where
  pod    : Req
  node   : Req
  chosen : List Val

inductive AntiTrace : TG → List AntiStep → Prop
  | nil (t : TG) : AntiTrace t []
  | cons (t : TG) (s : AntiStep) (rest : List AntiStep)
      (hn : s.chosen.Nodup) (hsub : ∀ d ∈ s.chosen, d ∈ t.antiGet s.pod s.node)
      (hrest : AntiTrace (t.record s.chosen) rest) : AntiTrace t (s :: rest)

def antiRun (t : TG) (steps : List AntiStep) : TG := steps.foldl (fun t s => t.record s.chosen) t

/-- over any number of placements a domain never receives a second matching pod -/
theorem C02_anti_never_doubles (t : TG) (h : t.Inv) (steps : List AntiStep) (ht : AntiTrace t steps) (d : Val) :
    (antiRun t steps).domains.cnt d ≤ max (t.domains.cnt d) 1 := by
  induction ht with
  | nil t => exact Nat.le_max_left _ 1
  | cons t s rest hn hsub _ ih =>
    have hinv : (t.record s.chosen).Inv := inv_foldl _ inv_record1 _ _ h
    have hstep : (t.record s.chosen).domains.cnt d ≤ max (t.domains.cnt d) 1 := by
      rw [cnt_record t s.chosen hn d]
      split
      -- an offered domain holds no match: recording takes it to one
      next hd => rw [C02_anti_sound t h s.pod s.node d (hsub d hd)]; exact Nat.le_max_right 0 1
      next => exact Nat.le_max_left _ 1
    exact Nat.le_trans (ih hinv) (Nat.max_le.2 ⟨hstep, Nat.le_max_right _ 1⟩)

theorem affOpts_sound (t : TG) (pod node : Req) (d : Val) (hd : d ∈ t.affOpts pod node) :
    pod.has d = true ∧ 0 < t.domains.cnt d := by
  unfold TG.affOpts at hd
  split at hd <;> simp only [List.mem_filter, Bool.and_eq_true, positive_iff] at hd
  · exact hd.2
  · exact hd.2.1

theorem affBoot_sound (t : TG) (pod node : Req) :
    match t.affBoot pod node with
    | .fixed ds => ds = []
    | .pick cs => ∀ d ∈ cs, pod.has d = true ∧ (t.domains.cnt? d).isSome = true := by
  fun_cases TG.affBoot t pod node with
  | case1 =>
    intro d hd
    rw [List.mem_filter, has_inter, Bool.and_eq_true] at hd
    exact ⟨hd.2.1, (mem_keys _ _).1 hd.1⟩
  | case2 =>
    intro d hd
    rw [List.mem_filter] at hd
    exact ⟨hd.2, (mem_keys _ _).1 hd.1⟩
  | case3 => rfl

/-- what either kind of answer of `nextDomainAffinity` guarantees, read off its branches -/
theorem affGet_sound (t : TG) (h : t.Inv) (self : Bool) (pod node : Req) :
    match t.affGet self pod node with
    | .fixed ds => ∀ d ∈ ds,
        pod.has d = true ∧ (0 < t.domains.cnt d ∨ (self = true ∧ NoCompat t pod ∧ ds = [d]))
    | .pick cs => self = true ∧ NoCompat t pod ∧
        ∀ d ∈ cs, pod.has d = true ∧ (t.domains.cnt? d).isSome = true := by
  -- the hostname shortcut offers the node's single hostname `x` or nothing
  have one : ∀ x, (!pod.has x) ≠ true → (0 < t.domains.cnt x ∨ (self = true ∧ NoCompat t pod)) → ∀ d ∈ [x],
      pod.has d = true ∧ (0 < t.domains.cnt d ∨ (self = true ∧ NoCompat t pod ∧ [x] = [d])) := by
    intro x hp hc d hd
    rw [List.mem_singleton.1 hd]
    exact ⟨by simpa using hp, hc.imp id fun hb => ⟨hb.1, hb.2, rfl⟩⟩
  fun_cases TG.affGet t self pod node with
  | case1 => exact fun d hd => nomatch hd
  | case2 x _ _ hp hc => exact one x hp (Or.inl hc)
  | case3 x _ _ hp _ hb => exact one x hp (Or.inr (bootstrap_sound t h self pod hb))
  | case4 => exact fun d hd => nomatch hd
  | case5 => exact fun d hd => (affOpts_sound t pod node d hd).imp id Or.inl
  | case6 _ hb =>
    have hbs := bootstrap_sound t h self pod hb
    have hB := affBoot_sound t pod node
    generalize t.affBoot pod node = o at hB ⊢
    cases o with
    | fixed ds => cases (hB : ds = []); exact fun d hd => nomatch hd
    | pick cs => exact ⟨hbs.1, hbs.2, hB⟩
  | case7 => exact fun d hd => nomatch hd

/-- a determined answer of `nextDomainAffinity`: every offered domain is allowed by the pod and holds a match,
    or the pod matches itself, no usable domain holds a match, and it is the only domain offered -/
theorem C02_affinity_fixed (t : TG) (h : t.Inv) (self : Bool) (pod node : Req) (ds : List Val)
    (e : t.affGet self pod node = .fixed ds) (d : Val) (hd : d ∈ ds) :
    pod.has d = true ∧ (0 < t.domains.cnt d ∨ (self = true ∧ NoCompat t pod ∧ ds = [d])) := by
  have hs := affGet_sound t h self pod node
  rw [e] at hs
  exact hs d hd

/-- a bootstrap answer: the pod matches itself, no domain it can use holds a match, and every candidate is a
    registered domain the pod allows (the implementation offers exactly one of them) -/
theorem C02_affinity_pick (t : TG) (h : t.Inv) (self : Bool) (pod node : Req) (cs : List Val)
    (e : t.affGet self pod node = .pick cs) :
    self = true ∧ NoCompat t pod ∧ ∀ d ∈ cs, pod.has d = true ∧ (t.domains.cnt? d).isSome = true := by
  have hs := affGet_sound t h self pod node
  rw [e] at hs
  exact hs

def AtMostOne (t : TG) (P : Req) : Prop :=
  ∀ d d', P.has d = true → P.has d' = true → 0 < t.domains.cnt d → 0 < t.domains.cnt d' → d = d'

/-- the implementation's answer `[d]` is one the model allows -/
def affChosen (t : TG) (self : Bool) (pod node : Req) (d : Val) : Prop :=
  (∃ ds, t.affGet self pod node = .fixed ds ∧ d ∈ ds) ∨ (∃ cs, t.affGet self pod node = .pick cs ∧ d ∈ cs)

theorem C02_affinity_step (t : TG) (h : t.Inv) (P node : Req) (d : Val) (hA : AtMostOne t P)
    (hc : affChosen t true P node d) : AtMostOne (t.record1 d) P := by
  have key : P.has d = true ∧ (0 < t.domains.cnt d ∨ NoCompat t P) := by
    rcases hc with ⟨ds, e, hd⟩ | ⟨cs, e, hd⟩
    · have := C02_affinity_fixed t h true P node ds e d hd
      exact ⟨this.1, this.2.imp id (fun x => x.2.1)⟩
    · have := C02_affinity_pick t h true P node cs e
      exact ⟨(this.2.2 d hd).1, Or.inr this.2.1⟩
  -- a domain the pod may use that held a match before is `d`: by `hA` if `d` held one, and there is none otherwise
  have before : ∀ z, P.has z = true → 0 < t.domains.cnt z → z = d := fun z hz hp =>
    key.2.elim (hA z d hz key.1 hp) fun hno => by
      obtain ⟨c, hc1, hc2⟩ := (cnt_pos_iff _ _).1 hp
      have := hno z c hc1 hz
      omega
  have only : ∀ z, P.has z = true → 0 < (t.record1 d).domains.cnt z → z = d := by
    intro z hz hp
    rw [cnt_record1] at hp
    by_cases e : z = d
    · exact e
    · exact before z hz (by simpa [e] using hp)
  intro x y hx hy hpx hpy
  rw [only x hx hpx, only y hy hpy]

inductive AffTrace (P : Req) : TG → List (Req × Val) → Prop
  | nil (t : TG) : AffTrace P t []
  | cons (t : TG) (node : Req) (d : Val) (rest : List (Req × Val))
      (hc : affChosen t true P node d) (hrest : AffTrace P (t.record1 d) rest) : AffTrace P t ((node, d) :: rest)

def affRun (t : TG) (steps : List (Req × Val)) : TG := steps.foldl (fun t s => t.record1 s.2) t

/-- a set of pods that match their own required affinity term and share their node requirements ends, over any
    number of ask-then-record steps on any candidate nodes, with all its matches in one domain -/
theorem C02_affinity_single_domain (P : Req) (t : TG) (h : t.Inv) (hA : AtMostOne t P)
    (steps : List (Req × Val)) (ht : AffTrace P t steps) : AtMostOne (affRun t steps) P := by
  induction ht with
  | nil t => exact hA
  | cons t node d rest hc _ ih =>
    exact ih (inv_record1 t d h) (C02_affinity_step t h P node d hA hc)

/-- a domain `nextDomainTopologySpread` offers is one of its valid domains, and a least-loaded one; with the pod
    counted in it stays within `maxSkew` of the minimum the code computes; and outside the hostname shortcut it is
    registered -/
theorem spread_choice (t : TG) (self : Bool) (pod node : Req) (d : Val)
    (hd : d ∈ (t.spreadGet self pod node).choices) :
    d ∈ (t.spreadGet self pod node).valid ∧
    (∀ d' ∈ (t.spreadGet self pod node).valid, t.domains.cnt d ≤ t.domains.cnt d') ∧
    (t.domains.cnt d : Int) + selfInc self - t.minCount (t.sup pod) ≤ t.maxSkew ∧
    (t.isHost = false → (t.domains.cnt? d).isSome = true) := by
  revert hd
  fun_cases TG.spreadGet t self pod node with
  | case1 x _ hh hc =>
    intro hd
    rw [List.mem_singleton.1 hd]
    refine ⟨List.mem_singleton_self x, fun d' hd' => Nat.le_of_eq (by rw [List.mem_singleton.1 hd']), ?_,
      fun hf => by rw [hh] at hf; cases hf⟩
    simp only [TG.minCount, hh, if_true]
    omega
  | case2 => exact fun hd => nomatch hd
  | case3 =>
    intro hd
    have ⟨hv, hl⟩ := mem_least t _ _ d hd
    refine ⟨hv, hl, of_decide_eq_true (List.mem_filter.1 hv).2, fun _ => ?_⟩
    have hc := (List.mem_filter.1 hv).1
    unfold TG.spreadCand at hc
    split at hc
    · exact (List.mem_filter.1 hc).2
    · exact (mem_keys _ _).1 (List.mem_filter.1 hc).1

/-- what `nextDomainTopologySpread` returns is a valid domain: with the pod counted in, it stays within `maxSkew`
    of the floor (zero for hostname, else the kube-scheduler global minimum, which the code lowers to zero while
    fewer than `minDomains` domains are eligible) -/
theorem C02_spread_sound (t : TG) (self : Bool) (pod node : Req) (d : Val)
    (hd : d ∈ (t.spreadGet self pod node).choices) :
    d ∈ (t.spreadGet self pod node).valid ∧
    (t.domains.cnt d : Int) + selfInc self - floor t (t.sup pod) ≤ t.maxSkew := by
  have h := spread_choice t self pod node d hd
  have := minCount_le_floor t (t.sup pod)
  exact ⟨h.1, by omega⟩

/-- … and among the valid domains it is a least-loaded one -/
theorem C02_spread_least (t : TG) (self : Bool) (pod node : Req) (d d' : Val)
    (hd : d ∈ (t.spreadGet self pod node).choices) (hd' : d' ∈ (t.spreadGet self pod node).valid) :
    t.domains.cnt d ≤ t.domains.cnt d' :=
  (spread_choice t self pod node d hd).2.1 d' hd'

/-- the skew over the domains that count: every such domain is within `K` of the floor -/
def SkewOK (t : TG) (s : Val → Bool) (K : Int) : Prop :=
  ∀ d, s d = true → (t.domains.cnt d : Int) - floor t s ≤ K

theorem floor_mono_record1 (t : TG) (h : t.Inv) (s : Val → Bool) (d : Val)
    (hreg : t.isHost = false → (t.domains.cnt? d).isSome = true) :
    floor t s ≤ floor (t.record1 d) s := by
  show (if t.isHost then 0 else gmin t s) ≤ if t.isHost then 0 else gmin (t.record1 d) s
  cases hh : t.isHost
  · -- every registered domain that counts holds at least `gmin t s`, and recording only raises the count of `d`
    have low := (le_gmin_iff t h.keysNodup s (gmin t s)).1 (Int.le_refl _)
    refine (le_gmin_iff _ (inv_record1 t d h).keysNodup s _).2 ⟨low.1, fun x c hc hs => ?_⟩
    rw [TG.record1, cnt?_put] at hc
    split at hc
    next hx =>
      obtain ⟨c0, hc0⟩ := Option.isSome_iff_exists.1 (hreg hh)
      have := low.2 d c0 hc0 (hx ▸ hs)
      rw [cnt_of_cnt? _ _ _ hc0] at hc
      cases hc
      omega
    · exact low.2 x c hc hs
  · exact Int.le_refl 0

/-- one ask-then-record step of a pod that carries and matches the constraint keeps the skew bound -/
theorem C02_spread_step (t : TG) (h : t.Inv) (pod node : Req) (d : Val) (K : Int) (hK : t.maxSkew ≤ K)
    (hd : d ∈ (t.spreadGet true pod node).choices)
    (hok : SkewOK t (t.sup pod) K) : SkewOK (t.record1 d) ((t.record1 d).sup pod) K := by
  show SkewOK (t.record1 d) (t.sup pod) K
  have hsound : (t.domains.cnt d : Int) + 1 - floor t (t.sup pod) ≤ t.maxSkew :=
    (C02_spread_sound t true pod node d hd).2
  have hfl := floor_mono_record1 t h (t.sup pod) d (spread_choice t true pod node d hd).2.2.2
  intro x hx
  rw [cnt_record1]
  split
  · omega
  · have := hok x hx
    omega

/-- the fold of `affRun`, for spread traces -/
def placeRun (t : TG) (steps : List (Req × Val)) : TG := steps.foldl (fun t s => t.record1 s.2) t

inductive SpreadTrace (pod : Req) : TG → List (Req × Val) → Prop
  | nil (t : TG) : SpreadTrace pod t []
  | cons (t : TG) (node : Req) (d : Val) (rest : List (Req × Val))
      (hd : d ∈ (t.spreadGet true pod node).choices)
      (hrest : SpreadTrace pod (t.record1 d) rest) : SpreadTrace pod t ((node, d) :: rest)

/-- over any number of placements of pods that carry and match a DoNotSchedule constraint (same node
    requirements, any candidate nodes), the skew among the domains that count never passes
    `max (skew before the pass) maxSkew` -/
theorem C02_spread_never_exceeds (pod : Req) (t : TG) (h : t.Inv) (K : Int) (hK : t.maxSkew ≤ K)
    (hok : SkewOK t (t.sup pod) K) (steps : List (Req × Val)) (ht : SpreadTrace pod t steps) :
    SkewOK (placeRun t steps) ((placeRun t steps).sup pod) K := by
  induction ht with
  | nil t => exact hok
  | cons t node d rest hd _ ih =>
    exact ih (inv_record1 t d h) hK (C02_spread_step t h pod node d K hK hd hok)

/-! ## the executable rule used on the implementation (`Karp/Spec/TopoSpec.lean`) holds of every model answer -/

theorem C02_anti_spec (t : TG) (h : t.Inv) (pod node : Req) : antiOK t.domains (t.antiGet pod node) = true := by
  unfold antiOK
  rw [List.all_eq_true]
  intro d hd
  simp [C02_anti_sound t h pod node d hd]

theorem noCompat_all (t : TG) (h : t.Inv) (pod : Req) (hn : NoCompat t pod) :
    t.domains.all (fun p => !pod.has p.1 || p.2 == 0) = true := by
  rw [List.all_eq_true]
  intro p hp
  by_cases hh : pod.has p.1 = true
  · have := hn p.1 p.2 (cnt?_of_mem _ h.keysNodup _ _ hp) hh
    simp [this]
  · simp [hh]

theorem eraseDups_single (d : Val) : [d].eraseDups = [d] := by
  simp [List.eraseDups, List.eraseDupsBy, List.eraseDupsBy.loop]

theorem C02_affinity_spec_fixed (t : TG) (h : t.Inv) (self : Bool) (pod node : Req) (ds : List Val)
    (e : t.affGet self pod node = .fixed ds) : affinityOK t.domains self pod.has ds = true := by
  unfold affinityOK
  rw [List.all_eq_true]
  intro d hd
  have := C02_affinity_fixed t h self pod node ds e d hd
  rcases this with ⟨hp, hpos | ⟨hs, hn, hds⟩⟩
  · simp [hp, hpos]
  · simp [hp, hs, hds, noCompat_all t h pod hn, eraseDups_single]

theorem C02_affinity_spec_pick (t : TG) (h : t.Inv) (self : Bool) (pod node : Req) (cs : List Val)
    (e : t.affGet self pod node = .pick cs) (d : Val) (hd : d ∈ cs) :
    affinityOK t.domains self pod.has [d] = true := by
  have := C02_affinity_pick t h self pod node cs e
  unfold affinityOK
  simp [(this.2.2 d hd).1, this.1, noCompat_all t h pod this.2.1, eraseDups_single]

theorem globalMin_eq (t : TG) (s : Val → Bool) : globalMin t.domains t.isHost t.minDomains s = t.minCount s := by
  unfold globalMin TG.minCount
  cases t.isHost <;> cases t.minDomains <;> simp

theorem C02_spread_spec (t : TG) (self : Bool) (pod node : Req) (d : Val)
    (hd : d ∈ (t.spreadGet self pod node).choices) :
    spreadOK t.domains t.isHost t.maxSkew t.minDomains self (t.sup pod) [d] = true := by
  unfold spreadOK
  rw [globalMin_eq]
  have hmin := (spread_choice t self pod node d hd).2.2.1
  simp [hmin, eraseDups_single]

/-! ## non-vacuity -/

def zoneIn (vs : List Val) : Req := { key := "topology.kubernetes.io/zone", complement := false, values := vs }
def zoneAny : Req := { key := "topology.kubernetes.io/zone", complement := true, values := [] }
/-- three zones, two matching pods in `a`, one in `b` -/
def exT (k : Kind) : TG := (TG.new k false 1 none false ["a", "b", "c"]).run [.record ["a", "a", "b"]]

example : (exT .spread).spreadGet true zoneAny zoneAny = ⟨["c"], ["c"]⟩ := by decide
example : (exT .spread).spreadGet true (zoneIn ["a", "b"]) (zoneIn ["a", "b"]) = ⟨["b"], ["b"]⟩ := by decide
example : SpreadTrace zoneAny (exT .spread) [(zoneAny, "c")] :=
  .cons _ _ _ _ (by decide) (.nil _)
example : (exT .anti).antiGet zoneAny zoneAny = ["c"] := by rfl
example : AntiTrace (exT .anti) [⟨zoneAny, zoneAny, ["c"]⟩] :=
  .cons _ _ _ (by decide) (by decide) (.nil _)
example : ∃ ds, (exT .affinity).affGet false zoneAny (zoneIn ["b", "c"]) = .fixed ds ∧ ds = ["b"] := ⟨_, by decide, rfl⟩
example : ∃ cs, (TG.new .affinity false 1 none false ["a", "b"]).affGet true zoneAny (zoneIn ["b"]) = .pick cs ∧ cs = ["b"] :=
  ⟨_, by decide, rfl⟩
example : affChosen (TG.new .affinity false 1 none false ["a", "b"]) true zoneAny (zoneIn ["b"]) "b" :=
  Or.inr ⟨["b"], by decide, by decide⟩

end Karp.C02
