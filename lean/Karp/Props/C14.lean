/-
C14 — A NodeClaim launches one instance and its lifecycle moves forward.

Property theorems.  Model: `Karp/Model/Lifecycle.lean` (`Controller.Reconcile` of
`pkg/controllers/nodeclaim/lifecycle`: finalizer patch, launch with the UID-keyed cache, registration,
initialization, liveness, metadata patch, status patch; every API write / provider call an outcome
parameter; a lagging informer cache).  Spec: `Karp/Spec/LifecycleOrder.lean`.  Helper lemmas and the
invariant: `Karp/Proofs/Lifecycle{Lemmas,Inv,Steps,Refine}.lean`.

Every theorem below is over ALL NodeClaim specs, ALL histories (any interleaving of environment events and
reconciles, any length), ALL outcome vectors (`Faults`, `CreateOutcome`) and ALL cache lags (`lag`), for
one controller process (the launch cache is never cleared except by the code itself).
-/
import Karp.Proofs.LifecycleRefine

namespace Karp.C14
open Karp.Lifecycle Karp.Spec.LifecycleOrder

/-! ## Fact expectations over the facts generated from the Go source -/

/-- `Controller.Reconcile` runs launch, registration, initialization, liveness — in that order, over one object -/
theorem fact_sub_reconcilers :
    Karp.Gen.Lifecycle.subReconcilers = ["launch", "registration", "initialization", "liveness"] := rfl

/-- in `Controller.Reconcile`: deletion path first; `AddFinalizer` and its `Patch` precede the sub-reconcilers; the
    metadata `Patch` and the `Status().Patch` follow them; the read-your-writes sleep is last -/
theorem fact_reconcile_call_order :
    Karp.Gen.Lifecycle.reconcileCallOrder =
      ["finalize", "AddFinalizer", "Patch", "Reconcile", "Patch", "Patch", "Status", "Sleep"] := rfl

/-- in `Launch.Reconcile`: the cache is consulted before `launchNodeClaim` (the only caller of provider `Create`),
    the cache is filled before `Launched` is set true -/
theorem fact_launch_call_order :
    Karp.Gen.Lifecycle.launchCallOrder =
      ["cache.Delete", "cache.Get", "launchNodeClaim", "cache.SetDefault", "PopulateNodeClaimDetails", "SetTrue"] := rfl

/-- in `launchNodeClaim`: one `Create`; each capacity-error class is followed by a `Delete`; `Launched` is never
    set true there -/
theorem fact_launchNodeClaim_call_order :
    Karp.Gen.Lifecycle.launchNodeClaimCallOrder =
      ["Create", "IsInsufficientCapacityError", "Delete", "IsNodeClassNotReadyError", "Delete",
       "SetUnknownWithReason", "SetUnknownWithReason"] := rfl

/-- in `Registration.Reconcile`: node lookup, sync, node `Patch`, only then `Registered = True` -/
theorem fact_registration_call_order :
    Karp.Gen.Lifecycle.registrationCallOrder =
      ["NodeForNodeClaim", "SetFalse", "syncNode", "syncNode", "Patch", "SetTrue"] := rfl

/-- in `Initialization.Reconcile`: Registered, node lookup, Ready, startup taints, ephemeral taints, resources
    (and DRA pools), the label `Patch`, only then `Initialized = True` -/
theorem fact_initialization_call_order :
    Karp.Gen.Lifecycle.initializationCallOrder =
      ["IsTrue", "NodeForNodeClaim", "GetCondition", "StartupTaintsRemoved", "KnownEphemeralTaintsRemoved",
       "RequestedResourcesRegistered", "draDriverPoolsPublished", "Patch", "SetTrue"] := rfl

/-- the only guard on a Node condition in `Initialization.Reconcile` holds the NodeClaim back unless the `Ready`
    condition's status IS `True` (so `Unknown`, `False` and a missing condition — status "" — all block): the
    model's `Node.ready` -/
theorem fact_ready_gate : Karp.Gen.Lifecycle.initConditionGates = [("Ready", "!=", "True")] := rfl

/-- in `Registration.Reconcile` taints are told apart by `MatchTaint` (key and effect; the model's `Taint.matches`):
    once to look for the unregistered taint, once inside the `Reject` that removes it; no whole-struct comparison
    (which would also compare value and `timeAdded`) -/
theorem fact_registration_taint_identity :
    Karp.Gen.Lifecycle.registrationTaintCalls = ["MatchTaint", "Reject", "MatchTaint"] := rfl

/-- the model's unregistered taint is the documented one -/
theorem fact_unregistered_taint : Karp.Lifecycle.unregistered = unregisteredTaint := unregistered_eq

/-- the code's table of known ephemeral taints is the documented one (keys and effects) -/
theorem fact_ephemeral_taints :
    Karp.Gen.Lifecycle.knownEphemeralTaints = ephemeralTaints.map (fun e => (e.key, e.effect)) ∧
    Karp.Gen.Lifecycle.knownEphemeralTaintKeyPrefixes = ephemeralPrefixes := ⟨ephemeral_table, ephemeral_prefixes⟩

/-- hence the code's `IsKnownEphemeralTaint` is the specification's `isEphemeral`, for every taint -/
theorem fact_ephemeral_predicate (t : Taint) : isKnownEphemeral t = isEphemeral t := isKnownEphemeral_eq t

/-- the launch cache entry (refreshed by every reconcile that uses it) outlives the liveness deadlines after which
    a NodeClaim that is not Launched / Registered is deleted: the TTL of the cache, which the model does not
    represent, cannot expire on a NodeClaim that is still being reconciled -/
theorem fact_cache_outlives_liveness :
    Karp.Gen.Lifecycle.launchTimeoutSecs ≤ Karp.Gen.Lifecycle.registrationTimeoutSecs ∧
    Karp.Gen.Lifecycle.registrationTimeoutSecs < Karp.Gen.Lifecycle.launchCacheTTLSecs := by decide

theorem fact_names :
    Karp.Gen.Lifecycle.terminationFinalizer = "karpenter.sh/termination" ∧
    Karp.Gen.Lifecycle.nodeRegisteredLabelKey = "karpenter.sh/registered" ∧
    Karp.Gen.Lifecycle.nodeInitializedLabelKey = "karpenter.sh/initialized" ∧
    Karp.Gen.Lifecycle.condLaunched = "Launched" ∧ Karp.Gen.Lifecycle.condRegistered = "Registered" ∧
    Karp.Gen.Lifecycle.condInitialized = "Initialized" ∧
    Karp.Gen.Lifecycle.unregisteredTaintKey = unregisteredTaint.key := ⟨rfl, rfl, rfl, rfl, rfl, rfl, rfl⟩

/-! ## The invariant holds along every history -/

theorem inv_history (sp : Spec) (fin : Bool) (steps : List Step) : Inv (run sp (World.init fin) steps) :=
  inv_run sp steps (inv_init fin)

/-! ## At most one successful provider `Create` -/

/-- **C14_create_once** — after any history (status writes failing anywhere, any cache lag, any provider
    outcomes) the provider has created at most one instance for the NodeClaim. -/
theorem C14_create_once (sp : Spec) (fin : Bool) (steps : List Step) :
    (run sp (World.init fin) steps).instances ≤ 1 :=
  (inv_history sp fin steps).once

/-- the instance counter is exactly the number of successful `Create` calls in the call log, and one reconcile
    asks the provider at most once (no invariant needed) -/
theorem C14_create_calls (sp : Spec) (w : World) (s : Step) :
    (creates (step sp w s).2.calls).length ≤ 1 ∧
    (step sp w s).1.instances = w.instances + Karp.Lifecycle.okCreates (step sp w s).2.calls :=
  step_creates sp w s

/-- successful `Create` calls over a whole history -/
def totalOkCreates (sp : Spec) : World → List Step → Nat
  | _, [] => 0
  | w, s :: ss => Karp.Lifecycle.okCreates (step sp w s).2.calls + totalOkCreates sp (step sp w s).1 ss

theorem instances_run (sp : Spec) (steps : List Step) : ∀ w : World,
    (run sp w steps).instances = w.instances + totalOkCreates sp w steps := by
  induction steps with
  | nil => intro w; simp [run, totalOkCreates]
  | cons s ss ih =>
    intro w
    simp only [run, totalOkCreates]
    rw [ih, (C14_create_calls sp w s).2]; omega

/-- **C14_create_once_calls** — the same, stated on the call log alone: over any history the controller receives
    at most one successful answer from provider `Create`. -/
theorem C14_create_once_calls (sp : Spec) (fin : Bool) (steps : List Step) :
    totalOkCreates sp (World.init fin) steps ≤ 1 := by
  have h := C14_create_once sp fin steps
  rw [instances_run] at h
  simp [World.init] at h
  exact h

/-! ## Never before the finalizer -/

/-- **C14_finalizer_first** — whenever a reconcile calls provider `Create` (whatever the answer), the API server's
    copy of the NodeClaim carries the termination finalizer: the copy the reconcile was handed already had it, or
    the reconcile's first call was the finalizer patch and it succeeded. -/
theorem C14_finalizer_first (sp : Spec) (fin : Bool) (steps : List Step) (s : Step) :
    let w := run sp (World.init fin) steps
    ∀ c ∈ (step sp w s).2.calls, c.site = .create →
      (step sp w s).1.claim.finalizer = true ∧ (step sp w s).1.finEver = true ∧
      ((step sp w s).2.view.finalizer = true ∨ (step sp w s).2.calls.head? = some ⟨.finPatch, .ok⟩) := by
  intro w c hc hsite
  rcases step_quiet_or_live sp w s with q | ⟨lag, co, f, fo, rfl, _, _, he⟩
  · rw [q.calls] at hc; cases hc
  · rw [he] at hc ⊢
    exact reconcileLive_finalizer sp f co (inv_history sp fin steps) (pickView w lag) (pickView_version w lag) c hc hsite

/-! ## Launched, Registered, Initialized: order and observable preconditions -/

/-- **C14_order** — in every copy of the NodeClaim that exists on the API server or in a lagging cache, at any
    point of any history: Initialized ⇒ Registered ⇒ Launched ⇒ the provider id is recorded and an instance was
    created. -/
theorem C14_order (sp : Spec) (fin : Bool) (steps : List Step) :
    ∀ v ∈ (run sp (World.init fin) steps).versions,
      (v.conds.i.status = .true_ → v.conds.r.status = .true_) ∧
      (v.conds.r.status = .true_ → v.conds.l.status = .true_) ∧
      (v.conds.l.status = .true_ → v.providerID = true ∧ 1 ≤ (run sp (World.init fin) steps).instances) := by
  intro v hv
  have h := inv_history sp fin steps
  have hk := h.vok v hv
  exact ⟨hk.ir, hk.rl, fun hl => ⟨hk.lp hl, h.linst v hv hl⟩⟩

/-- in the specification's own words: the persisted status is `ordered` after every history -/
theorem C14_order_spec (sp : Spec) (fin : Bool) (steps : List Step) :
    let w := run sp (World.init fin) steps
    ordered { prev := w.claim, created := w.instances, finEver := w.finEver } { claim := w.claim } = true := by
  intro w
  have h := C14_order sp fin steps w.claim (claim_mem_versions _)
  exact ordered_intro h.1 h.2.1 fun hl => ⟨(h.2.2 hl).1, Nat.le_trans (h.2.2 hl).2 (Nat.le_add_right _ _)⟩

/-- **C14_registered_pre** — along any history, whenever Registered becomes true on the API server it is a
    reconcile that wrote it, and then exactly one Node carries the instance's provider id, it has the registered
    label and no unregistered taint, and it is synced (termination finalizer, owner reference, the NodeClaim's and
    the provider's labels, the NodeClaim's taints and startup taints unless `do-not-sync-taints`) — or the
    reconcile was handed a stale copy that already said Registered (cache lag re-asserting an old status).
    Hypothesis: the NodeClaim does not itself list the unregistered taint among its taints. -/
theorem C14_registered_pre (sp : Spec) (fin : Bool) (steps : List Step) (s : Step)
    (h1 : cleanTaints sp.taints) (h2 : cleanTaints sp.startup) :
    let w := run sp (World.init fin) steps
    (step sp w s).1.claim.conds.r.status = .true_ → w.claim.conds.r.status ≠ .true_ →
      (step sp w s).2.isRec = true ∧
      ((step sp w s).2.view.conds.r.status = .true_ ∨ registeredPre sp (step sp w s).1.nodes = true) :=
  (step_flips sp (inv_history sp fin steps) s h1 h2).1

/-- **C14_initialized_pre** — likewise for Initialized: exactly one Node, Ready, none of the NodeClaim's startup
    taints, no known ephemeral taint, the requested extended resource reported. -/
theorem C14_initialized_pre (sp : Spec) (fin : Bool) (steps : List Step) (s : Step)
    (h1 : cleanTaints sp.taints) (h2 : cleanTaints sp.startup) :
    let w := run sp (World.init fin) steps
    (step sp w s).1.claim.conds.i.status = .true_ → w.claim.conds.i.status ≠ .true_ →
      (step sp w s).2.isRec = true ∧
      ((step sp w s).2.view.conds.i.status = .true_ ∨ initializedPre sp (step sp w s).1.nodes = true) :=
  (step_flips sp (inv_history sp fin steps) s h1 h2).2

/-- with an up-to-date copy the stale-copy alternative is impossible: the preconditions hold outright -/
theorem C14_pre_fresh (sp : Spec) (fin : Bool) (steps : List Step) (s : Step)
    (h1 : cleanTaints sp.taints) (h2 : cleanTaints sp.startup) :
    let w := run sp (World.init fin) steps
    (step sp w s).2.view = w.claim →
    ((step sp w s).1.claim.conds.r.status = .true_ → w.claim.conds.r.status ≠ .true_ →
      registeredPre sp (step sp w s).1.nodes = true) ∧
    ((step sp w s).1.claim.conds.i.status = .true_ → w.claim.conds.i.status ≠ .true_ →
      initializedPre sp (step sp w s).1.nodes = true) := by
  intro w hfresh
  have hF := step_flips sp (inv_history sp fin steps) s h1 h2
  rw [hfresh] at hF
  exact ⟨fun a b => (hF.1 a b).2.resolve_left b, fun a b => (hF.2 a b).2.resolve_left b⟩

/-- **C14_registered_taint_gone** — the unregistered taint is identified by key and effect: whatever value
    (`--register-with-taints=karpenter.sh/unregistered=true:NoExecute`) or `timeAdded` stamp it carried when the Node
    joined, when Registered becomes true (reconcile on the current copy) exactly one Node carries the provider id, it
    has the registered label, and NO taint with that key and effect is left on it. -/
theorem C14_registered_taint_gone (sp : Spec) (fin : Bool) (steps : List Step) (s : Step)
    (h1 : cleanTaints sp.taints) (h2 : cleanTaints sp.startup) :
    let w := run sp (World.init fin) steps
    (step sp w s).2.view = w.claim →
    (step sp w s).1.claim.conds.r.status = .true_ → w.claim.conds.r.status ≠ .true_ →
      ∃ n, (step sp w s).1.nodes = [n] ∧ n.regLabel = true ∧
        ∀ t ∈ n.taints, ¬(t.key = "karpenter.sh/unregistered" ∧ t.effect = "NoExecute") := by
  intro w hfresh a b
  exact registeredPre_elim ((C14_pre_fresh sp fin steps s h1 h2 hfresh).1 a b)

/-- **C14_initialized_ready_true** — Ready is tri-state and may be missing: when Initialized becomes true (reconcile on
    the current copy) the single Node's Ready condition is there and says `True` — not `Unknown`, not `False`, not
    "never posted" —, no taint on it has the key and effect of one of the NodeClaim's startup taints (whatever its
    value / stamp), no taint on it is a known ephemeral one, and a requested extended resource is reported. -/
theorem C14_initialized_ready_true (sp : Spec) (fin : Bool) (steps : List Step) (s : Step)
    (h1 : cleanTaints sp.taints) (h2 : cleanTaints sp.startup) :
    let w := run sp (World.init fin) steps
    (step sp w s).2.view = w.claim →
    (step sp w s).1.claim.conds.i.status = .true_ → w.claim.conds.i.status ≠ .true_ →
      ∃ n, (step sp w s).1.nodes = [n] ∧ n.readyCond = .true_ ∧
        (∀ st ∈ sp.startup, ∀ t ∈ n.taints, ¬(t.key = st.key ∧ t.effect = st.effect)) ∧
        (∀ t ∈ n.taints, isEphemeral t = false) ∧ (sp.wantsRes = true → n.resOK = true) := by
  intro w hfresh a b
  exact initializedPre_elim ((C14_pre_fresh sp fin steps s h1 h2 hfresh).2 a b)

/-- **C14_gate_unregistered** — the write registration makes: no taint that `MatchTaint`es the unregistered taint
    survives `registerNode`, for every Node (any value, any `timeAdded` on its taints). -/
theorem C14_gate_unregistered (sp : Spec) (m : Claim) (n : Node) :
    ∀ t ∈ (registerNode sp m n).taints, t.matches Karp.Lifecycle.unregistered = false :=
  registerNode_unregistered_gone sp m n

/-- **C14_gate_ready** — the Ready gate of initialization: with a Ready condition that is anything but `True`
    (`Unknown`, `False`, absent) initialization writes nothing, labels nothing, and leaves Initialized Unknown with
    reason `NodeNotReady` — whatever else the Node looks like. -/
theorem C14_gate_ready (sp : Spec) (f : Faults) (c : Ctx) (n : Node)
    (hi : c.mem.conds.i.status = .unknown) (hr : c.mem.conds.r.status = .true_) (hp : c.mem.providerID = true)
    (hl : f.nodeList = false) (hn : c.w.nodes = [n]) (hrc : n.readyCond ≠ .true_) :
    (initialization sp f c).calls = c.calls ∧ (initialization sp f c).w = c.w ∧
    (initialization sp f c).mem.conds.i.status = .unknown ∧
    (initialization sp f c).mem.conds.i.reason = .nodeNotReady :=
  initialization_not_ready sp f c n hi hr hp hl hn hrc

/-- `MatchTaint` (the model's, and the specification's "same taint") does not see value or `timeAdded` -/
theorem C14_taint_identity (a b : Taint) (v v' s s' : String) :
    ({ a with value := v, stamp := s } : Taint).matches { b with value := v', stamp := s' } = a.matches b ∧
    a.matches b = sameTaint a b := ⟨rfl, rfl⟩

/-! ## The lifecycle moves forward -/

/-- **C14_forward** — along any history: a NodeClaim that is terminating or gone stays so, and a step that is
    not a reconcile on a stale copy (an environment event, or a reconcile handed the API server's current copy)
    never makes a true condition untrue. -/
theorem C14_forward (sp : Spec) (fin : Bool) (steps : List Step) (s : Step) :
    let w := run sp (World.init fin) steps
    Later w.claim (step sp w s).1.claim ∧
    (((step sp w s).2.isRec = false ∨ (step sp w s).2.view = w.claim) →
      (w.claim.conds.l.status = .true_ → (step sp w s).1.claim.conds.l.status = .true_) ∧
      (w.claim.conds.r.status = .true_ → (step sp w s).1.claim.conds.r.status = .true_) ∧
      (w.claim.conds.i.status = .true_ → (step sp w s).1.claim.conds.i.status = .true_)) := by
  exact ⟨step_later sp _ s, step_forward sp (inv_history sp fin steps) s⟩

/-- `Launched` is never undone, lag or not: an older copy that says Launched implies every newer one does -/
theorem C14_launched_monotone (sp : Spec) (fin : Bool) (steps : List Step) :
    LSorted (run sp (World.init fin) steps).versions :=
  (inv_history sp fin steps).sorted

/-! ## Capacity errors delete the NodeClaim -/

/-- **C14_capacity_error** — along any history, when a reconcile reaches provider `Create` and the answer is
    `InsufficientCapacity` or `NodeClassNotReady`: the very next call is a `Delete` of the NodeClaim; no instance
    is counted; `Launched` does not become true; if the delete succeeds the NodeClaim is terminating or gone
    afterwards; if it fails (other than NotFound) the reconcile returns an error — so that it runs again — unless an
    API write of the same reconcile answered NotFound (the object no longer exists). -/
theorem C14_capacity_error (sp : Spec) (fin : Bool) (steps : List Step)
    (lag : Nat) (co : CreateOutcome) (f : Faults) (fo : FinalizeOut) (hco : co = .ice ∨ co = .ncnr) :
    let w := run sp (World.init fin) steps
    let p := step sp w (.reconcile lag co f fo)
    (⟨.create, co.toOutcome⟩ : Call) ∈ p.2.calls →
      capacityCalls p.2.calls = true ∧
      p.1.instances = w.instances ∧
      (p.1.claim.conds.l.status = .true_ → w.claim.conds.l.status = .true_) ∧
      ∃ d, (⟨.claimDelete, d⟩ : Call) ∈ p.2.calls ∧
        (d = .ok → p.1.claim.gone) ∧
        (d ≠ .ok → d ≠ .notFound → p.2.result = .err ∨ ∃ x ∈ p.2.calls, x.out = .notFound) := by
  intro w p hreach
  rcases step_quiet_or_live sp w (.reconcile lag co f fo) with q | ⟨_, _, _, _, hs, _, _, he⟩
  · exact absurd (q.calls ▸ hreach) (List.not_mem_nil)
  · cases hs
    simp only [p, he] at hreach ⊢
    obtain ⟨hc, hi, hl, pre, d, post, hlog, _, _, hd⟩ := reconcileLive_capacity_log sp f co hco w (pickView w lag) hreach
    exact ⟨hc, hi, hl, d, by rw [hlog]; simp, hd⟩

/-- **C14_terminating_never_launched** — a reconcile that is handed a terminating (or already removed) copy makes
    no provider call at all and creates nothing: once the delete after a capacity error (or any other delete) is
    visible to the controller, it never launches that NodeClaim.  (The deletion path `finalize` is C09's subject;
    that it contains no `Create` is checked against the real code on every deletion-path reconcile of the sweep.) -/
theorem C14_terminating_never_launched (sp : Spec) (w : World) (lag : Nat) (co : CreateOutcome) (f : Faults)
    (fo : FinalizeOut) (hv : (pickView w lag).deleting = true ∨ (pickView w lag).present = false) :
    (step sp w (.reconcile lag co f fo)).2.calls = [] ∧
    (step sp w (.reconcile lag co f fo)).1.instances = w.instances ∧
    (step sp w (.reconcile lag co f fo)).1.claim.conds = w.claim.conds := by
  rcases step_quiet_or_live sp w (.reconcile lag co f fo) with q | ⟨_, _, _, _, hs, hp, hd, _⟩
  · exact ⟨q.calls, q.inst, q.conds⟩
  · cases hs
    rcases hv with hv | hv
    · exact Bool.noConfusion (hd.symm.trans hv)
    · exact Bool.noConfusion (hv.symm.trans hp)

/-! ## Deadlines: an overdue NodeClaim is deleted, whatever became of its NodePool -/

/-- the specification's deadlines are the code's -/
theorem fact_deadlines :
    Karp.Gen.Lifecycle.launchTimeoutSecs = launchDeadlineSecs ∧
    Karp.Gen.Lifecycle.registrationTimeoutSecs = registrationDeadlineSecs := ⟨rfl, rfl⟩

/-- in `Liveness.Reconcile`, for each of the two deadlines: the NodePool bookkeeping, its error filtered through
    `IgnoreNotFound` (a NodePool that is gone does not count) and `IsConflict`, then the delete (whose NotFound is
    ignored as well) -/
theorem fact_liveness_call_order :
    Karp.Gen.Lifecycle.livenessCallOrder =
      ["updateNodePoolRegistrationHealth", "IgnoreNotFound", "IsConflict", "deleteNodeClaimForTimeout", "IgnoreNotFound",
       "updateNodePoolRegistrationHealth", "IgnoreNotFound", "IsConflict", "deleteNodeClaimForTimeout", "IgnoreNotFound"] := rfl

/-- `updateNodePoolRegistrationHealth` (liveness and registration) hands the error of the NodePool read to its caller as
    it is: no `fmt.Errorf` / `errors.New` / `multierr` on the way that could hide its NotFound status -/
theorem fact_pool_error_passed_on :
    Karp.Gen.Lifecycle.livenessPoolHealthErrorCalls = [] ∧ Karp.Gen.Lifecycle.registrationPoolHealthErrorCalls = [] := ⟨rfl, rfl⟩

/-- `syncNode` opts a Node out of taint syncing only for the exact label value `"true"` -/
theorem fact_do_not_sync_gate :
    Karp.Gen.Lifecycle.doNotSyncComparisons = [("NodeDoNotSyncTaintsLabelKey", "!=", "true")] := rfl

/-- a NodePool that is gone (the read answers NotFound) lets the timeout proceed, exactly as a NodePool that is there
    or a NodeClaim that names none; only a conflict / another error holds it back -/
theorem C14_pool_verdicts :
    PoolGet.unlabelled.verdict = .proceed ∧ PoolGet.ok.verdict = .proceed ∧ (PoolGet.err .notFound).verdict = .proceed ∧
    (PoolGet.err .conflict).verdict = .requeue ∧ (PoolGet.err .other).verdict = .fail := ⟨rfl, rfl, rfl, rfl, rfl⟩

/-- past a deadline, as `Liveness.Reconcile` sees the in-memory NodeClaim -/
def Overdue (c : Ctx) : Prop :=
  c.mem.conds.r.status ≠ .true_ ∧
  ((c.mem.conds.l.status ≠ .true_ ∧ Karp.Gen.Lifecycle.launchTimeoutSecs ≤ c.w.now - c.mem.conds.l.ltt) ∨
   (c.mem.conds.l.status = .true_ ∧ Karp.Gen.Lifecycle.registrationTimeoutSecs ≤ c.w.now - c.mem.conds.r.ltt))

theorem liveness_overdue (f : Faults) (c : Ctx) (h : Overdue c) : liveness f c = timeoutDelete f c := by
  obtain ⟨hr, ⟨hl, hd⟩ | ⟨hl, hd⟩⟩ := h
  · have hn : ¬ (c.w.now - c.mem.conds.l.ltt < Karp.Gen.Lifecycle.launchTimeoutSecs) := by omega
    unfold liveness livenessLaunch
    simp [hr, hl, hn]
  · have hn : ¬ (c.w.now - c.mem.conds.r.ltt < Karp.Gen.Lifecycle.registrationTimeoutSecs) := by omega
    unfold liveness livenessLaunch
    simp [hr, hl, hn]

/-- **C14_timeout_deletes** — for ALL in-flight states of a reconcile and ALL outcome vectors: when liveness finds the
    NodeClaim past its launch or registration deadline and the NodePool read did not fail (no NodePool named, NodePool
    there, or NodePool GONE), the next API write is the delete of the NodeClaim — nothing is written in between — and
    if the API server accepts it the NodeClaim is terminating or gone. -/
theorem C14_timeout_deletes (f : Faults) (c : Ctx) (h : Overdue c) (hp : f.poolGet.verdict = .proceed) :
    (liveness f c).calls = c.calls ++ poolCalls f ++ [⟨.claimDelete, claimDeleteOutcome f c.w⟩] ∧
    (claimDeleteOutcome f c.w = .ok → (liveness f c).w.claim = c.w.claim.deleted) ∧
    (claimDeleteOutcome f c.w ≠ .ok → claimDeleteOutcome f c.w ≠ .notFound → (liveness f c).errs = true) := by
  rw [liveness_overdue f c h, timeoutDelete_eq, if_pos hp]
  exact ⟨rfl, fun hok => if_pos hok, fun h1 h2 => if_neg (not_or.mpr ⟨h1, h2⟩)⟩

/-- in particular for an orphaned NodeClaim (its NodePool was deleted): the delete is in the call log -/
theorem C14_timeout_deletes_orphan (f : Faults) (c : Ctx) (h : Overdue c) (hp : f.poolGet = .err .notFound) :
    (⟨.claimDelete, claimDeleteOutcome f c.w⟩ : Call) ∈ (liveness f c).calls := by
  rw [(C14_timeout_deletes f c h (by rw [hp]; rfl)).1]
  simp

/-- **C14_timeout_held_back** — the only thing that puts the delete off is a NodePool read that failed with something
    other than NotFound: then nothing is deleted or changed, and the reconcile comes back (an error, or a requeue). -/
theorem C14_timeout_held_back (f : Faults) (c : Ctx) (h : Overdue c) (hp : f.poolGet.verdict ≠ .proceed) :
    (liveness f c).w = c.w ∧ (liveness f c).calls = c.calls ++ poolCalls f ∧
    ((liveness f c).errs = true ∨ (liveness f c).results = c.results ++ [0]) := by
  rw [liveness_overdue f c h, timeoutDelete_eq, if_neg hp, poolHealth_eq]
  refine ⟨rfl, rfl, ?_⟩
  cases hv : f.poolGet.verdict
  · exact absurd hv hp
  · exact .inr rfl
  · exact .inl (by simp)

/-! ## The model meets the executable specification -/

/-- **C14_model_meets_spec** — the specification `historyOK` of `Karp/Spec/LifecycleOrder.lean` — the same Boolean
    function the harness evaluates on what the REAL controller did (create-once, finalizer-first, order, observable
    preconditions, forward, capacity errors delete, no launch when terminating) — holds of what the harness would
    record of the model, for every NodeClaim spec (not listing the unregistered taint itself), every history, every
    outcome vector and every cache lag. -/
theorem C14_model_meets_spec (sp : Spec) (fin : Bool) (steps : List Step)
    (h1 : cleanTaints sp.taints) (h2 : cleanTaints sp.startup) :
    historyOK sp { prev := (World.init fin).claim, finEver := fin } (modelHistory sp (World.init fin) steps) = true :=
  historyOK_model sp h1 h2 steps (inv_init fin)

/-! ## `truncateMessage`: the provider's error text on its way into an event / the `LaunchFailed` message

The capacity-error path publishes an event built from the provider's text BEFORE it deletes the NodeClaim, and the
generic path puts the text into the `LaunchFailed` message: the function in between must answer for EVERY text
(in Lean: it is a total function), measuring and cutting in the same unit (bytes). -/

theorem fact_truncate_bytes :
    Karp.Gen.Lifecycle.truncateGuards = [("msg", "<", Karp.Gen.Lifecycle.truncateLimit)] ∧
    Karp.Gen.Lifecycle.truncateSlices = [("msg", 0, Karp.Gen.Lifecycle.truncateLimit)] := ⟨rfl, rfl⟩

theorem C14_truncate_len (ws : List Nat) : truncateMessageBytes ws = truncatedLen (textBytes ws) := by
  unfold truncateMessageBytes truncateMessage truncatedLen
  split
  · simp
  · rename_i h
    have := cutBytes_exact ws Karp.Gen.Lifecycle.truncateLimit (by omega)
    simp only [] at this ⊢
    simp
    omega

theorem C14_truncate_bound (ws : List Nat) : truncateMessageBytes ws ≤ Karp.Gen.Lifecycle.truncateLimit + 3 := by
  rw [C14_truncate_len]; unfold truncatedLen; split <;> omega

theorem C14_truncate_short (ws : List Nat) (h : textBytes ws < Karp.Gen.Lifecycle.truncateLimit) :
    truncateMessage ws = (ws, 0, false) := by
  unfold truncateMessage; simp [h]

theorem C14_truncate_prefix (ws : List Nat) : (truncateMessage ws).1 <+: ws := by
  unfold truncateMessage
  split
  · simp
  · exact cutBytes_prefix ws _

example : truncateMessage (List.replicate 120 3) = (List.replicate 100 3, 0, true) := by decide
example : truncatedLen 360 = 303 ∧ truncatedLen 300 = 303 ∧ truncatedLen 299 = 299 := by decide
/-- a cut inside a character: two whole characters kept, one byte of the third left dangling -/
example : cutBytes 7 [3, 3, 3] = ([3, 3], 1) := by decide

/-! ## Non-vacuity: concrete histories that exercise the hypotheses and every clause -/

section examples

/-- a NodeClaim with one startup taint, one taint, an extended resource request -/
def spec1 : Spec := { startup := [{ key := "example.com/startup", effect := "NoSchedule" }], taints := [{ key := "example.com/dedicated", effect := "NoSchedule" }], wantsRes := true }

def node1 : Node := { taints := [unregistered, { key := "node.kubernetes.io/not-ready", effect := "NoSchedule" }] }

def recon (lag : Nat := 0) (co : CreateOutcome := .ok) (f : Faults := {}) : Step := .reconcile lag co f {}

/-- launch with a failing status patch, retry on a lagging copy (cache hit), the node appears, becomes ready
    piece by piece -/
def happy : List Step := [
  recon 0 .ok { statusPatch := some .other },   -- instance created, status write fails
  recon 3,                                      -- retry on a lagging copy: the cache bridges
  .env (.nodeAppear node1), recon,
  .env (.setReady .true_), recon,
  .env (.rmTaint { key := "node.kubernetes.io/not-ready", effect := "NoSchedule" }), recon,
  .env (.rmTaint { key := "example.com/startup", effect := "NoSchedule" }), recon,
  .env (.setRes true), recon]

/-- what the examples below say of `happy` -/
theorem happy_end : ((run spec1 (World.init false) happy).instances = 1 ∧
    (run spec1 (World.init false) happy).claim.conds.i.status = .true_ ∧
    (run spec1 (World.init false) happy).cache = false ∧
    initializedPre spec1 (run spec1 (World.init false) happy).nodes = true ∧
    totalOkCreates spec1 (World.init false) happy = 1) ∧
    ((run spec1 (World.init false) (happy.take 3)).claim.conds.r.status = .unknown ∧
    (run spec1 (World.init false) (happy.take 4)).claim.conds.r.status = .true_ ∧
    registeredPre spec1 (run spec1 (World.init false) (happy.take 4)).nodes = true ∧
    registeredPre spec1 (run spec1 (World.init false) happy).nodes = false) ∧
    ((modelHistory spec1 (World.init false) happy).length = 12 ∧
    ((modelHistory spec1 (World.init false) happy).map (fun o => o.creates.length)).sum = 1 ∧
    historyOK spec1 { prev := (World.init false).claim, finEver := false } (modelHistory spec1 (World.init false) happy) = true) := by
  decide +kernel

example : (run spec1 (World.init false) happy).instances = 1 := happy_end.1.1
example : totalOkCreates spec1 (World.init false) happy = 1 := happy_end.1.2.2.2.2
example : (run spec1 (World.init false) happy).claim.conds.i.status = .true_ := happy_end.1.2.1
example : (run spec1 (World.init false) happy).cache = false := happy_end.1.2.2.1
example : initializedPre spec1 (run spec1 (World.init false) happy).nodes = true := happy_end.1.2.2.2.1
/-- Registered becomes true in the fourth step, under its precondition (which later stops holding: the startup
    taint is removed on purpose) -/
example : (run spec1 (World.init false) (happy.take 3)).claim.conds.r.status = .unknown ∧
    (run spec1 (World.init false) (happy.take 4)).claim.conds.r.status = .true_ ∧
    registeredPre spec1 (run spec1 (World.init false) (happy.take 4)).nodes = true ∧
    registeredPre spec1 (run spec1 (World.init false) happy).nodes = false := happy_end.2.1
example : Karp.Lifecycle.unregistered ∉ spec1.taints ∧ Karp.Lifecycle.unregistered ∉ spec1.startup := by decide

/-- the recorded history of the model is not empty talk: the judge sees the Create, the delete, the flips -/
example : (modelHistory spec1 (World.init false) happy).length = 12 ∧
    ((modelHistory spec1 (World.init false) happy).map (fun o => o.creates.length)).sum = 1 ∧
    historyOK spec1 { prev := (World.init false).claim, finEver := false } (modelHistory spec1 (World.init false) happy) = true :=
  happy_end.2.2

/-- ... and the judge does reject: the same history with a second instance forged into the record -/
example : historyOK spec1 { prev := (World.init false).claim, finEver := false }
    ((modelHistory spec1 (World.init false) happy).map (fun o => { o with creates := [⟨true, true, true⟩] })) = false := by
  decide

/-- the first reconcile calls Create right after its own successful finalizer patch -/
example : (step spec1 (World.init false) (recon)).2.calls.head? = some ⟨.finPatch, .ok⟩ ∧
    (⟨.create, .ok⟩ : Call) ∈ (step spec1 (World.init false) (recon)).2.calls := by decide

/-- a capacity error: Create, Delete, terminating, and the next reconcile makes no call -/
example : (step spec1 (World.init false) (recon 0 .ice)).2.calls =
    [⟨.finPatch, .ok⟩, ⟨.create, .ice⟩, ⟨.claimDelete, .ok⟩, ⟨.metaPatch, .ok⟩, ⟨.statusPatch, .ok⟩] ∧
    (step spec1 (World.init false) (recon 0 .ice)).1.claim.deleting = true ∧
    (step spec1 (step spec1 (World.init false) (recon 0 .ice)).1 recon).2.calls = [] := by decide

/-- the failed finalizer patch stops the reconcile before Create -/
example : (step spec1 (World.init false) (recon 0 .ok { finPatch := some .conflict })).2.calls = [⟨.finPatch, .conflict⟩] ∧
    (step spec1 (World.init false) (recon 0 .ok { finPatch := some .conflict })).2.result = .requeue := by decide

/-- why `C14_forward` asks for an up-to-date copy: with a lagging cache the merge patch of a stale reconcile can
    take Registered back from True to False (a second Node with the same provider id has appeared meanwhile; a
    reconcile on the current copy would not even look).  `Launched` is immune
    (`C14_launched_monotone`), and so is the instance count. -/
def regress : List Step := [
  recon, .env (.nodeAppear node1), recon,             -- Launched, Registered
  .env (.nodeAppear node1),                           -- a second Node with the same provider id shows up
  recon 3]                                            -- handed the copy from before registration: "MultipleNodesFound"

example : (run spec1 (World.init false) (regress.take 3)).claim.conds.r.status = .true_ ∧
    (run spec1 (World.init false) regress).claim.conds.r.status = .false_ ∧
    (run spec1 (World.init false) regress).claim.conds.l.status = .true_ ∧
    (run spec1 (World.init false) regress).instances = 1 := by decide

/-- payload on taints, a Ready condition that is not there yet, then `Unknown`: the Node joins with
    `karpenter.sh/unregistered=true:NoExecute` stamped with a `timeAdded`, and a startup taint whose value differs
    from the NodeClaim's -/
def node2 : Node := { taints := [{ key := "karpenter.sh/unregistered", effect := "NoExecute", value := "true", stamp := "2" },
                                  { key := "example.com/startup", effect := "NoSchedule", value := "pending" }],
                      readyCond := .absent, resOK := true }

def payload : List Step := [
  recon, .env (.nodeAppear node2), recon,                 -- Launched; Registered: the taint goes, value and stamp notwithstanding
  .env (.rmTaint { key := "example.com/startup", effect := "NoSchedule" }), recon,   -- every other gate is open, Ready was never posted
  .env (.setReady .unknown), recon,                       -- ... nor does Unknown count
  .env (.setReady .true_), recon]

/-- what the examples below say of `payload` -/
theorem payload_end : ((run spec1 (World.init false) (payload.take 3)).claim.conds.r.status = .true_ ∧
    (run spec1 (World.init false) (payload.take 3)).nodes.map (·.taints.map (·.key)) =
      [["example.com/startup", "example.com/dedicated"]] ∧
    registeredPre spec1 (run spec1 (World.init false) (payload.take 3)).nodes = true) ∧
    ((run spec1 (World.init false) (payload.take 3)).claim.conds.i.reason = .nodeNotReady ∧
    ((run spec1 (World.init false) (payload.take 3)).nodes.map (·.taints.map (·.value))) = [["pending", ""]]) ∧
    ((run spec1 (World.init false) (payload.take 5)).claim.conds.i.status = .unknown ∧
    (run spec1 (World.init false) (payload.take 5)).claim.conds.i.reason = .nodeNotReady ∧
    (run spec1 (World.init false) (payload.take 7)).claim.conds.i.status = .unknown ∧
    (run spec1 (World.init false) (payload.take 7)).nodes.map (·.initLabel) = [false] ∧
    (run spec1 (World.init false) payload).claim.conds.i.status = .true_ ∧
    initializedPre spec1 (run spec1 (World.init false) payload).nodes = true) ∧
    historyOK spec1 { prev := (World.init false).claim, finEver := false } (modelHistory spec1 (World.init false) payload) = true ∧
    historyOK spec1 { prev := (World.init false).claim, finEver := false }
    ((modelHistory spec1 (World.init false) (payload.take 3)).map (fun o => { o with nodes := o.nodes.map (fun n =>
      { n with taints := n.taints ++ [{ key := "karpenter.sh/unregistered", effect := "NoExecute", value := "true" }] }) })) = false ∧
    historyOK spec1 { prev := (World.init false).claim, finEver := false }
    ((modelHistory spec1 (World.init false) payload).map (fun o => { o with nodes := o.nodes.map (fun n =>
      { n with readyCond := .unknown }) })) = false := by
  decide +kernel

example : (run spec1 (World.init false) (payload.take 3)).claim.conds.r.status = .true_ ∧
    (run spec1 (World.init false) (payload.take 3)).nodes.map (·.taints.map (·.key)) =
      [["example.com/startup", "example.com/dedicated"]] ∧
    registeredPre spec1 (run spec1 (World.init false) (payload.take 3)).nodes = true := payload_end.1
/-- the startup taint the Node already had keeps its own value (`Taints.Merge` matches by key and effect) and is what
    the condition message names -/
example : (run spec1 (World.init false) (payload.take 3)).claim.conds.i.reason = .nodeNotReady ∧
    ((run spec1 (World.init false) (payload.take 3)).nodes.map (·.taints.map (·.value))) = [["pending", ""]] :=
  payload_end.2.1
example : (run spec1 (World.init false) (payload.take 5)).claim.conds.i.status = .unknown ∧
    (run spec1 (World.init false) (payload.take 5)).claim.conds.i.reason = .nodeNotReady ∧
    (run spec1 (World.init false) (payload.take 7)).claim.conds.i.status = .unknown ∧
    (run spec1 (World.init false) (payload.take 7)).nodes.map (·.initLabel) = [false] ∧
    (run spec1 (World.init false) payload).claim.conds.i.status = .true_ ∧
    initializedPre spec1 (run spec1 (World.init false) payload).nodes = true := payload_end.2.2.1
example : historyOK spec1 { prev := (World.init false).claim, finEver := false } (modelHistory spec1 (World.init false) payload) = true :=
  payload_end.2.2.2.1
/-- ... and the judge rejects a record in which the Node kept the valued taint although Registered went true, or was
    initialized on an `Unknown` Ready condition -/
example : historyOK spec1 { prev := (World.init false).claim, finEver := false }
    ((modelHistory spec1 (World.init false) (payload.take 3)).map (fun o => { o with nodes := o.nodes.map (fun n =>
      { n with taints := n.taints ++ [{ key := "karpenter.sh/unregistered", effect := "NoExecute", value := "true" }] }) })) = false :=
  payload_end.2.2.2.2.1
example : historyOK spec1 { prev := (World.init false).claim, finEver := false }
    ((modelHistory spec1 (World.init false) payload).map (fun o => { o with nodes := o.nodes.map (fun n =>
      { n with readyCond := .unknown }) })) = false :=
  payload_end.2.2.2.2.2

/-- a NodeClaim whose every launch attempt fails and whose NodePool is gone: at the launch deadline it is deleted -/
def orphan (pg : PoolGet) : List Step := [
  recon 0 .generic { poolGet := pg }, .env (.advance 299),
  recon 0 .generic { poolGet := pg }]

example : ((run spec1 (World.init false) (orphan (.err .notFound))).claim.deleting = true) ∧
    (step spec1 (run spec1 (World.init false) ((orphan (.err .notFound)).take 2)) (recon 0 .generic { poolGet := .err .notFound })).2.calls =
      [⟨.create, .generic⟩, ⟨.poolGet, .notFound⟩, ⟨.claimDelete, .ok⟩] := by decide
/-- a failed NodePool read holds it back, with an error -/
example : ((run spec1 (World.init false) (orphan (.err .other))).claim.deleting = false) ∧
    (step spec1 (run spec1 (World.init false) ((orphan (.err .other)).take 2)) (recon 0 .generic { poolGet := .err .other })).2.result = .err := by decide
/-- the judge: the model's record passes, the same record without the delete (what a controller that mistakes the
    missing NodePool for a failure leaves behind) does not -/
example : timeoutsOK 0 0 (modelHistory spec1 (World.init false) (orphan (.err .notFound))) = true := by decide
example : timeoutsOK 0 0 ((modelHistory spec1 (World.init false) (orphan (.err .notFound))).map
    (fun o => { o with calls := o.calls.filter (fun c => c.site != .claimDelete) })) = false := by decide
/-- `Overdue` is inhabited: five minutes after creation, never launched -/
example : Overdue { w := { now := 300 }, mem := {} } := by
  refine ⟨by decide, Or.inl ⟨by decide, by decide⟩⟩

end examples

end Karp.C14

