/-
The invariant behind C14 and its preservation by every step of the modelled system
(environment events, reconciles on fresh or lagging copies under every outcome vector, the deletion path).
-/
import Karp.Proofs.LifecycleLemmas

namespace Karp.Lifecycle

/-- a well-formed copy of the NodeClaim -/
structure VOK (v : Claim) : Prop where
  ir : v.conds.i.status = .true_ → v.conds.r.status = .true_
  rl : v.conds.r.status = .true_ → v.conds.l.status = .true_
  pl : v.providerID = true → v.conds.l.status = .true_
  lp : v.conds.l.status = .true_ → v.providerID = true
  ppl : v.providerID = true → v.provLabels = true
  lnf : v.conds.l.status ≠ .false_
  lfin : v.conds.l.status = .true_ → v.finalizer = true

theorem VOK.of_eq {a b : Claim} (h : VOK a) (hc : b.conds = a.conds) (hp : b.providerID = a.providerID)
    (hl : a.provLabels = true → b.provLabels = true) (hf : a.finalizer = true → b.finalizer = true) : VOK b := by
  constructor
  · rw [hc]; exact h.ir
  · rw [hc]; exact h.rl
  · rw [hc, hp]; exact h.pl
  · rw [hc, hp]; exact h.lp
  · rw [hp]; exact fun x => hl (h.ppl x)
  · rw [hc]; exact h.lnf
  · rw [hc]; exact fun x => hf (h.lfin x)

/-- "older Launched ⇒ newer Launched" over a newest-first list of copies -/
abbrev LSorted (l : List Claim) : Prop :=
  l.Pairwise (fun newer older => older.conds.l.status = .true_ → newer.conds.l.status = .true_)

/-- what every reachable world satisfies; `versions` are the current copy and the older ones the informer cache may
    still serve -/
structure Inv (w : World) : Prop where
  vok : ∀ v ∈ w.versions, VOK v
  linst : ∀ v ∈ w.versions, v.conds.l.status = .true_ → 1 ≤ w.instances
  sorted : LSorted w.versions
  /-- the heart of create-once: once an instance exists, either the launch cache still holds it or every copy
      the informer cache may still serve says Launched -/
  seen : 1 ≤ w.instances → w.cache = true ∨ ∀ v ∈ w.versions, v.conds.l.status = .true_
  cacheInst : w.cache = true → 1 ≤ w.instances
  once : w.instances ≤ 1
  finEver : ∀ v ∈ w.versions, v.finalizer = true → w.finEver = true
  pidMono : ∀ v ∈ w.versions, v.providerID = true → w.claim.providerID = true
  plMono : ∀ v ∈ w.versions, v.provLabels = true → w.claim.provLabels = true
  finMono : ∀ v ∈ w.versions, v.finalizer = true → w.claim.finalizer = true

theorem claim_mem_versions (w : World) : w.claim ∈ w.versions := by simp [World.versions]

theorem vok_withFinalizer {c : Claim} (h : VOK c) : VOK { c with finalizer := true } :=
  h.of_eq rfl rfl id fun _ => rfl

/-- a pass in a reconcile of `w` starts in `w0` (`w`, but for a finalizer patch) from the in-memory copy `m0` -/
structure Start (w w0 : World) (m0 : Claim) : Prop where
  conds : w0.claim.conds = w.claim.conds
  pid : w0.claim.providerID = w.claim.providerID
  plabels : w0.claim.provLabels = w.claim.provLabels
  fin : w0.claim.finalizer = true
  cache : w0.cache = w.cache
  inst : w0.instances = w.instances
  finEver : w0.finEver = true
  vok : VOK m0
  served : ∃ v ∈ w.versions, m0.conds = v.conds ∧ m0.providerID = v.providerID ∧ m0.provLabels = v.provLabels

theorem Start.view {w : World} (h : Inv w) {view : Claim} (hv : view ∈ w.versions) (hf : view.finalizer = true) :
    Start w w view :=
  ⟨rfl, rfl, rfl, h.finMono _ hv hf, rfl, rfl, h.finEver _ hv hf, h.vok _ hv, _, hv, rfl, rfl, rfl⟩

theorem Start.patched {w : World} (h : Inv w) : Start w w.withFinalizer w.withFinalizer.claim :=
  ⟨rfl, rfl, rfl, rfl, rfl, rfl, rfl, vok_withFinalizer (h.vok _ (claim_mem_versions w)), _, claim_mem_versions w,
    rfl, rfl, rfl⟩

theorem head_dom {w : World} (h : Inv w) : ∀ v ∈ w.versions, v.conds.l.status = .true_ → w.claim.conds.l.status = .true_ := by
  intro v hv hl
  have hs := h.sorted
  simp only [World.versions, List.pairwise_cons] at hs
  simp only [World.versions, List.mem_cons] at hv
  rcases hv with rfl | hv
  · exact hl
  · exact hs.1 v hv hl

theorem keptVersions_sublist (w : World) (lag : Nat) : (keptVersions w lag).Sublist w.versions := by
  unfold keptVersions; exact List.take_sublist _ _

theorem keptVersions_ne_nil (w : World) (lag : Nat) : keptVersions w lag ≠ [] := by
  unfold keptVersions World.versions; simp

theorem keptVersions_eq (w : World) (lag : Nat) : ∃ newer, keptVersions w lag = newer ++ [pickView w lag] := by
  unfold pickView
  cases hk : (keptVersions w lag).getLast? with
  | none => exact absurd (List.getLast?_eq_none_iff.mp hk) (keptVersions_ne_nil w lag)
  | some x => exact List.getLast?_eq_some_iff.mp hk

theorem pickView_mem (w : World) (lag : Nat) : pickView w lag ∈ keptVersions w lag := by
  obtain ⟨newer, h⟩ := keptVersions_eq w lag
  rw [h]; simp

theorem pickView_version (w : World) (lag : Nat) : pickView w lag ∈ w.versions :=
  (keptVersions_sublist w lag).subset (pickView_mem w lag)

theorem pickView_oldest {w : World} (h : Inv w) (lag : Nat) (hl : (pickView w lag).conds.l.status = .true_) :
    ∀ v ∈ keptVersions w lag, v.conds.l.status = .true_ := by
  have hs : LSorted (keptVersions w lag) := h.sorted.sublist (keptVersions_sublist w lag)
  obtain ⟨newer, hk⟩ := keptVersions_eq w lag
  rw [hk] at hs ⊢
  intro v hv
  rcases List.mem_append.mp hv with hv | hv
  · exact (List.pairwise_append.mp hs).2.2 v hv _ (List.mem_singleton.mpr rfl) hl
  · rw [List.mem_singleton.mp hv]; exact hl

/-- a new current copy `nc` on top of a sublist `kept` of the old versions -/
theorem inv_push {w w' : World} {kept : List Claim} {nc : Claim} (h : Inv w)
    (hclaim : w'.claim = nc) (hviews : w'.views = kept) (hsub : kept.Sublist w.versions)
    (hvok : VOK nc)
    (hlinst : nc.conds.l.status = .true_ → 1 ≤ w'.instances)
    (hdom : w.claim.conds.l.status = .true_ → nc.conds.l.status = .true_)
    (hinst : w.instances ≤ w'.instances)
    (hseen : 1 ≤ w'.instances → w'.cache = true ∨ nc.conds.l.status = .true_ ∧ ∀ v ∈ kept, v.conds.l.status = .true_)
    (hcache : w'.cache = true → 1 ≤ w'.instances)
    (honce : w'.instances ≤ 1)
    (hfe : w.finEver = true → w'.finEver = true)
    (hfe' : nc.finalizer = true → w'.finEver = true)
    (hpid : w.claim.providerID = true → nc.providerID = true)
    (hplb : w.claim.provLabels = true → nc.provLabels = true)
    (hfin : w.claim.finalizer = true → nc.finalizer = true) : Inv w' := by
  have hmem : ∀ v ∈ kept, v ∈ w.versions := fun v hv => hsub.subset hv
  have hver : w'.versions = nc :: kept := by simp [World.versions, hclaim, hviews]
  have all : ∀ P : Claim → Prop, P nc → (∀ v ∈ w.versions, P v) → ∀ v ∈ w'.versions, P v := by
    intro P hn ho v hv
    rw [hver] at hv
    rcases List.mem_cons.mp hv with rfl | hv
    · exact hn
    · exact ho v (hmem v hv)
  constructor
  · exact all _ hvok h.vok
  · exact all _ hlinst fun v hv hl => Nat.le_trans (h.linst v hv hl) hinst
  · rw [hver]
    refine List.pairwise_cons.mpr ⟨?_, h.sorted.sublist hsub⟩
    intro v hv hl
    exact hdom (head_dom h v (hmem v hv) hl)
  · rw [hver]; exact fun h1 => (hseen h1).imp_right fun hl => List.forall_mem_cons.mpr hl
  · exact hcache
  · exact honce
  · exact all _ hfe' fun v hv hf => hfe (h.finEver v hv hf)
  · rw [hclaim]; exact all _ id fun v hv hp => hpid (h.pidMono v hv hp)
  · rw [hclaim]; exact all _ id fun v hv hp => hplb (h.plMono v hv hp)
  · rw [hclaim]; exact all _ id fun v hv hp => hfin (h.finMono v hv hp)

/-- pushing a copy that agrees with the current one on everything the invariant looks at -/
theorem inv_push_same {w w' : World} {kept : List Claim} {nc : Claim} (h : Inv w)
    (hclaim : w'.claim = nc) (hviews : w'.views = kept) (hsub : kept.Sublist w.versions)
    (hconds : nc.conds = w.claim.conds) (hpid : nc.providerID = w.claim.providerID)
    (hplb : nc.provLabels = w.claim.provLabels) (hfin : nc.finalizer = w.claim.finalizer)
    (hcache : w'.cache = w.cache) (hinst : w'.instances = w.instances) (hfe : w'.finEver = w.finEver) : Inv w' := by
  have hc := h.vok w.claim (claim_mem_versions w)
  have hmem : ∀ v ∈ kept, v ∈ w.versions := fun v hv => hsub.subset hv
  refine inv_push h hclaim hviews hsub ?_ ?_ ?_ ?_ ?_ ?_ ?_ ?_ ?_ ?_ ?_ ?_
  · exact hc.of_eq hconds hpid (by rw [hplb]; exact id) (by rw [hfin]; exact id)
  · rw [hconds, hinst]; exact h.linst w.claim (claim_mem_versions w)
  · rw [hconds]; exact id
  · rw [hinst]; exact Nat.le_refl _
  · rw [hinst, hcache]
    exact fun h1 => (h.seen h1).imp_right fun hall =>
      ⟨by rw [hconds]; exact hall w.claim (claim_mem_versions w), fun v hv => hall v (hmem v hv)⟩
  · rw [hcache, hinst]; exact h.cacheInst
  · rw [hinst]; exact h.once
  · rw [hfe]; exact id
  · rw [hfin, hfe]; exact h.finEver w.claim (claim_mem_versions w)
  · rw [hpid]; exact id
  · rw [hplb]; exact id
  · rw [hfin]; exact id

theorem applyEnv_frame (w : World) (e : Env) :
    (applyEnv w e).cache = w.cache ∧ (applyEnv w e).instances = w.instances ∧ (applyEnv w e).finEver = w.finEver ∧
    MaybeDeleted w.claim (applyEnv w e).claim := by
  fun_cases applyEnv w e
  case case9 => exact ⟨rfl, rfl, rfl, (deletesOnly_ite w _).claim⟩
  all_goals exact ⟨rfl, rfl, rfl, .refl _⟩

theorem applyEnv_facts (w : World) (e : Env) :
    (applyEnv w e).cache = w.cache ∧ (applyEnv w e).instances = w.instances ∧ (applyEnv w e).finEver = w.finEver ∧
    (applyEnv w e).claim.conds = w.claim.conds ∧ (applyEnv w e).claim.providerID = w.claim.providerID ∧
    (applyEnv w e).claim.provLabels = w.claim.provLabels ∧ (applyEnv w e).claim.finalizer = w.claim.finalizer := by
  obtain ⟨hc, hi, hf, hm⟩ := applyEnv_frame w e
  exact ⟨hc, hi, hf, hm.core⟩

theorem launchCase_cases (co : CreateOutcome) (c : Ctx) :
    (launchCase co c = .keptTrue ∧ c.mem.conds.l.status = .true_) ∨
    (launchCase co c = .keptFalse ∧ c.mem.conds.l.status = .false_) ∨
    (launchCase co c = .cacheHit ∧ c.mem.conds.l.status = .unknown ∧ c.w.cache = true) ∨
    (launchCase co c = .created ∧ c.mem.conds.l.status = .unknown ∧ c.w.cache = false ∧ co = .ok) ∨
    (launchCase co c = .failed ∧ c.mem.conds.l.status = .unknown ∧ c.w.cache = false ∧ co ≠ .ok) := by
  unfold launchCase
  cases hs : c.mem.conds.l.status <;> simp
  by_cases hc : c.w.cache = true <;> simp [hc]
  by_cases ho : co = .ok <;> simp [ho]

/-- what a pass from `m0` leaves, given the invariant: of the in-memory NodeClaim `mem` and of the world `r.w` -/
structure MemSummary (w : World) (r : RecOut) (m0 mem : Claim) (lc : LaunchCase) : Prop where
  /-- either Launched is (still / now) true in memory, or the launch failed and no instance exists -/
  ltrue_or : mem.conds.l.status = .true_ ∨
    (mem.conds.l.status = .unknown ∧ mem.providerID = false ∧ w.instances = 0 ∧ lc = .failed)
  lpid : mem.conds.l.status = .true_ → mem.providerID = true ∧ mem.provLabels = true
  linst : mem.conds.l.status = .true_ → 1 ≤ r.w.instances
  keepL : m0.conds.l.status = .true_ → mem.conds.l.status = .true_ ∧ lc = .keptTrue
  pidUp : m0.providerID ≠ mem.providerID → mem.providerID = true ∧ m0.conds.l.status ≠ mem.conds.l.status
  plUp : m0.provLabels ≠ mem.provLabels → mem.provLabels = true ∧ m0.conds.l.status ≠ mem.conds.l.status
  instLe : w.instances ≤ r.w.instances
  once : r.w.instances ≤ 1
  cacheInst : r.w.cache = true → 1 ≤ r.w.instances
  seen : 1 ≤ r.w.instances → r.w.cache = true ∨ m0.conds.l.status = .true_

theorem MemSummary.pidL {w : World} {r : RecOut} {m0 mem : Claim} {lc : LaunchCase} (S : MemSummary w r m0 mem lc)
    (hp : mem.providerID = true) : mem.conds.l.status = .true_ := by
  rcases S.ltrue_or with ht | ⟨_, hpf, _, _⟩
  · exact ht
  · rw [hpf] at hp; cases hp

theorem memSummary {w w0 : World} {m0 mem : Claim} {r : RecOut} {co : CreateOutcome} {calls : List Call} {lc : LaunchCase}
    (h : Inv w) (hw0cache : w0.cache = w.cache) (hw0inst : w0.instances = w.instances)
    (hm0 : VOK m0)
    (hm0v : ∃ v ∈ w.versions, m0.conds = v.conds ∧ m0.providerID = v.providerID ∧ m0.provLabels = v.provLabels)
    (hlc : launchCase co { w := w0, mem := m0, calls := calls } = lc)
    (rcache : r.w.cache = launchCache lc w0.cache) (rinst : r.w.instances = launchInst lc w0.instances)
    (hLM : LaunchMem lc m0 mem) : MemSummary w r m0 mem lc := by
  obtain ⟨v0, hv0, hv0c, hv0p, hv0l⟩ := hm0v
  have hcases := launchCase_cases co { w := w0, mem := m0, calls := calls }
  rw [hlc] at hcases
  simp only [] at hcases
  have hinst_m0 : 1 ≤ w.instances → w.cache = false → m0.conds.l.status = .true_ := by
    intro h1 hc
    rcases h.seen h1 with hc' | hall
    · rw [hc] at hc'; exact absurd hc' (by simp)
    · rw [hv0c]; exact hall v0 hv0
  have hzero : m0.conds.l.status = .unknown → w.cache = false → w.instances = 0 := by
    intro hu hc
    by_cases h1 : 1 ≤ w.instances
    · have := hinst_m0 h1 hc; rw [hu] at this; exact absurd this (by simp)
    · omega
  have honce := h.once
  rw [hw0inst] at rinst
  rw [hw0cache] at rcache hcases
  rcases hcases with ⟨rfl, hs⟩ | ⟨rfl, hs⟩ | ⟨rfl, hs, hc⟩ | ⟨rfl, hs, hc, -⟩ | ⟨rfl, hs, hc, -⟩ <;>
    obtain ⟨ml, mp, mpl⟩ := hLM <;> simp only [launchCache, launchInst] at rcache rinst
  · have hp := hm0.lp hs
    have hpl := hm0.ppl hp
    have hi : 1 ≤ w.instances := h.linst v0 hv0 (by rw [← hv0c]; exact hs)
    constructor <;> simp [ml, mp, mpl, hs, hp, hpl, hi, rcache, rinst, honce]
  · exact absurd hs hm0.lnf
  · have hi : 1 ≤ w.instances := h.cacheInst hc
    constructor <;> simp [ml, mp, mpl, hs, hi, rcache, rinst, honce]
  · have hz : w.instances = 0 := hzero hs hc
    constructor <;> simp [ml, mp, mpl, hs, hz, rcache, rinst]
  · have hz : w.instances = 0 := hzero hs hc
    have hpf : m0.providerID = false := by
      cases hp : m0.providerID with
      | false => rfl
      | true => have := hm0.pl hp; rw [hs] at this; exact absurd this (by simp)
    constructor <;> simp [ml, mp, mpl, hs, hz, hpf, hc, rcache, rinst]

theorem runSubs_summary (sp : Spec) (f : Faults) (co : CreateOutcome) {w w0 : World} {m0 : Claim} (calls : List Call)
    (h : Inv w) (s : Start w w0 m0) :
    MemSummary w (runSubs sp f co w0 m0 calls) m0 (runMem sp f co w0 m0 calls)
      (launchCase co { w := w0, mem := m0, calls := calls }) :=
  memSummary h s.cache s.inst s.vok s.served rfl (runSubs_world sp f co w0 m0 calls).2.2.1
    (runSubs_world sp f co w0 m0 calls).2.2.2 (runSubs_mem sp f co w0 m0 calls rfl).1

/-- a flag after a merge patch: the server's if memory did not change it, else the in-memory one -/
theorem merged_true {m0 mem srv : Bool} (hs : m0 = mem → srv = true) (hm : m0 ≠ mem → mem = true) :
    (if m0 = mem then srv else mem) = true := by
  split
  · exact hs ‹_›
  · exact hm ‹_›

theorem inv_runSubs (sp : Spec) (f : Faults) (co : CreateOutcome) {w w0 : World} {kept : List Claim} {m0 : Claim}
    (calls : List Call) (h : Inv w) (s : Start w w0 m0) (hsub : kept.Sublist w.versions) (hhead : w.claim ∈ kept)
    (hm0old : m0.conds.l.status = .true_ → ∀ v ∈ kept, v.conds.l.status = .true_) :
    Inv { (runSubs sp f co w0 m0 calls).w with views := kept } := by
  have S := runSubs_summary sp f co calls h s
  have rfe := (runSubs_world sp f co w0 m0 calls).2.1
  generalize hmem : runMem sp f co w0 m0 calls = mem at S
  obtain ⟨-, hmR, hmI, hkR, hkI⟩ := runSubs_mem sp f co w0 m0 calls hmem
  obtain ⟨rfin, hclaim⟩ := runSubs_patch sp f co w0 m0 calls hmem
  generalize launchCase co { w := w0, mem := m0, calls := calls } = lc at S
  generalize runSubs sp f co w0 m0 calls = r at S rfe rfin hclaim ⊢
  obtain ⟨v0, hv0, -, hv0p, hv0l⟩ := s.served
  have hsrv := h.vok w.claim (claim_mem_versions w)
  have hsrvL : w.claim.conds.l.status = .true_ → mem.conds.l.status = .true_ := by
    intro hl
    rcases S.ltrue_or with ht | ⟨_, _, hz, _⟩
    · exact ht
    · have := h.linst w.claim (claim_mem_versions w) hl; omega
  have hpush : ∀ (hvok : VOK r.w.claim)
      (hlinst : r.w.claim.conds.l.status = .true_ → 1 ≤ r.w.instances)
      (hdom : w.claim.conds.l.status = .true_ → r.w.claim.conds.l.status = .true_)
      (hpid : w.claim.providerID = true → r.w.claim.providerID = true)
      (hplb : w.claim.provLabels = true → r.w.claim.provLabels = true),
      Inv { r.w with views := kept } := by
    intro hvok hlinst hdom hpid hplb
    refine inv_push (w' := { r.w with views := kept }) (nc := r.w.claim) h rfl rfl hsub hvok hlinst hdom S.instLe
      ?_ S.cacheInst S.once ?_ ?_ hpid hplb ?_
    · exact fun h1 => (S.seen h1).imp_right fun hm => ⟨hdom (hm0old hm w.claim hhead), hm0old hm⟩
    · intro _; simp only []; rw [rfe]; exact s.finEver
    · intro _; simp only []; rw [rfe]; exact s.finEver
    · intro _; rw [rfin]; exact s.fin
  have hA : r.w.claim.conds = w.claim.conds → r.w.claim.providerID = w.claim.providerID →
      (r.w.claim.provLabels = w.claim.provLabels ∨
        r.w.claim.provLabels = (if m0.provLabels = mem.provLabels then w.claim.provLabels else mem.provLabels)) →
      Inv { r.w with views := kept } := by
    intro ec ep el
    have hplb : w.claim.provLabels = true → r.w.claim.provLabels = true := by
      intro hp
      rcases el with el | el <;> rw [el]
      · exact hp
      · exact merged_true (fun _ => hp) fun hne => (S.plUp hne).1
    apply hpush
    · exact hsrv.of_eq ec ep hplb fun _ => rfin.trans s.fin
    · rw [ec]; intro hl; exact Nat.le_trans (h.linst w.claim (claim_mem_versions w) hl) S.instLe
    · rw [ec]; exact id
    · rw [ep]; exact id
    · exact hplb
  rw [s.conds, s.pid, s.plabels] at hclaim
  rcases hclaim with ⟨ec, ep, el⟩ | ⟨ec, ep, el⟩
  · exact hA ec ep el
  · by_cases hce : m0.conds = mem.conds
    · have hpe : m0.providerID = mem.providerID :=
        Decidable.byContradiction fun hne => (S.pidUp hne).2 (by rw [hce])
      rw [if_pos hce] at ec
      rw [if_pos hpe] at ep
      exact hA ec ep (Or.inr el)
    · rw [if_neg hce] at ec
      have hml : r.w.claim.conds.l.status = mem.conds.l.status := by rw [ec]
      have hpid : w.claim.providerID = true → r.w.claim.providerID = true := by
        intro hp; rw [ep]; exact merged_true (fun _ => hp) fun hne => (S.pidUp hne).1
      have hplb : w.claim.provLabels = true → r.w.claim.provLabels = true := by
        intro hp; rw [el]; exact merged_true (fun _ => hp) fun hne => (S.plUp hne).1
      have hpidL : r.w.claim.providerID = true → mem.conds.l.status = .true_ := by
        intro hp
        rw [ep] at hp
        split at hp
        · exact hsrvL (hsrv.pl hp)
        · exact S.pidL hp
      apply hpush
      · constructor
        · rw [ec]; intro hi
          rcases hmI hi with h0 | hr
          · exact hkR (s.vok.ir h0)
          · exact hr
        · rw [ec]; intro hr
          rcases hmR hr with h0 | hp
          · exact (S.keepL (s.vok.rl h0)).1
          · exact S.pidL hp
        · rw [hml]; exact hpidL
        · rw [hml]; intro hl
          have hmp := (S.lpid hl).1
          rw [ep]; exact merged_true (fun he => h.pidMono v0 hv0 (by rw [← hv0p, he]; exact hmp)) fun _ => hmp
        · intro hp
          have hmpl := (S.lpid (hpidL hp)).2
          rw [el]; exact merged_true (fun he => h.plMono v0 hv0 (by rw [← hv0l, he]; exact hmpl)) fun _ => hmpl
        · rw [hml]
          rcases S.ltrue_or with ht | ⟨hu, _, _, _⟩
          · rw [ht]; simp
          · rw [hu]; simp
        · intro _; rw [rfin]; exact s.fin
      · rw [hml]; exact S.linst
      · rw [hml]; exact hsrvL
      · exact hpid
      · exact hplb

theorem claim_mem_kept (w : World) (lag : Nat) : w.claim ∈ keptVersions w lag := by
  unfold keptVersions World.versions; simp [List.take_succ_cons]

theorem inv_views {w : World} (h : Inv w) (lag : Nat) : Inv { w with views := keptVersions w lag } :=
  inv_push_same (w' := { w with views := keptVersions w lag }) (nc := w.claim) h rfl rfl
    (keptVersions_sublist w lag) rfl rfl rfl rfl rfl rfl rfl

theorem finPatch_ok {f : Faults} {w : World} (h : finPatchOutcome f w = .ok) :
    w.claim.present = true ∧ w.claim.finalizer = false := by
  revert h
  fun_cases finPatchOutcome f w <;> intro h
  case case1 e _ => cases e <;> cases h
  case case4 h1 h2 => simpa using And.intro h1 h2
  all_goals cases h

theorem inv_reconcileLive (sp : Spec) (f : Faults) (co : CreateOutcome) {w : World} (h : Inv w) (lag : Nat) :
    Inv { (reconcileLive sp f co w (pickView w lag)).w with views := keptVersions w lag } := by
  have hsrv := h.vok w.claim (claim_mem_versions w)
  rcases reconcileLive_cases sp f co w (pickView w lag) with ⟨hf, e⟩ | ⟨_, ho, e⟩ | ⟨_, _, res, e⟩ <;> rw [e]
  · exact inv_runSubs sp f co [] h (.view h (pickView_version w lag) hf) (keptVersions_sublist w lag) (claim_mem_kept w lag)
      (pickView_oldest h lag)
  · refine inv_runSubs sp f co _ h (.patched h) (keptVersions_sublist w lag) (claim_mem_kept w lag) ?_
    -- the patch only succeeds on a copy without the finalizer, and such a copy is not Launched
    intro hl
    exact absurd ((finPatch_ok ho).2.symm.trans (hsrv.lfin hl)) Bool.false_ne_true
  · exact inv_views h lag

theorem finalizeStep_facts (w : World) (fo : FinalizeOut) :
    (finalizeStep w fo).claim.conds = w.claim.conds ∧ (finalizeStep w fo).claim.providerID = w.claim.providerID ∧
    (finalizeStep w fo).claim.provLabels = w.claim.provLabels ∧ (finalizeStep w fo).claim.finalizer = w.claim.finalizer ∧
    Later w.claim (finalizeStep w fo).claim := by
  unfold finalizeStep; simp only []
  split <;> simp [Later, Claim.gone]

/-- a step that is not the reconcile of a live copy (an environment event, a reconcile of a copy that is gone, the
    deletion path) makes no call and changes nothing the invariant looks at on the NodeClaim but its deletion marks -/
structure Quiet (w : World) (p : World × Obs) : Prop where
  calls : p.2.calls = []
  fresh : p.2.fresh = true → p.2.view = w.claim
  later : Later w.claim p.1.claim
  views : p.1.views.Sublist w.versions
  conds : p.1.claim.conds = w.claim.conds
  pid : p.1.claim.providerID = w.claim.providerID
  plabels : p.1.claim.provLabels = w.claim.provLabels
  fin : p.1.claim.finalizer = w.claim.finalizer
  cache : p.1.cache = w.cache
  inst : p.1.instances = w.instances
  finEver : p.1.finEver = w.finEver

theorem step_quiet_or_live (sp : Spec) (w : World) (s : Step) :
    Quiet w (step sp w s) ∨ ∃ lag co f fo, s = .reconcile lag co f fo ∧
      (pickView w lag).present = true ∧ (pickView w lag).deleting = false ∧
      step sp w s = ({ (reconcileLive sp f co w (pickView w lag)).w with views := keptVersions w lag },
        { isRec := true, view := pickView w lag, fresh := decide (pickView w lag = w.claim),
          calls := (reconcileLive sp f co w (pickView w lag)).calls,
          result := (reconcileLive sp f co w (pickView w lag)).result }) := by
  cases s with
  | env e =>
    obtain ⟨hc, hi, hf, c1, c2, c3, c4⟩ := applyEnv_facts w e
    exact Or.inl ⟨rfl, Bool.noConfusion, (applyEnv_frame w e).2.2.2.later, List.Sublist.refl _, c1, c2, c3, c4, hc, hi, hf⟩
  | reconcile lag co f fo =>
    cases hp : (pickView w lag).present
    · refine Or.inl ?_
      simp only [step, hp, Bool.not_false, if_true]
      exact ⟨rfl, of_decide_eq_true, .refl _, keptVersions_sublist w lag, rfl, rfl, rfl, rfl, rfl, rfl, rfl⟩
    · cases hd : (pickView w lag).deleting
      · exact Or.inr ⟨lag, co, f, fo, rfl, hp, hd, by simp [step, hp, hd]⟩
      · refine Or.inl ?_
        have hf := finalizeStep_facts w fo
        simp only [step, hp, hd, Bool.not_true, Bool.false_eq_true, if_false, if_true]
        exact ⟨rfl, of_decide_eq_true, hf.2.2.2.2, keptVersions_sublist w lag, hf.1, hf.2.1, hf.2.2.1, hf.2.2.2.1, rfl, rfl, rfl⟩

theorem inv_step (sp : Spec) {w : World} (h : Inv w) (s : Step) : Inv (step sp w s).1 := by
  rcases step_quiet_or_live sp w s with q | ⟨lag, co, f, fo, rfl, _, _, he⟩
  · exact inv_push_same h rfl rfl q.views q.conds q.pid q.plabels q.fin q.cache q.inst q.finEver
  · rw [he]; exact inv_reconcileLive sp f co h lag

theorem inv_init (fin : Bool) : Inv (World.init fin) := by
  constructor <;> simp [World.init, World.versions]
  constructor <;> simp

theorem inv_run (sp : Spec) (steps : List Step) : ∀ {w : World}, Inv w → Inv (run sp w steps) := by
  induction steps with
  | nil => intro w h; exact h
  | cons s ss ih => intro w h; exact ih (inv_step sp h s)

end Karp.Lifecycle
