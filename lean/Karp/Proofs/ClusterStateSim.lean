/-
C11 helper lemmas: the model projects onto the object-layer system `OC` (simulation up to lookup-equivalence).
-/
import Karp.Proofs.ClusterStateObjs

namespace Karp.ClusterState
open Cluster Karp.Spec.ClusterAbs

theorem OC.Eqv.refl (a : OC) : a.Eqv a := ⟨fun _ => rfl, rfl, rfl⟩
theorem OC.Eqv.trans {a b c : OC} (h1 : a.Eqv b) (h2 : b.Eqv c) : a.Eqv c :=
  ⟨fun id => (h1.nodes id).trans (h2.nodes id), h1.nn.trans h2.nn, h1.cn.trans h2.cn⟩
theorem OC.Eqv.symm {a b : OC} (h : a.Eqv b) : b.Eqv a := ⟨fun id => (h.nodes id).symm, h.nn.symm, h.cn.symm⟩

/-- what the projection relies on of the carry-over tables (regenerated from the source) -/
theorem carried_objs :
    carriedN "markedForDeletion" = true ∧ carriedN "nominatedUntil" = true ∧ carriedN "NodeClaim" = true ∧
    (∀ fx, carriedC fx "markedForDeletion" = true) ∧ (∀ fx, carriedC fx "nominatedUntil" = true) ∧
    (∀ fx, carriedC fx "Node" = true) := by
  simp [carriedN, carriedC, Karp.Gen.ClusterStateFacts.newStateFromNodeFields, Karp.Gen.ClusterStateFacts.newStateFromNodeClaimFields]

theorem objs_nodeLiteral (node : NodeObj) (old : SNode) :
    (nodeLiteral node old).objs = ⟨some node, old.claim, old.marked, old.nominated⟩ := by
  simp [nodeLiteral, SNode.objs, carried_objs.1, carried_objs.2.1, carried_objs.2.2.1]

theorem objs_claimLiteral (fx : Fixes) (claim : ClaimObj) (old : SNode) :
    (claimLiteral fx claim old).objs = claimEntry old.objs claim := by
  simp [claimLiteral, SNode.objs, claimEntry, carried_objs.2.2.2.1 fx, carried_objs.2.2.2.2.1 fx, carried_objs.2.2.2.2.2 fx]

theorem objs_dropNode (fx : Fixes) (sn : SNode) :
    (sn.dropNode fx).map SNode.objs = if sn.objs.claim.isNone then none else some { sn.objs with node := none } := by
  unfold SNode.dropNode
  by_cases hc : sn.claim.isNone = true
  · rw [if_pos hc, if_pos (show sn.objs.claim.isNone = true from hc)]; rfl
  · rw [if_neg hc, if_neg (show ¬ sn.objs.claim.isNone = true from hc)]
    by_cases hf : fx.nodeGoneResets = true <;> simp [hf, SNode.objs]

theorem objs_dropClaim (sn : SNode) :
    sn.dropClaim.map SNode.objs = if sn.objs.node.isNone then none else some { sn.objs with claim := none } := by
  unfold SNode.dropClaim
  by_cases hc : sn.node.isNone = true
  · rw [if_pos hc, if_pos (show sn.objs.node.isNone = true from hc)]; rfl
  · rw [if_neg hc, if_neg (show ¬ sn.objs.node.isNone = true from hc)]; rfl

theorem PodUpd.objs {fx : Fixes} {s s' : SNode} (h : PodUpd fx s s') : s'.objs = s.objs := by
  obtain ⟨h1, h2, h3, h4⟩ := h.fields
  simp [SNode.objs, h1, h2, h3, h4]

theorem objs_updateForPod (fx : Fixes) (s : SNode) (p : PodObj) : (s.updateForPod fx p).objs = s.objs := (PodUpd.upd p .refl).objs
theorem objs_cleanupForPod (s : SNode) (k : String) : (s.cleanupForPod k).objs = s.objs := (PodUpd.del (fx := {}) k .refl).objs

theorem PodOnly.objs {fx : Fixes} {c c' : Cluster} (h : PodOnly fx c c') (id : String) :
    (Map.get c'.nodes id).map SNode.objs = (Map.get c.nodes id).map SNode.objs := by
  rcases h.nodes id with ⟨a, b⟩ | ⟨s, s', a, b, hu⟩
  · rw [a, b]
  · rw [a, b, Option.map_some, Option.map_some, hu.objs]

theorem PodOnly.eqv {fx : Fixes} {c c' : Cluster} (h : PodOnly fx c c') : (proj c').Eqv (proj c) :=
  ⟨fun id => by rw [get_proj, get_proj]; exact h.objs id, h.nn, h.cn⟩

def Sim (r : M Cluster) (o : Option OC) : Prop :=
  match r, o with
  | .ok c', some o' => (proj c').Eqv o'
  | .error _, none => True
  | _, _ => False

theorem sim_ok {c' : Cluster} {o' : OC} (h : (proj c').Eqv o') : Sim (.ok c') (some o') := h

theorem sim_map {m : M Cluster} {x : Option OC} (h : Sim m x) {f : Cluster → Cluster} {g : OC → OC}
    (hfg : ∀ c2 o2, (proj c2).Eqv o2 → (proj (f c2)).Eqv (g o2)) : Sim (m.map f) (x.map g) := by
  cases m <;> cases x <;> first | exact h | exact hfg _ _ h

theorem sim_ite {p : Prop} [Decidable p] {m m' : M Cluster} {x x' : Option OC} (h : Sim m x) (h' : Sim m' x') :
    Sim (if p then m else m') (if p then x else x') := by
  split <;> assumption

theorem eqv_get {c : Cluster} {o : OC} (h : (proj c).Eqv o) (id : String) :
    Map.get o.nodes id = (Map.get c.nodes id).map SNode.objs := by
  rw [← h.nodes id, get_proj]

theorem objs_getD {c : Cluster} {o : OC} (h : (proj c).Eqv o) (id : String) :
    ((Map.get c.nodes id).getD SNode.new).objs = (Map.get o.nodes id).getD {} := by
  rw [eqv_get h]
  cases Map.get c.nodes id <;> rfl

theorem eqv_write {c : Cluster} {o : OC} (h : (proj c).Eqv o) (id : String) (old new : Option SNode) (o' : OC)
    (nn cn : Map String) (np : NPState)
    (hn : ∀ id', Map.get o'.nodes id' = if id' = id then new.map SNode.objs else Map.get o.nodes id')
    (h1 : nn = o'.nn) (h2 : cn = o'.cn) : (proj (c.write id old new nn cn np)).Eqv o' := by
  refine ⟨fun id' => ?_, h1, h2⟩
  rw [get_proj, hn, eqv_get h, get_write]
  split <;> rfl

theorem sim_cleanupNode (fx : Fixes) {c : Cluster} {o : OC} (h : (proj c).Eqv o) (name : String) :
    Sim (c.cleanupNode fx name) (o.cleanupNode name) := by
  unfold Cluster.cleanupNode OC.cleanupNode
  rw [← show c.nodeNameToPid = o.nn from h.nn]
  cases Map.get c.nodeNameToPid name with
  | none => exact sim_ok h
  | some id =>
    dsimp only
    refine sim_ite ?_ (sim_ok h)
    rw [eqv_get h]
    cases Map.get c.nodes id with
    | none => trivial
    | some sn =>
      apply sim_ok
      rw [detachNode_eq]
      exact eqv_write h id _ _ _ _ _ _ (fun id' => by rw [get_detachNode, objs_dropNode]) (by rw [detachNode_nn, ← h.nn]; rfl) h.cn

theorem sim_forgetClaim {c : Cluster} {o : OC} (h : (proj c).Eqv o) (name : String) :
    (proj (c.forgetClaim name)).Eqv (o.forgetClaim name) :=
  ⟨h.nodes, h.nn, by rw [show (proj (c.forgetClaim name)).cn = Map.erase c.claimNameToPid name from rfl, show c.claimNameToPid = o.cn from h.cn]; rfl⟩

theorem sim_cleanupNodeClaim {c : Cluster} {o : OC} (h : (proj c).Eqv o) (name : String) :
    Sim (c.cleanupNodeClaim name) (o.cleanupNodeClaim name) := by
  unfold Cluster.cleanupNodeClaim OC.cleanupNodeClaim
  rw [← show c.claimNameToPid = o.cn from h.cn]
  cases Map.get c.claimNameToPid name with
  | none => exact sim_ok (sim_forgetClaim h name)
  | some id =>
    dsimp only
    refine sim_ite ?_ (sim_ok (sim_forgetClaim h name))
    rw [eqv_get h]
    cases Map.get c.nodes id with
    | none => trivial
    | some sn =>
      apply sim_ok
      rw [detachClaim_eq]
      exact eqv_write h id _ _ _ _ _ _ (fun id' => by rw [get_detachClaim, objs_dropClaim]) h.nn
        (by rw [detachClaim_cn, ← h.cn]; rfl)

theorem sim_newStateFromNode (fx : Fixes) {c : Cluster} {o : OC} (h : (proj c).Eqv o) (api : Api) (node : NodeObj) :
    Sim (c.newStateFromNode fx api node) (o.newStateFromNode node) := by
  rw [newStateFromNode_eq, OC.newStateFromNode_eq]
  have hp := populate_podOnly fx node.name api.pods.vals c (nodeLiteral node ((Map.get c.nodes node.pid).getD SNode.new))
  have h1 : (proj (c.populate fx (nodeLiteral node ((Map.get c.nodes node.pid).getD SNode.new)) node.name api.pods.vals).1).Eqv o :=
    hp.1.eqv.trans h
  dsimp only
  rw [show (c.populate fx (nodeLiteral node ((Map.get c.nodes node.pid).getD SNode.new)) node.name api.pods.vals).1.nodeNameToPid = o.nn
    from h1.nn]
  refine sim_map (sim_ite (sim_cleanupNode fx h1 node.name) (sim_ok h1)) (fun c2 o2 h2 => ?_)
  rw [installNode_eq]
  refine eqv_write h2 node.pid _ _ _ _ _ _ (fun id' => ?_) (by rw [installNode_nn, ← h2.nn]; rfl) h2.cn
  rw [get_installNode, Option.map_some, hp.2.objs, objs_nodeLiteral, ← objs_getD h]
  rfl

theorem sim_installClaim (fx : Fixes) {c : Cluster} {o : OC} (h : (proj c).Eqv o) (claim : ClaimObj) :
    Sim (c.installClaim fx claim) (o.installClaim claim) := by
  rw [installClaim_eq, OC.installClaim_eq, show c.claimNameToPid = o.cn from h.cn]
  refine sim_map (sim_ite (sim_cleanupNodeClaim h claim.name) (sim_ok h)) (fun c2 o2 h2 => ?_)
  refine eqv_write h2 claim.pid _ _ _ _ _ _ (fun id' => ?_) h2.nn h2.cn
  rw [Map.get_put, Option.map_some, objs_claimLiteral, objs_getD h]

theorem sim_updateNodeClaim (fx : Fixes) {c : Cluster} {o : OC} (h : (proj c).Eqv o) (claim : ClaimObj) :
    Sim (c.updateNodeClaim fx claim) (o.updateNodeClaim claim) := by
  rw [updateNodeClaim_eq, OC.updateNodeClaim_eq]
  refine sim_map (sim_ite (sim_installClaim fx h claim) (sim_ok h)) (fun c2 o2 h2 => ?_)
  exact ⟨h2.nodes, h2.nn, by rw [show (proj (c2.recordClaim claim)).cn = Map.put c2.claimNameToPid claim.name claim.pid from rfl,
    show c2.claimNameToPid = o2.cn from h2.cn]⟩

theorem sim_setMark {c : Cluster} {o : OC} (h : (proj c).Eqv o) (pid : String) (b : Bool) :
    (proj (c.setMark pid b)).Eqv (o.setMark pid b) := by
  unfold OC.setMark
  rw [eqv_get h]
  rcases setMark_cases c pid b with ⟨hs, e⟩ | ⟨sn, np', hsn, e⟩
  · rw [e, hs]; exact h
  · rw [e, hsn, Option.map_some]
    exact eqv_write h pid _ _ _ _ _ _ (fun id' => Map.get_put _ _ _ _) h.nn h.cn

theorem sim_nominate {c : Cluster} {o : OC} (h : (proj c).Eqv o) (pid : String) : (proj (c.nominate pid)).Eqv (o.nominate pid) := by
  unfold Cluster.nominate OC.nominate
  rw [eqv_get h]
  cases hs : Map.get c.nodes pid with
  | none => exact h
  | some sn =>
    refine ⟨fun id' => ?_, h.nn, h.cn⟩
    rw [get_proj]
    show (Map.get (Map.put c.nodes pid _) id').map SNode.objs = Map.get (Map.put o.nodes pid _) id'
    rw [Map.get_put, Map.get_put, eqv_get h]
    split <;> rfl

theorem sim_step (fx : Fixes) (c : Cluster) (o : OC) (h : (proj c).Eqv o) (api : Api) (e : Event) :
    match c.step fx api e, o.step api e with
    | .ok (c', _), some o' => (proj c').Eqv o'
    | .error _, none => True
    | _, _ => False := by
  have lift : ∀ (r : RecResult) (m : M Cluster) (x : Option OC), Sim m x →
      match withResult r m, x with
      | .ok (c', _), some o' => (proj c').Eqv o'
      | .error _, none => True
      | _, _ => False := by
    intro r m x hs
    cases m <;> cases x <;> exact hs
  cases e with
  | recNode name =>
    simp only [Cluster.step, OC.step]
    cases Map.get api.nodes name with
    | none => exact lift _ _ _ (sim_cleanupNode fx h name)
    | some n =>
      refine lift _ _ _ ?_
      dsimp only
      rw [updateNode_eq, OC.updateNode_eq]
      exact sim_ite (sim_newStateFromNode fx h api _) (sim_ok h)
  | recClaim name =>
    simp only [Cluster.step, OC.step]
    cases Map.get api.claims name with
    | none => exact lift _ _ _ (sim_cleanupNodeClaim h name)
    | some cl =>
      dsimp only
      by_cases hm : (!cl.managed) = true
      · rw [if_pos hm, if_pos hm]; exact h
      · rw [if_neg hm, if_neg hm]; exact lift _ _ _ (sim_updateNodeClaim fx h cl)
  | recPod name =>
    simp only [Cluster.step, OC.step]
    cases Map.get api.pods name with
    | none => exact (podCompletion_podOnly fx c name).eqv.trans h
    | some p => exact (updatePod_podOnly fx c p).eqv.trans h
  | mark pid => exact sim_setMark h pid true
  | unmark pid => exact sim_setMark h pid false
  | nominate pid => exact sim_nominate h pid
  | setNode _ | delNode _ | setClaim _ | delClaim _ | setPod _ | delPod _ => exact h

end Karp.ClusterState
