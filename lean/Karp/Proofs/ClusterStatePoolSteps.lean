/-
C11 helper lemmas: every operation of the cache preserves the pool-total invariant `PoolInv`.
-/
import Karp.Proofs.ClusterStateOps

namespace Karp.ClusterState
open Cluster

theorem contrib_new : SNode.new.contrib = ("", Res.zero) := rfl

/-- the entry under `id` adds the same to the pool totals in `c'` as in `c` -/
def ContribEq (c c' : Cluster) (id : String) : Prop :=
  (Map.get c'.nodes id).map SNode.contrib = (Map.get c.nodes id).map SNode.contrib

theorem contribEq_refl (c : Cluster) (id : String) : ContribEq c c id := rfl

theorem PodOnly.contribEq {fx : Fixes} {c c' : Cluster} (h : PodOnly fx c c') (id : String) : ContribEq c c' id := by
  unfold ContribEq
  rcases h.nodes id with ⟨a, b⟩ | ⟨s, s', a, b, hu⟩
  · rw [a, b]
  · rw [a, b, Option.map_some, Option.map_some, hu.contrib]

/-- the contribution read off `old` (taken before populate / cleanup) is still what the cache holds under `pid` -/
theorem old_contrib {c c2 : Cluster} {pid : String} (hce : ContribEq c c2 pid) (p : String) :
    optContribAt (some ((Map.get c.nodes pid).getD SNode.new)) p = optContribAt (Map.get c2.nodes pid) p := by
  unfold ContribEq at hce
  cases h1 : Map.get c.nodes pid with
  | none =>
    rw [h1] at hce
    cases h2 : Map.get c2.nodes pid with
    | none => simp [optContribAt, contribAt, contrib_new]
    | some s => rw [h2] at hce; simp at hce
  | some s =>
    rw [h1] at hce
    cases h2 : Map.get c2.nodes pid with
    | none => rw [h2] at hce; simp at hce
    | some s2 =>
      rw [h2] at hce
      simp only [Option.map_some, Option.some.injEq] at hce
      simp [optContribAt, contribAt, hce]

theorem poolInv_rewrite {c : Cluster} (h : PoolInv c) {id : String} {sn : SNode} (hsn : Map.get c.nodes id = some sn)
    (new : Option SNode) (nn cn : Map String) (np : NPState) : PoolInv (c.write id (some sn) new nn cn np) :=
  poolInv_write h id new nn cn np (fun _ => by rw [hsn])

theorem newStateFromNode_inv {fx : Fixes} {c c' : Cluster} {api : Api} {node : NodeObj} (h : PoolInv c)
    (hr : c.newStateFromNode fx api node = .ok c') : PoolInv c' := by
  rw [newStateFromNode_eq] at hr
  obtain ⟨c2, hc2, rfl⟩ := map_ok hr
  have hp := (populate_podOnly fx node.name api.pods.vals c (nodeLiteral node ((Map.get c.nodes node.pid).getD SNode.new))).1
  rw [installNode_eq]
  rcases rekeyed_cleanupNode_ok hc2 with rfl | ⟨id, sn, hne, hsn, rfl⟩
  · exact poolInv_write (hp.pool h) _ _ _ _ _ (old_contrib (hp.contribEq node.pid))
  · rw [detachNode_eq]
    refine poolInv_write (poolInv_rewrite (hp.pool h) hsn _ _ _ _) _ _ _ _ _ (old_contrib ?_)
    -- the state node under the new id is not the one the cleanup touched
    unfold ContribEq
    rw [get_write, if_neg (Ne.symm hne)]
    exact hp.contribEq node.pid

theorem cleanupNodeClaim_inv {c c' : Cluster} {name : String} (h : PoolInv c) (hr : c.cleanupNodeClaim name = .ok c') :
    PoolInv c' := by
  rcases cleanupNodeClaim_ok hr with rfl | ⟨id, sn, _, hsn, rfl⟩
  · exact h.frame _ _ _ _
  · rw [detachClaim_eq]; exact poolInv_rewrite h hsn _ _ _ _

theorem installClaim_inv {fx : Fixes} {c c' : Cluster} {claim : ClaimObj} (h : PoolInv c)
    (hr : c.installClaim fx claim = .ok c') : PoolInv c' := by
  rw [installClaim_eq] at hr
  obtain ⟨c2, hc2, rfl⟩ := map_ok hr
  rcases rekeyed_cleanupNodeClaim_ok hc2 with rfl | rfl | ⟨id, sn, hne, hsn, rfl⟩
  · exact poolInv_write h _ _ _ _ _ (old_contrib (contribEq_refl _ _))
  · exact poolInv_write (c := c.forgetClaim claim.name) (h.frame _ _ _ _) _ _ _ _ _ (old_contrib (contribEq_refl c _))
  · rw [detachClaim_eq]
    refine poolInv_write (poolInv_rewrite h hsn _ _ _ _) _ _ _ _ _ (old_contrib ?_)
    unfold ContribEq
    rw [get_write, if_neg (Ne.symm hne)]

theorem setMark_inv {c : Cluster} (h : PoolInv c) (pid : String) (b : Bool) : PoolInv (c.setMark pid b) := by
  rcases setMark_cases c pid b with ⟨_, e⟩ | ⟨sn, np', hsn, e⟩
  · rw [e]; exact h
  · rw [e]; exact poolInv_rewrite h hsn _ _ _ _

theorem nominate_inv {c : Cluster} (h : PoolInv c) (pid : String) : PoolInv (c.nominate pid) := by
  unfold Cluster.nominate
  split
  · exact h
  · rename_i sn hsn
    exact poolInv_touch (sn' := { sn with nominated := true }) h hsn (contrib_congr _ _ rfl rfl rfl) rfl rfl

theorem step_poolInv {fx : Fixes} {c c' : Cluster} {api : Api} {e : Event} {r : RecResult} (h : PoolInv c)
    (hr : c.step fx api e = .ok (c', r)) : PoolInv c' := by
  rcases step_cases hr with rfl | ⟨_, hp⟩ | ⟨name, hr⟩ | ⟨node, hr⟩ | ⟨name, hr⟩ | ⟨cl, hr⟩ | ⟨pid, b, rfl⟩ | ⟨pid, rfl⟩
  · exact h
  · exact hp.pool h
  · rcases cleanupNode_ok hr with rfl | ⟨id, sn, _, hsn, rfl⟩
    · exact h
    · rw [detachNode_eq]; exact poolInv_rewrite h hsn _ _ _ _
  · exact newStateFromNode_inv h hr
  · exact cleanupNodeClaim_inv h hr
  · rw [updateNodeClaim_eq] at hr
    obtain ⟨c2, hc2, rfl⟩ := map_ok hr
    refine PoolInv.frame (c := c2) ?_ _ _ _ _
    split at hc2
    · exact installClaim_inv h hc2
    · exact Except.ok.inj hc2 ▸ h
  · exact setMark_inv h pid b
  · exact nominate_inv h pid

theorem run_poolInv (fx : Fixes) (es : List Event) :
    ∀ (c c' : Cluster) (api api' : Api), PoolInv c → run fx c api es = .ok (c', api') → PoolInv c' :=
  run_keeps step_poolInv es

end Karp.ClusterState
