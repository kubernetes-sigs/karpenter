/-
Helper lemmas for C17 (reservation manager ledger, NodeClaim reservation protocol).
-/
import Karp.Model.Reservation
import Karp.Proofs.ReqLemmas

namespace Karp.Reservation

theorem length_filter_remove {α : Type} [BEq α] [LawfulBEq α] (q : α → Bool) (a : α) (l : List α)
    (hnd : l.Nodup) (hm : a ∈ l) :
    ((l.filter (fun p => p != a)).filter q).length + (if q a then 1 else 0) = (l.filter q).length := by
  rw [← hnd.erase_eq_filter a, ((List.perm_cons_erase hm).filter q).length_eq, List.filter_cons]
  split <;> rfl

theorem remaining_cons (rm : RM) (holds : List (Host × Id)) (id : Id) (c : Int) (x : Id) :
    RM.remaining { capacity := (id, c) :: rm.capacity, holds := holds } x = if x == id then c else rm.remaining x := by
  unfold RM.remaining
  rw [List.lookup_cons]
  cases x == id <;> rfl

theorem known_cons (rm : RM) (holds : List (Host × Id)) (id : Id) (c : Int) (x : Id) :
    RM.known { capacity := (id, c) :: rm.capacity, holds := holds } x = (x == id || rm.known x) := by
  unfold RM.known
  rw [List.lookup_cons]
  cases x == id <;> rfl

theorem remaining_holds_irrel (m : List (Id × Int)) (h1 h2 : List (Host × Id)) (x : Id) :
    RM.remaining { capacity := m, holds := h1 } x = RM.remaining { capacity := m, holds := h2 } x := rfl

theorem has_iff_mem (rm : RM) (h : Host) (id : Id) : rm.has h id = true ↔ (h, id) ∈ rm.holds :=
  List.contains_iff_mem

theorem has_cons (rm : RM) (m : List (Id × Int)) (h h' : Host) (id x : Id) :
    RM.has { capacity := m, holds := (h, id) :: rm.holds } h' x = ((h' == h && x == id) || rm.has h' x) := by
  unfold RM.has
  rw [List.contains_cons]
  rfl

theorem has_filter (rm : RM) (m : List (Id × Int)) (h h' : Host) (id x : Id) :
    RM.has { capacity := m, holds := rm.holds.filter (fun p => p != (h, id)) } h' x
      = (rm.has h' x && !(h' == h && x == id)) := by
  unfold RM.has
  rw [contains_filter]
  rfl

theorem holders_cons (rm : RM) (m : List (Id × Int)) (h : Host) (id x : Id) :
    RM.holders { capacity := m, holds := (h, id) :: rm.holds } x = rm.holders x + if x == id then 1 else 0 := by
  unfold RM.holders
  rw [List.filter_cons, BEq.comm]
  cases x == id <;> rfl

theorem holders_filter (rm : RM) (m : List (Id × Int)) (h : Host) (id x : Id) (hnd : rm.holds.Nodup)
    (hm : (h, id) ∈ rm.holds) :
    RM.holders { capacity := m, holds := rm.holds.filter (fun p => p != (h, id)) } x + (if x == id then 1 else 0)
      = rm.holders x := by
  unfold RM.holders
  rw [BEq.comm]
  exact length_filter_remove (fun p : Host × Id => p.2 == x) (h, id) rm.holds hnd hm

theorem reserve1_cases (rm : RM) (h : Host) (id : Id) :
    (rm.has h id = true ∧ rm.reserve1 h id = .ok rm) ∨
    (rm.has h id = false ∧ rm.remaining id < 1 ∧ rm.reserve1 h id = .error .overReserve) ∨
    (rm.has h id = false ∧ 1 ≤ rm.remaining id ∧
      rm.reserve1 h id = .ok { capacity := (id, rm.remaining id - 1) :: rm.capacity, holds := (h, id) :: rm.holds }) := by
  unfold RM.reserve1
  cases rm.has h id
  · by_cases hc : rm.remaining id - 1 < 0
    · exact .inr (.inl ⟨rfl, by omega, if_pos hc⟩)
    · exact .inr (.inr ⟨rfl, by omega, if_neg hc⟩)
  · exact .inl ⟨rfl, rfl⟩

theorem release1_cases (rm : RM) (h : Host) (id : Id) :
    (rm.has h id = false ∧ rm.release1 h id = rm) ∨
    (rm.has h id = true ∧
      rm.release1 h id = { capacity := (id, rm.remaining id + 1) :: rm.capacity,
                           holds := rm.holds.filter (fun p => p != (h, id)) }) := by
  unfold RM.release1
  cases rm.has h id
  · exact .inl ⟨rfl, rfl⟩
  · exact .inr ⟨rfl, rfl⟩

/-- the invariant of the manager under raw `Reserve`/`Release` histories: no pair is held twice, and what is left of a
    reservation plus its holders is its initial capacity `cap0`, with nothing negative left -/
structure Ledger (cap0 : Id → Int) (rm : RM) : Prop where
  nodup : rm.holds.Nodup
  sum : ∀ id, rm.remaining id + (rm.holders id : Int) = cap0 id
  nonneg : ∀ id, 0 ≤ rm.remaining id

theorem ledger_reserve1 {cap0 : Id → Int} {rm : RM} {h : Host} {id : Id} (L : Ledger cap0 rm)
    (hf : rm.has h id = false) (hc : 1 ≤ rm.remaining id) :
    Ledger cap0 { capacity := (id, rm.remaining id - 1) :: rm.capacity, holds := (h, id) :: rm.holds } := by
  have hnm : (h, id) ∉ rm.holds := fun hm => by rw [(has_iff_mem rm h id).mpr hm] at hf; cases hf
  refine ⟨List.nodup_cons.mpr ⟨hnm, L.nodup⟩, fun x => ?_, fun x => ?_⟩
  · have := L.sum x
    rw [remaining_cons, holders_cons]
    cases hb : x == id
    · exact this
    · cases eq_of_beq hb
      rw [if_pos rfl, if_pos rfl]
      omega
  · have := L.nonneg x
    rw [remaining_cons]
    split <;> omega

theorem ledger_release1 {cap0 : Id → Int} {rm : RM} {h : Host} {id : Id} (L : Ledger cap0 rm)
    (ht : rm.has h id = true) :
    Ledger cap0 { capacity := (id, rm.remaining id + 1) :: rm.capacity,
                  holds := rm.holds.filter (fun p => p != (h, id)) } := by
  refine ⟨L.nodup.filter _, fun x => ?_, fun x => ?_⟩
  · have := L.sum x
    have hl := holders_filter rm ((id, rm.remaining id + 1) :: rm.capacity) h id x L.nodup ((has_iff_mem rm h id).mp ht)
    rw [remaining_cons]
    cases hb : x == id
    · rw [hb, if_neg Bool.false_ne_true] at hl
      rw [if_neg Bool.false_ne_true]
      omega
    · cases eq_of_beq hb
      rw [hb, if_pos rfl] at hl
      rw [if_pos rfl]
      omega
  · have := L.nonneg x
    have := L.nonneg id
    rw [remaining_cons]
    split <;> omega

theorem lookup_insertMin_ne (m : List (Id × Int)) (k : Id) (c : Int) (id : Id) (h : id ≠ k) :
    (insertMin m (k, c)).lookup id = m.lookup id := by
  have hne : (id == k) = false := by simpa using h
  have hlk : List.lookup id ((k, c) :: m) = List.lookup id m := by rw [List.lookup_cons]; simp [hne]
  unfold insertMin
  split
  · split
    · exact hlk
    · rfl
  · exact hlk

theorem lookup_insertMin_eq (m : List (Id × Int)) (k : Id) (c : Int) :
    (insertMin m (k, c)).lookup k = some (match m.lookup k with | some cur => min c cur | none => c) := by
  unfold insertMin
  cases hl : m.lookup k with
  | none => exact List.lookup_cons_self
  | some cur =>
    dsimp only
    split
    · rw [List.lookup_cons_self, Int.min_eq_left (by omega)]
    · rw [hl, Int.min_eq_right (by omega)]

theorem new_min (offerings : List (Id × Int)) (id : Id) :
    ((RM.new offerings).known id = true ↔ ∃ o ∈ offerings, o.1 = id) ∧
    ((RM.new offerings).known id = true →
      (∃ o ∈ offerings, o.1 = id ∧ o.2 = (RM.new offerings).remaining id) ∧
      (∀ o ∈ offerings, o.1 = id → (RM.new offerings).remaining id ≤ o.2)) := by
  induction offerings with
  | nil => simp [RM.new, RM.known]
  | cons o os ih =>
    obtain ⟨k, c⟩ := o
    have hcap : (RM.new ((k, c) :: os)).capacity = insertMin (RM.new os).capacity (k, c) := rfl
    unfold RM.known RM.remaining at ih ⊢
    rw [hcap]
    by_cases hk : id = k
    · subst hk
      rw [lookup_insertMin_eq]
      simp only [Option.isSome_some, Option.getD_some, true_iff, true_implies]
      refine ⟨⟨_, List.mem_cons_self, rfl⟩, ?_⟩
      cases hl : (RM.new os).capacity.lookup id with
      | none =>
        rw [hl] at ih
        refine ⟨⟨_, List.mem_cons_self, rfl, rfl⟩, fun o ho hoid => ?_⟩
        rcases List.mem_cons.mp ho with rfl | ho
        · exact Int.le_refl _
        · exact absurd (ih.1.mpr ⟨o, ho, hoid⟩) Bool.false_ne_true
      | some cur =>
        rw [hl] at ih
        obtain ⟨⟨o2, ho2, ho2id, ho2c⟩, hmin⟩ := ih.2 rfl
        have ho2c : o2.2 = cur := ho2c
        refine ⟨?_, fun o ho hoid => ?_⟩
        · rcases (by omega : min c cur = c ∨ min c cur = cur) with e | e
          · exact ⟨_, List.mem_cons_self, rfl, e.symm⟩
          · exact ⟨o2, List.mem_cons_of_mem _ ho2, ho2id, ho2c.trans e.symm⟩
        · rcases List.mem_cons.mp ho with rfl | ho
          · exact Int.min_le_left ..
          · exact Int.le_trans (Int.min_le_right ..) (hmin o ho hoid)
    · have hkne : ¬ k = id := fun e => hk e.symm
      simpa only [lookup_insertMin_ne _ _ _ _ hk, List.mem_cons, exists_eq_or_imp, forall_eq_or_imp, hkne, false_and,
        false_or, false_implies, true_and] using ih

theorem ledger_new (offerings : List (Id × Int)) (h : ∀ o ∈ offerings, 0 ≤ o.2) :
    Ledger (fun id => (RM.new offerings).remaining id) (RM.new offerings) := by
  refine ⟨List.nodup_nil, fun id => Int.add_zero _, fun id => ?_⟩
  cases hk : (RM.new offerings).known id
  · unfold RM.known at hk
    unfold RM.remaining
    cases hl : (RM.new offerings).capacity.lookup id with
    | none => exact Int.le_refl 0
    | some c => rw [hl] at hk; cases hk
  · obtain ⟨⟨o, ho, _, e⟩, _⟩ := (new_min offerings id).2 hk
    exact e ▸ h o ho

/-- What `Reserve` and `Release` for hostname `h` keep: `remaining x + [h holds x]` (a slot leaves the pool exactly
    when `h` starts to hold it).  It holds of one loop iteration and carries over to id lists by transitivity. -/
structure Keeps (h : Host) (rm rm' : RM) : Prop where
  sum : ∀ x, rm'.remaining x + (if rm'.has h x then 1 else 0) = rm.remaining x + (if rm.has h x then 1 else 0)
  known : ∀ x, rm.known x = true → rm'.known x = true
  nonneg : (∀ x, 0 ≤ rm.remaining x) → ∀ x, 0 ≤ rm'.remaining x

theorem Keeps.refl (h : Host) (rm : RM) : Keeps h rm rm := ⟨fun _ => rfl, fun _ hx => hx, fun hn => hn⟩

theorem Keeps.trans {h : Host} {rm rm1 rm2 : RM} (a : Keeps h rm rm1) (b : Keeps h rm1 rm2) : Keeps h rm rm2 :=
  ⟨fun x => (b.sum x).trans (a.sum x), fun x hx => b.known x (a.known x hx), fun hn => b.nonneg (a.nonneg hn)⟩

theorem reserve1_spec (rm : RM) (h : Host) (id : Id) (hpre : rm.has h id = true ∨ 1 ≤ rm.remaining id) :
    ∃ rm', rm.reserve1 h id = .ok rm' ∧
      (∀ h' x, rm'.has h' x = ((h' == h && x == id) || rm.has h' x)) ∧ Keeps h rm rm' := by
  rcases reserve1_cases rm h id with ⟨hh, e⟩ | ⟨hf, hc, _⟩ | ⟨hf, hc, e⟩
  · refine ⟨rm, e, fun h' x => ?_, .refl h rm⟩
    cases hb : (h' == h && x == id)
    · rfl
    · rw [Bool.and_eq_true, beq_iff_eq, beq_iff_eq] at hb
      rw [hb.1, hb.2, hh]
      rfl
  · rcases hpre with h1 | h1
    · rw [hf] at h1; cases h1
    · omega
  · refine ⟨_, e, fun h' x => has_cons .., fun x => ?_, fun x hx => ?_, fun hn x => ?_⟩
    · rw [remaining_cons, has_cons, beq_self_eq_true, Bool.true_and]
      cases hb : x == id
      · rfl
      · cases eq_of_beq hb
        rw [hf]
        show rm.remaining id - 1 + 1 = rm.remaining id + 0
        omega
    · rw [known_cons, hx, Bool.or_true]
    · have := hn x
      rw [remaining_cons]
      split <;> omega

theorem release1_spec (rm : RM) (h : Host) (id : Id) :
    (∀ h' x, (rm.release1 h id).has h' x = (rm.has h' x && !(h' == h && x == id))) ∧ Keeps h rm (rm.release1 h id) := by
  rcases release1_cases rm h id with ⟨hf, e⟩ | ⟨ht, e⟩ <;> rw [e]
  · refine ⟨fun h' x => ?_, .refl h rm⟩
    cases hb : (h' == h && x == id)
    · rw [Bool.not_false, Bool.and_true]
    · rw [Bool.and_eq_true, beq_iff_eq, beq_iff_eq] at hb
      rw [hb.1, hb.2, hf]
      rfl
  · refine ⟨fun h' x => has_filter .., fun x => ?_, fun x hx => ?_, fun hn x => ?_⟩
    · rw [remaining_cons, has_filter, beq_self_eq_true, Bool.true_and]
      cases hb : x == id
      · rw [Bool.not_false, Bool.and_true]
        rfl
      · cases eq_of_beq hb
        rw [ht]
        show rm.remaining id + 1 + 0 = rm.remaining id + 1
        omega
    · rw [known_cons, hx, Bool.or_true]
    · have := hn x
      have := hn id
      rw [remaining_cons]
      split <;> omega

theorem reserve_spec (h : Host) : ∀ (ids : List Id) (rm : RM),
    (∀ id ∈ ids, rm.has h id = true ∨ 1 ≤ rm.remaining id) →
    ∃ rm', rm.reserve h ids = .ok rm' ∧
      (∀ h' x, rm'.has h' x = ((h' == h && ids.contains x) || rm.has h' x)) ∧ Keeps h rm rm' := by
  intro ids
  induction ids with
  | nil => intro rm _; exact ⟨rm, rfl, fun _ _ => by simp, .refl h rm⟩
  | cons id ids ih =>
    intro rm hpre
    obtain ⟨rm1, e1, hhas1, K1⟩ := reserve1_spec rm h id (hpre id (List.mem_cons_self ..))
    have hpre1 : ∀ i ∈ ids, rm1.has h i = true ∨ 1 ≤ rm1.remaining i := by
      intro i hi
      have hc := K1.sum i
      rcases hpre i (List.mem_cons_of_mem _ hi) with hh | hh
      · rw [hhas1, hh, Bool.or_true]; exact .inl rfl
      · cases hb : rm1.has h i
        · rw [hb, if_neg Bool.false_ne_true] at hc; right; split at hc <;> omega
        · exact .inl rfl
    obtain ⟨rm', e, hhas, K⟩ := ih rm1 hpre1
    refine ⟨rm', by rw [RM.reserve, e1]; exact e, fun h' x => ?_, K1.trans K⟩
    rw [hhas, hhas1, List.contains_cons]
    cases h' == h <;> cases x == id <;> cases ids.contains x <;> cases rm.has h' x <;> rfl

theorem release_spec (h : Host) : ∀ (ids : List Id) (rm : RM),
    (∀ h' x, (rm.release h ids).has h' x = (rm.has h' x && !(h' == h && ids.contains x))) ∧
    Keeps h rm (rm.release h ids) := by
  intro ids
  induction ids with
  | nil => intro rm; exact ⟨fun _ _ => by simp [RM.release], .refl h rm⟩
  | cons id ids ih =>
    intro rm
    obtain ⟨hhas1, K1⟩ := release1_spec rm h id
    obtain ⟨hhas, K⟩ := ih (rm.release1 h id)
    refine ⟨fun h' x => ?_, K1.trans K⟩
    rw [RM.release, hhas, hhas1, List.contains_cons]
    cases h' == h <;> cases x == id <;> cases ids.contains x <;> cases rm.has h' x <;> rfl

theorem canReserve_known (rm : RM) (h : Host) (id : Id) (hk : rm.known id = true) :
    rm.canReserve h id = .ok (rm.has h id || rm.remaining id != 0) := by
  unfold RM.known at hk
  unfold RM.canReserve RM.remaining
  cases rm.has h id
  · cases hl : rm.capacity.lookup id with
    | none => rw [hl] at hk; cases hk
    | some c => rfl
  · rfl

theorem toReserve_known (rm : RM) (h : Host) : ∀ (compat : List Id), (∀ id ∈ compat, rm.known id = true) →
    toReserve rm h compat = .ok (compat.filter (fun id => rm.has h id || rm.remaining id != 0)) := by
  intro compat
  induction compat with
  | nil => intro _; rfl
  | cons id ids ih =>
    intro hk
    unfold toReserve
    rw [canReserve_known rm h id (hk id (List.mem_cons_self ..)), ih (fun i hi => hk i (List.mem_cons_of_mem _ hi))]
    simp only [List.filter_cons]
    cases (rm.has h id || rm.remaining id != 0) <;> rfl

def claimOf (claims : List Claim) (h : Host) : Claim :=
  (claims.find? (fun c => c.host == h)).getD { host := h, reserved := [] }

theorem claim_eq (st : St) (h : Host) : st.claim h = claimOf st.claims h := rfl

theorem claimOf_cons (d : Claim) (ds : List Claim) (h : Host) :
    claimOf (d :: ds) h = if d.host = h then d else claimOf ds h := by
  unfold claimOf
  rw [List.find?_cons]
  by_cases hd : d.host = h
  · simp [hd]
  · have : (d.host == h) = false := by simpa using hd
    simp [this, hd]

theorem claimOf_filter_ne (ds : List Claim) (g h : Host) (hne : h ≠ g) :
    claimOf (ds.filter (fun d => d.host != g)) h = claimOf ds h := by
  unfold claimOf
  rw [List.find?_filter]
  congr 2
  funext d
  cases hb : d.host == h
  · exact decide_eq_false fun h => nomatch h.2
  · rw [eq_of_beq hb]
    exact decide_eq_true ⟨bne_iff_ne.mpr hne, rfl⟩

theorem claimOf_fresh (ds : List Claim) (h : Host) (hf : h ∉ ds.map (·.host)) :
    claimOf ds h = { host := h, reserved := [] } := by
  unfold claimOf
  have hn : ds.find? (fun c => c.host == h) = none :=
    List.find?_eq_none.mpr fun c hc hb => hf ((eq_of_beq hb : c.host = h) ▸ List.mem_map_of_mem hc)
  rw [hn]
  rfl

theorem claimOf_mem (ds : List Claim) (hn : (ds.map (·.host)).Nodup) : ∀ c ∈ ds, claimOf ds c.host = c := by
  induction ds with
  | nil => intro c hc; cases hc
  | cons d ds ih =>
    intro c hc
    simp only [List.map_cons, List.nodup_cons] at hn
    rw [claimOf_cons]
    cases hc with
    | head => simp
    | tail _ hc =>
      have : ¬ d.host = c.host := fun e => hn.1 (e ▸ List.mem_map_of_mem hc)
      simp only [this, if_false]
      exact ih hn.2 c hc

theorem holdersOf_cons (d : Claim) (ds : List Claim) (x : Id) :
    (holdersOf (d :: ds) x : Int) = (if d.reserved.contains x then 1 else 0) + holdersOf ds x := by
  unfold holdersOf
  rw [List.filter_cons]
  split
  · rw [List.length_cons]; omega
  · omega

theorem holdersOf_split (ds : List Claim) (h : Host) (x : Id) (hn : (ds.map (·.host)).Nodup) :
    (holdersOf ds x : Int) = holdersOf (ds.filter (fun d => d.host != h)) x
      + (if (claimOf ds h).reserved.contains x then 1 else 0) := by
  induction ds with
  | nil => rfl
  | cons d ds ih =>
    rw [List.map_cons, List.nodup_cons] at hn
    rw [List.filter_cons, claimOf_cons]
    by_cases hd : d.host = h
    · have hne : ¬ (d.host != h) = true := by rw [hd, bne_self_eq_false]; exact Bool.false_ne_true
      -- no other claim has this hostname
      have h0 := ih hn.2
      rw [claimOf_fresh ds h (hd ▸ hn.1)] at h0
      change (holdersOf ds x : Int) = _ + 0 at h0
      rw [if_neg hne, if_pos hd, holdersOf_cons]
      omega
    · rw [if_pos (bne_iff_ne.mpr hd), if_neg hd, holdersOf_cons, holdersOf_cons, ih hn.2]
      omega

theorem claimOf_host (ds : List Claim) (h : Host) : (claimOf ds h).host = h := by
  unfold claimOf
  cases hf : ds.find? (fun c => c.host == h) with
  | none => rfl
  | some c =>
    exact eq_of_beq (List.find?_some (p := fun c : Claim => c.host == h) hf)

theorem claim_host (st : St) (h : Host) : (st.claim h).host = h := claimOf_host _ _

theorem addReserved_spec (rm : RM) (c : Claim) (ids : List Id)
    (hheld : ∀ x, rm.has c.host x = c.reserved.contains x)
    (hpre : ∀ id ∈ ids, rm.has c.host id = true ∨ 1 ≤ rm.remaining id) :
    ∃ rm', addReserved rm c ids = .ok (rm', { c with reserved := ids }) ∧
      (∀ h' x, rm'.has h' x = if h' = c.host then ids.contains x else rm.has h' x) ∧ Keeps c.host rm rm' := by
  obtain ⟨rm1, hr, hhas1, K1⟩ := reserve_spec c.host ids rm hpre
  obtain ⟨hhas2, K2⟩ := release_spec c.host (c.reserved.filter (fun id => !ids.contains id)) rm1
  refine ⟨releaseReserved rm1 c.host c.reserved ids, by rw [addReserved, hr]; rfl, fun h' x => ?_, K1.trans K2⟩
  rw [releaseReserved, hhas2, hhas1, contains_filter]
  by_cases hh : h' = c.host
  · rw [if_pos hh, hh, hheld, beq_self_eq_true]
    cases ids.contains x <;> cases c.reserved.contains x <;> rfl
  · rw [if_neg hh, beq_false_of_ne hh, Bool.false_and, Bool.false_and, Bool.false_or, Bool.not_false, Bool.and_true]

/-- the invariant of the NodeClaim rounds: `Ledger` with the holders counted over the claims (`holdersOf`); the manager
    holds for a hostname exactly what that host's claim records; `K` are the reservations named by offerings -/
structure Proto (K : List Id) (cap0 : Id → Int) (st : St) : Prop where
  nonneg : ∀ id, 0 ≤ st.rm.remaining id
  sum : ∀ id, st.rm.remaining id + (holdersOf st.claims id : Int) = cap0 id
  held : ∀ h id, st.rm.has h id = (claimOf st.claims h).reserved.contains id
  hosts : (st.claims.map (·.host)).Nodup
  known : ∀ id ∈ K, st.rm.known id = true

theorem add_preserves (K : List Id) (cap0 : Id → Int) (st : St) (h : Host) (ids : List Id)
    (P : Proto K cap0 st)
    (hpre : ∀ id ∈ ids, st.rm.has h id = true ∨ 1 ≤ st.rm.remaining id) :
    ∃ rm', addReserved st.rm (st.claim h) ids = .ok (rm', { host := h, reserved := ids }) ∧
      Proto K cap0 (st.put rm' { host := h, reserved := ids }) := by
  have hhost := claim_host st h
  obtain ⟨rm', e, hhas, Kp⟩ := addReserved_spec st.rm (st.claim h) ids
    (by rw [hhost]; exact P.held h) (by rwa [hhost])
  rw [hhost] at e hhas Kp
  refine ⟨rm', e, Kp.nonneg P.nonneg, ?_, ?_, ?_, fun id hid => Kp.known id (P.known id hid)⟩
  · intro x
    have hr := Kp.sum x
    have hs := P.sum x
    rw [hhas, if_pos rfl, P.held] at hr
    rw [holdersOf_split st.claims h x P.hosts] at hs
    show rm'.remaining x + (holdersOf ({ host := h, reserved := ids } :: st.claims.filter (fun d => d.host != h)) x : Int) = cap0 x
    rw [holdersOf_cons]
    show rm'.remaining x + ((if ids.contains x then 1 else 0) + (holdersOf (st.claims.filter (fun d => d.host != h)) x : Int)) = cap0 x
    omega
  · intro h' x
    show rm'.has h' x = (claimOf ({ host := h, reserved := ids } :: st.claims.filter (fun d => d.host != h)) h').reserved.contains x
    rw [hhas, claimOf_cons]
    by_cases hh : h' = h
    · rw [if_pos hh, if_pos hh.symm]
    · rw [if_neg hh, if_neg (Ne.symm hh), claimOf_filter_ne _ _ _ hh, P.held]
  · show (({ host := h, reserved := ids } :: st.claims.filter (fun d => d.host != h)).map (·.host)).Nodup
    rw [List.map_cons, List.nodup_cons]
    refine ⟨fun hm => ?_, (List.filter_sublist.map _).nodup P.hosts⟩
    obtain ⟨d, hd, hdh⟩ := List.mem_map.mp hm
    have := (List.mem_filter.mp hd).2
    simp [hdh] at this

/-- the filter `offeringsToReserve` applies -/
abbrev reservable (rm : RM) (h : Host) (compat : List Id) : List Id :=
  compat.filter (fun id => rm.has h id || rm.remaining id != 0)

/-- closed form of `offeringsToReserve` when every compatible id is known to the manager (no panic) -/
theorem offeringsToReserve_known (gate : Bool) (mode : Nat) (rm : RM) (c : Claim) (compat : List Id)
    (hk : ∀ id ∈ compat, rm.known id = true) :
    offeringsToReserve gate mode rm c compat = .ok (
      if !gate then some [] else
      if mode == strictMode && ((!compat.isEmpty && (reservable rm c.host compat).isEmpty)
          || (!c.reserved.isEmpty && (reservable rm c.host compat).isEmpty)) then none
      else some (reservable rm c.host compat)) := by
  unfold offeringsToReserve
  cases gate with
  | false => rfl
  | true =>
    simp only [Bool.not_true, Bool.false_eq_true, if_false]
    rw [toReserve_known rm c.host compat hk]
    dsimp only
    split <;> rfl

theorem offeringsToReserve_some (gate : Bool) (mode : Nat) (rm : RM) (c : Claim) (compat ids : List Id)
    (hk : ∀ id ∈ compat, rm.known id = true) (h : offeringsToReserve gate mode rm c compat = .ok (some ids)) :
    ids = [] ∨ ids = reservable rm c.host compat := by
  rw [offeringsToReserve_known gate mode rm c compat hk] at h
  injection h with h
  split at h
  · exact .inl (Option.some.inj h).symm
  · split at h
    · cases h
    · exact .inr (Option.some.inj h).symm

theorem round_preserves (K : List Id) (cap0 : Id → Int) (gate : Bool) (mode : Nat) (st : St) (r : Round)
    (P : Proto K cap0 st) (hk : ∀ id ∈ r.compat, id ∈ K) :
    ∃ st' b, round gate mode st r = .ok (st', b) ∧ Proto K cap0 st' := by
  have hkn : ∀ id ∈ r.compat, st.rm.known id = true := fun id hid => P.known id (hk id hid)
  unfold round
  dsimp only
  cases ho : offeringsToReserve gate mode st.rm (st.claim r.host) r.compat with
  | error p => rw [offeringsToReserve_known gate mode st.rm _ r.compat hkn] at ho; cases ho
  | ok o =>
    cases o with
    | none => exact ⟨st, false, rfl, P⟩
    | some ids =>
      obtain ⟨rm', hadd, P'⟩ := add_preserves K cap0 st r.host ids P (by
        intro id hid
        rcases offeringsToReserve_some gate mode st.rm _ r.compat ids hkn ho with e | e
        · rw [e] at hid; cases hid
        · rw [e, claim_host] at hid
          have hc := (List.mem_filter.mp hid).2
          rw [Bool.or_eq_true, bne_iff_ne] at hc
          have := P.nonneg id
          exact hc.imp_right (by omega))
      dsimp only
      rw [hadd]
      exact ⟨_, true, rfl, P'⟩

theorem rounds_preserves (K : List Id) (cap0 : Id → Int) (gate : Bool) (mode : Nat) :
    ∀ (rs : List Round) (st : St), Proto K cap0 st → (∀ r ∈ rs, ∀ id ∈ r.compat, id ∈ K) →
      ∃ st', rounds gate mode st rs = .ok st' ∧ Proto K cap0 st' := by
  intro rs
  induction rs with
  | nil => intro st P _; exact ⟨st, rfl, P⟩
  | cons r rs ih =>
    intro st P hk
    obtain ⟨st1, b, hr, P1⟩ := round_preserves K cap0 gate mode st r P (hk r (List.mem_cons_self ..))
    obtain ⟨st2, hrs, P2⟩ := ih st1 P1 (fun r' hr' => hk r' (List.mem_cons_of_mem _ hr'))
    refine ⟨st2, ?_, P2⟩
    unfold rounds
    rw [hr]
    exact hrs

theorem proto_init (offerings : List (Id × Int)) (h : ∀ o ∈ offerings, 0 ≤ o.2) :
    Proto (offerings.map (·.1)) (fun id => (RM.new offerings).remaining id) (St.init offerings) := by
  have L := ledger_new offerings h
  refine ⟨L.nonneg, ?_, ?_, ?_, ?_⟩
  · intro id; simp [St.init, holdersOf]
  · intro hh id; simp [St.init, RM.new, RM.has, claimOf]
  · simp [St.init]
  · intro id hid
    obtain ⟨o, ho, hoid⟩ := List.mem_map.mp hid
    exact (new_min offerings id).1.mpr ⟨o, ho, hoid⟩

/-- a claim is opened from the first template that does not plainly fail, if that one succeeds (`b`: where the scan
    started) -/
theorem pickTemplate_eq_some (outs : List TOut) (b i : Nat) :
    pickTemplate outs b = some i ↔
      ∃ k, i = b + k ∧ outs[k]? = some TOut.ok ∧ ∀ j : Nat, j < k → outs[j]? = some TOut.fail := by
  fun_induction pickTemplate outs b with
  | case1 => exact ⟨fun h => (nomatch h), fun ⟨_, _, h, _⟩ => (nomatch h)⟩
  | case2 =>
    constructor
    · intro h
      exact ⟨0, (Option.some.inj h).symm, rfl, fun j hj => absurd hj (Nat.not_lt_zero j)⟩
    · rintro ⟨k, rfl, _, hf⟩
      cases k with
      | zero => rfl
      | succ k => exact nomatch hf 0 (Nat.succ_pos k)
  | case3 =>
    refine ⟨fun h => (nomatch h), fun ⟨k, _, hk, hf⟩ => ?_⟩
    cases k with
    | zero => exact nomatch hk
    | succ k => exact nomatch hf 0 (Nat.succ_pos k)
  | case4 os b ih =>
    rw [ih]
    constructor
    · rintro ⟨k, rfl, hk, hf⟩
      refine ⟨k + 1, by omega, hk, fun j hj => ?_⟩
      cases j with
      | zero => rfl
      | succ j => exact hf j (by omega)
    · rintro ⟨k, rfl, hk, hf⟩
      cases k with
      | zero => exact nomatch hk
      | succ k => exact ⟨k, by omega, hk, fun j hj => hf (j + 1) (by omega)⟩

theorem trySchedule_skip (k n : Nat) (rest : List (Option Bool)) (hne : rest ≠ []) :
    trySchedule (List.replicate k (some false) ++ rest) n = trySchedule rest (n + k) := by
  induction k generalizing n with
  | zero => rfl
  | succ k ih =>
    rw [List.replicate_succ, List.cons_append, trySchedule,
      List.isEmpty_eq_false_iff.mpr (List.append_ne_nil_of_right_ne_nil _ hne), if_neg Bool.false_ne_true, ih (n + 1),
      Nat.add_assoc, Nat.add_comm 1 k]

open Karp.Req

theorem has_inReq (key : String) (vals : List Val) (v : Val) : (inReq key vals).has v = vals.contains v := by
  simp [inReq, Req.has, withinBounds]

end Karp.Reservation
