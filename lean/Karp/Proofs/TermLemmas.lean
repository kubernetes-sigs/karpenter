/-
Helper lemmas for C09 (`Karp/Props/C09.lean`): what a single pass of the node termination controller
(`nodeReconcile`) and of the NodeClaim lifecycle controller (`claimFinalize`, `claimLaunch`) can do, for ALL
observations, fault vectors and provider answers.
-/
import Karp.Model.TermWorld

namespace Karp.Term
open Karp.Gen

theorem stageOrder_eq : stageOrder = [.drain, .volumes, .instance] := by decide

def StageOut.pass (o : StageOut) : Bool := o.res = .none && !o.err

section
variable {s : Stage} {rest : List Stage} {now : Int} {hc : Bool} {term : Option Int} {pods : List Pod} {vas : List VA}
  {f : NodeFaults} {d : ProvOut} {c : Conds}

theorem stageDrain_pass (h : (stageDrain now hc pods f c).pass = true) :
    waitingPods now pods = [] ∧ (hc = true → minDrainPending now (drainInit now hc c) = false) := by
  revert h
  fun_cases stageDrain now hc pods f c
  -- the two branches that pass: no pod waited for, and either a claim whose MinDrainTime is over or no claim
  case case3 hw hhc hm => exact fun _ => ⟨List.isEmpty_iff.mp hw, fun _ => (Bool.not_eq_true _).mp hm⟩
  case case4 hw hhc => exact fun _ => ⟨List.isEmpty_iff.mp hw, fun h => absurd h hhc⟩
  all_goals exact nofun

/-- a Drained condition set in this very pass is Unknown since `now`: `MinDrainTime` cannot have passed
    (`hfact`: the comparison generated from the source is the strict one against it) -/
theorem minDrain_passed {now : Int} {c : Conds}
    (hfact : Finalize.minDrainCmpNs = Finalize.minDrainTimeNs ∧ Finalize.minDrainCmpStrict = true)
    (h : minDrainPending now (drainInit now true c) = false) :
    c.drained ≠ .absent ∧ (c.drained = .unknown → (Finalize.minDrainTimeNs : Int) ≤ now - c.drainedAt) := by
  obtain ⟨he, hs⟩ := hfact
  have hm : (Finalize.minDrainTimeNs : Int) > 0 := by decide
  unfold minDrainPending drainInit at h
  cases hd : c.drained
  · simp [hd, cmpLt, hs, he] at h
    omega
  · simp
  · simp
  · simp [hd, cmpLt, hs, he] at h
    simp [h]

theorem stageVolumes_pass (h : (stageVolumes now hc term pods vas f c).pass = true) :
    pendingVAs now f.getPVC pods vas = [] ∨ elapsed now term = true := by
  revert h
  fun_cases stageVolumes now hc term pods vas f c
  case case3 hp => exact fun _ => Or.inl (List.isEmpty_iff.mp hp)  -- no attachment waited for
  case case4 he => exact fun _ => Or.inr he  -- the termination deadline is over
  all_goals exact nofun

theorem stageInstance_pass (h : (stageInstance hc d c).pass = true) : hc = true → d = .notFound := by
  revert h
  fun_cases stageInstance hc d c
  case case1 hh => exact fun _ h => absurd (hh ▸ h) nofun  -- no claim
  case case5 => exact fun _ _ => rfl  -- the provider answered Delete with NotFound
  all_goals exact nofun

theorem runStage_calls (hs : s ≠ .instance) : (runStage s now hc term pods vas f d c).calls = [] := by
  cases s
  · dsimp only [runStage]
    fun_cases stageDrain now hc pods f c <;> rfl
  · dsimp only [runStage]
    fun_cases stageVolumes now hc term pods vas f c <;> rfl
  · exact absurd rfl hs

theorem StageOut.pass_iff (o : StageOut) : o.pass = true ↔ ¬ (o.res ≠ .none || o.err) = true := by
  unfold StageOut.pass
  cases o.err <;> by_cases h : o.res = .none <;> simp [h]

theorem runStages_cons_pass (h : (runStages (s :: rest) now hc term pods vas f d c).pass = true) :
    (runStage s now hc term pods vas f d c).pass = true ∧
    (runStages rest now hc term pods vas f d (runStage s now hc term pods vas f d c).conds).pass = true := by
  rw [runStages] at h
  dsimp only at h
  by_cases hb : (runStage s now hc term pods vas f d c).pass = true
  · rw [if_neg ((StageOut.pass_iff _).mp hb)] at h
    exact ⟨hb, h⟩
  · rw [if_pos (Decidable.not_not.mp (mt (StageOut.pass_iff _).mpr hb))] at h
    exact absurd h hb

theorem mem_runStages_cons {a : Act} (h : a ∈ (runStages (s :: rest) now hc term pods vas f d c).calls) :
    a ∈ (runStage s now hc term pods vas f d c).calls ∨
    ((runStage s now hc term pods vas f d c).pass = true ∧
      a ∈ (runStages rest now hc term pods vas f d (runStage s now hc term pods vas f d c).conds).calls) := by
  rw [runStages] at h
  dsimp only at h
  split at h
  · exact Or.inl h
  · rename_i hb
    exact (List.mem_append.mp h).imp_right fun h' => ⟨(StageOut.pass_iff _).mpr hb, h'⟩

theorem runStages_pass (h : (runStages stageOrder now hc term pods vas f d c).pass = true) :
    waitingPods now pods = [] ∧ (hc = true → minDrainPending now (drainInit now hc c) = false) ∧
    (pendingVAs now f.getPVC pods vas = [] ∨ elapsed now term = true) ∧ (hc = true → d = .notFound) := by
  rw [stageOrder_eq] at h
  obtain ⟨h1, h'⟩ := runStages_cons_pass h
  obtain ⟨h2, h''⟩ := runStages_cons_pass h'
  obtain ⟨a1, a2⟩ := stageDrain_pass h1
  exact ⟨a1, a2, stageVolumes_pass h2, stageInstance_pass (runStages_cons_pass h'').1⟩

theorem providerDelete_after_drain (h : Act.providerDelete ∈ (runStages stageOrder now hc term pods vas f d c).calls) :
    waitingPods now pods = [] ∧ (hc = true → minDrainPending now (drainInit now hc c) = false) ∧
    (pendingVAs now f.getPVC pods vas = [] ∨ elapsed now term = true) := by
  rw [stageOrder_eq] at h
  rcases mem_runStages_cons h with h | ⟨h1, h⟩
  · rw [runStage_calls (s := .drain) nofun] at h; cases h
  rcases mem_runStages_cons h with h | ⟨h2, _⟩
  · rw [runStage_calls (s := .volumes) nofun] at h; cases h
  obtain ⟨a1, a2⟩ := stageDrain_pass h1
  exact ⟨a1, a2, stageVolumes_pass h2⟩

end

theorem removeNodeFinalizer_removed (f : NodeFaults) (o : NodeOut) (h : (removeNodeFinalizer f o).removed = true) :
    o.removed = true ∨ f.removeFinalizer = .ok := by
  revert h
  fun_cases removeNodeFinalizer f o
  case case2 hf => exact fun _ => Or.inr hf  -- the removal succeeded
  all_goals exact Or.inl

theorem removeNodeFinalizer_facts (f : NodeFaults) (o : NodeOut) :
    (removeNodeFinalizer f o).taintPatched = o.taintPatched ∧ (removeNodeFinalizer f o).deletedClaim = o.deletedClaim ∧
    (removeNodeFinalizer f o).triggered = o.triggered ∧ (removeNodeFinalizer f o).conds = o.conds := by
  fun_cases removeNodeFinalizer f o <;> exact ⟨rfl, rfl, rfl, rfl⟩

theorem pd_removeNodeFinalizer (f : NodeFaults) (o : NodeOut) (h : Act.providerDelete ∈ (removeNodeFinalizer f o).calls) :
    Act.providerDelete ∈ o.calls := by
  revert h
  unfold removeNodeFinalizer
  cases f.removeFinalizer <;> simp

/-- what the rest of `finalize` after the stage loop `s` can have made of the log `o` -/
def Continues (s : StageOut) (o r : NodeOut) : Prop :=
  (r.removed = true → o.removed = true ∨ s.pass = true) ∧
  (Act.providerDelete ∈ r.calls → Act.providerDelete ∈ o.calls ∨ Act.providerDelete ∈ s.calls) ∧
  r.taintPatched = o.taintPatched

theorem nodeFin_continues (f : NodeFaults) (s : StageOut) (o r : NodeOut) (h : Continues s o r) :
    Continues s o (nodeFin f s r) := by
  fun_cases nodeFin f s r
  case case3 he hr =>  -- no stage error, no requeue: the finalizer removal
    exact ⟨fun _ => Or.inr ((StageOut.pass_iff s).mpr (by simp [he, hr])), fun hm => h.2.1 (pd_removeNodeFinalizer f r hm),
      (removeNodeFinalizer_facts f r).1.trans h.2.2⟩
  all_goals exact h

theorem nodeTail_continues (f : NodeFaults) (hc : Bool) (stored : Conds) (s : StageOut) (o : NodeOut) :
    Continues s o (nodeTail f hc stored s o) := by
  have m1 : Act.providerDelete ∈ o.calls ++ s.calls → Act.providerDelete ∈ o.calls ∨ Act.providerDelete ∈ s.calls :=
    List.mem_append.mp
  have m2 : Act.providerDelete ∈ o.calls ++ s.calls ++ [Act.patchClaimStatus] →
      Act.providerDelete ∈ o.calls ∨ Act.providerDelete ∈ s.calls :=
    fun h => (List.mem_append.mp h).elim m1 fun h => nomatch List.mem_singleton.mp h
  fun_cases nodeTail f hc stored s o
  case case3 | case4 => exact nodeFin_continues f s o _ ⟨Or.inl, m2, rfl⟩  -- status patch ok / NotFound, then `nodeFin`
  case case7 => exact nodeFin_continues f s o _ ⟨Or.inl, m1, rfl⟩  -- no status patch, then `nodeFin`
  case case1 => exact ⟨Or.inl, m1, rfl⟩  -- the stage loop crashed
  all_goals exact ⟨Or.inl, m2, rfl⟩  -- the status patch crashed, conflicted or failed

structure OrderedPath (now : Int) (n : NodeObs) (claim : Option ClaimObs) (pods : List Pod) (vas : List VA)
    (f : NodeFaults) (delOut : ProvOut) (taintPatched : Bool) : Prop where
  tainted : (n.tainted && n.lb) = true ∨ taintPatched = true
  drained : waitingPods now pods = []
  minDrain : claim.isSome = true → minDrainPending now (drainInit now claim.isSome (storedConds claim)) = false
  volumes : pendingVAs now f.getPVC pods vas = [] ∨ elapsed now (termOf claim) = true
  instance_ : claim.isSome = true → delOut = .notFound


def NodeOut.quiet (o : NodeOut) : Prop := o.removed = false ∧ Act.providerDelete ∉ o.calls

theorem NodeOut.quiet_call {o : NodeOut} (h : o.quiet) (a : Act) (ha : a ≠ .providerDelete) (o' : NodeOut)
    (hr : o'.removed = o.removed) (hc : o'.calls = o.calls ++ [a]) : o'.quiet :=
  ⟨hr.trans h.1, fun hm => by
    rw [hc] at hm
    rcases List.mem_append.mp hm with hm | hm
    · exact h.2 hm
    · exact ha (List.mem_singleton.mp hm).symm⟩

section
variable {now : Int} {n : NodeObs} {claim : Option ClaimObs} {pods : List Pod} {vas : List VA} {f : NodeFaults}
  {getOut delOut : ProvOut} {o : NodeOut}

/-- what the log of a node pass may hold: the finalizer removed only by the instance-gone shortcut or at the end of the
    ordered path, the provider asked to terminate the instance only on a tainted, drained node without pending attachments -/
structure NodeLogOk (now : Int) (n : NodeObs) (claim : Option ClaimObs) (pods : List Pod) (vas : List VA) (f : NodeFaults)
    (getOut delOut : ProvOut) (o : NodeOut) : Prop where
  removed : o.removed = true → (n.ready = false ∧ getOut = .notFound) ∨ OrderedPath now n claim pods vas f delOut o.taintPatched
  asked : Act.providerDelete ∈ o.calls → ((n.tainted && n.lb) = true ∨ o.taintPatched = true) ∧ waitingPods now pods = [] ∧
    (pendingVAs now f.getPVC pods vas = [] ∨ elapsed now (termOf claim) = true)

theorem NodeOut.quiet_ok (h : o.quiet) : NodeLogOk now n claim pods vas f getOut delOut o :=
  ⟨fun hr => absurd hr (h.1 ▸ nofun), fun hm => absurd hm h.2⟩

theorem removeNodeFinalizer_ok (h : NodeLogOk now n claim pods vas f getOut delOut o)
    (hg : (n.ready = false ∧ getOut = .notFound) ∨ OrderedPath now n claim pods vas f delOut o.taintPatched) :
    NodeLogOk now n claim pods vas f getOut delOut (removeNodeFinalizer f o) :=
  ⟨fun _ => (removeNodeFinalizer_facts f o).1 ▸ hg,
    fun hm => (removeNodeFinalizer_facts f o).1 ▸ h.asked (pd_removeNodeFinalizer f o hm)⟩

/-- the end of `finalize` after the stage loop, entered with a quiet log on a node that is tainted by then -/
theorem nodeTail_ok (hq : o.quiet) (ht : (n.tainted && n.lb) = true ∨ o.taintPatched = true) :
    NodeLogOk now n claim pods vas f getOut delOut (nodeTail f claim.isSome (storedConds claim)
      (runStages stageOrder now claim.isSome (termOf claim) pods vas f delOut (storedConds claim)) o) := by
  have hc := nodeTail_continues f claim.isSome (storedConds claim)
    (runStages stageOrder now claim.isSome (termOf claim) pods vas f delOut (storedConds claim)) o
  refine ⟨fun hr => Or.inr ?_, fun hm => ?_⟩
  · obtain ⟨a, b, c, d⟩ := runStages_pass ((hc.1 hr).resolve_left (hq.1 ▸ nofun))
    exact ⟨ht.imp_right (hc.2.2.trans ·), a, b, c, d⟩
  · obtain ⟨a, _, c⟩ := providerDelete_after_drain ((hc.2.1 hm).resolve_left hq.2)
    exact ⟨ht.imp_right (hc.2.2.trans ·), a, c⟩

theorem nodeFromTaint_ok (hq : o.quiet) :
    NodeLogOk now n claim pods vas f getOut delOut (nodeFromTaint now n claim pods vas f delOut o) := by
  have h1 : (if (!(n.tainted && n.lb)) = true then { o with calls := o.calls ++ [Act.patchNode] } else o).quiet := by
    split
    · exact NodeOut.quiet_call hq .patchNode nofun _ rfl rfl
    · exact hq
  fun_cases nodeFromTaint now n claim pods vas f delOut o
  case case1 => exact NodeOut.quiet_ok hq  -- malformed deadline annotation
  case case6 =>  -- the taint is there or its patch succeeded: the stages run
    refine nodeTail_ok h1 ?_
    show (n.tainted && n.lb) = true ∨ (!(n.tainted && n.lb)) = true
    cases (n.tainted && n.lb)
    · exact Or.inr rfl
    · exact Or.inl rfl
  all_goals exact NodeOut.quiet_ok h1

theorem nodeFromReady_ok (hq : o.quiet) :
    NodeLogOk now n claim pods vas f getOut delOut (nodeFromReady now n claim pods vas f getOut delOut o) := by
  have h1 : (if n.ready = true then o else { o with calls := o.calls ++ [Act.providerGet] }).quiet := by
    split
    · exact hq
    · exact NodeOut.quiet_call hq .providerGet nofun _ rfl rfl
  fun_cases nodeFromReady now n claim pods vas f getOut delOut o
  case case3 hg =>  -- the instance-gone shortcut
    refine removeNodeFinalizer_ok (NodeOut.quiet_ok h1) (Or.inl ?_)
    cases hr : n.ready <;> rw [hr] at hg
    · exact ⟨rfl, hg⟩
    · cases hg
  case case4 => exact nodeFromTaint_ok h1  -- the Node is Ready or the provider still has the instance
  all_goals exact NodeOut.quiet_ok h1

end

theorem nodeReconcile_ok (now : Int) (n : NodeObs) (claims : List ClaimObs) (pods : List Pod) (vas : List VA)
    (f : NodeFaults) (getOut delOut : ProvOut) :
    ((nodeReconcile now n claims pods vas f getOut delOut).removed = true → n.deleting = true ∧ n.finalizer = true ∧ n.managed = true) ∧
    NodeLogOk now n (nodeClaimOf n claims) pods vas f getOut delOut (nodeReconcile now n claims pods vas f getOut delOut) := by
  have h0 : ∀ b : Bool, (if b = true then ({ calls := [Act.deleteClaim] } : NodeOut) else {}).quiet := by
    intro b; cases b
    · exact ⟨rfl, List.not_mem_nil⟩
    · exact ⟨rfl, by decide⟩
  have hg' : ¬(!n.deleting || !n.finalizer || !n.managed) = true → n.deleting = true ∧ n.finalizer = true ∧ n.managed = true := by
    cases n.deleting <;> cases n.finalizer <;> cases n.managed <;> simp
  fun_cases nodeReconcile now n claims pods vas f getOut delOut
  -- not this controller's Node, or the NodeClaim lookup failed
  case case1 | case2 | case3 => exact ⟨nofun, NodeOut.quiet_ok ⟨rfl, List.not_mem_nil⟩⟩
  -- the two branches that go on to `nodeFromReady`: the claim's Delete answered ok, or NotFound
  case case7 hg _ _ _ _ _ _ _ => exact ⟨fun _ => hg' hg, nodeFromReady_ok ⟨(h0 _).1, (h0 _).2⟩⟩
  case case8 hg _ _ _ _ _ _ _ => exact ⟨fun _ => hg' hg, nodeFromReady_ok (h0 _)⟩
  all_goals exact ⟨fun h => absurd h ((h0 _).1 ▸ nofun), NodeOut.quiet_ok (h0 _)⟩

/-- **single pass, node**: if a pass of the node termination controller removes the finalizer, then the node was being
    deleted, carried the finalizer and is managed, and either it is not Ready and the provider answered `Get` with
    not-found, or the ordered path was completed in this very pass. -/
theorem nodeReconcile_removed {now : Int} {n : NodeObs} {claims : List ClaimObs} {pods : List Pod} {vas : List VA}
    {f : NodeFaults} {getOut delOut : ProvOut}
    (h : (nodeReconcile now n claims pods vas f getOut delOut).removed = true) :
    (n.deleting = true ∧ n.finalizer = true ∧ n.managed = true) ∧
    ((n.ready = false ∧ getOut = .notFound) ∨
      OrderedPath now n (nodeClaimOf n claims) pods vas f delOut (nodeReconcile now n claims pods vas f getOut delOut).taintPatched) :=
  ⟨(nodeReconcile_ok ..).1 h, (nodeReconcile_ok ..).2.removed h⟩

/-- **single pass, order**: the node termination controller asks the provider to terminate the instance only in a
    pass in which the node is (by then) tainted, no pod waits for eviction and no volume attachment is pending (or the
    deadline has passed). -/
theorem nodeReconcile_providerDelete {now : Int} {n : NodeObs} {claims : List ClaimObs} {pods : List Pod} {vas : List VA}
    {f : NodeFaults} {getOut delOut : ProvOut}
    (h : Act.providerDelete ∈ (nodeReconcile now n claims pods vas f getOut delOut).calls) :
    ((n.tainted && n.lb) = true ∨ (nodeReconcile now n claims pods vas f getOut delOut).taintPatched = true) ∧
    waitingPods now pods = [] ∧
    (pendingVAs now f.getPVC pods vas = [] ∨ elapsed now (termOf (nodeClaimOf n claims)) = true) :=
  (nodeReconcile_ok ..).2.asked h


/-- the fields of a lifecycle pass that only the launch path or the end of `finalize` can set -/
structure ClaimCore where
  removed : Bool
  created : Bool
  launchPersisted : Bool
  statusPersisted : Bool
  finalizerAdded : Bool
  selfDeleted : Bool
  instPersisted : Bool
  triggered : Bool
deriving DecidableEq

def ClaimOut.core (o : ClaimOut) : ClaimCore :=
  { removed := o.removed, created := o.created, launchPersisted := o.launchPersisted, statusPersisted := o.statusPersisted,
    finalizerAdded := o.finalizerAdded, selfDeleted := o.selfDeleted, instPersisted := o.instPersisted, triggered := o.triggered }

def ClaimCore.zero : ClaimCore :=
  { removed := false, created := false, launchPersisted := false, statusPersisted := false, finalizerAdded := false,
    selfDeleted := false, instPersisted := false, triggered := false }

theorem deleteNodes_core (fault : Fault) : ∀ (l : List NodeRef) (o : ClaimOut), (deleteNodes fault l o).1.core = o.core := by
  intro l
  induction l with
  | nil => intro o; rfl
  | cons n rest ih =>
    intro o
    unfold deleteNodes
    cases n.deleting
    · simp only [Bool.false_eq_true, if_false]
      cases fault <;> simp only [] <;> (try rw [ih]) <;> rfl
    · simp only [if_true]; exact ih o

theorem removeClaimFinalizer_core (f : ClaimFaults) (o : ClaimOut) :
    (removeClaimFinalizer f o).core = { o.core with removed := (removeClaimFinalizer f o).removed } ∧
    ((removeClaimFinalizer f o).removed = true → o.removed = true ∨ f.removeFinalizer = .ok) := by
  fun_cases removeClaimFinalizer f o
  case case2 h => exact ⟨rfl, fun _ => Or.inr h⟩  -- the removal succeeded
  all_goals exact ⟨rfl, Or.inl⟩

theorem core_eq {a b : ClaimOut} (h : a.core = b.core) :
    a.removed = b.removed ∧ a.created = b.created ∧ a.launchPersisted = b.launchPersisted ∧ a.statusPersisted = b.statusPersisted ∧
    a.finalizerAdded = b.finalizerAdded ∧ a.selfDeleted = b.selfDeleted ∧ a.instPersisted = b.instPersisted ∧ a.triggered = b.triggered := by
  simp only [ClaimOut.core, ClaimCore.mk.injEq] at h
  exact h

theorem claimInstanceStep_spec (c : ClaimState) (f : ClaimFaults) (d : ProvOut) (o : ClaimOut) :
    ∃ r ip t, (claimInstanceStep c f d o).core = { o.core with removed := r, instPersisted := ip, triggered := t } ∧
      (r = true → o.removed = true ∨ (c.pid = true → d = .notFound)) ∧ (t = true → o.triggered = true ∨ d = .ok) := by
  unfold claimInstanceStep
  cases c.pid
  · exact ⟨_, _, _, (removeClaimFinalizer_core f o).1, fun _ => Or.inr nofun, Or.inl⟩
  · -- the status patch is an `if` between two records which every later update would copy field by field:
    -- decide it before anything is simplified
    cases d
    case crash | err => exact ⟨_, _, _, rfl, Or.inl, Or.inl⟩
    case ok =>
      by_cases hnp : c.inst ≠ CondS.true_
      · simp only [if_pos hnp]
        cases f.patchStatus <;> exact ⟨_, _, _, rfl, Or.inl, fun _ => Or.inr trivial⟩
      · simp only [if_neg hnp]
        exact ⟨_, _, _, rfl, Or.inl, fun _ => Or.inr trivial⟩
    case notFound =>
      by_cases hnp : c.inst ≠ CondS.true_
      · simp only [if_pos hnp, if_true, if_false, reduceCtorEq]
        cases f.patchStatus
        case ok => exact ⟨_, _, false, (removeClaimFinalizer_core f _).1, fun _ => Or.inr fun _ => trivial, nofun⟩
        all_goals exact ⟨_, _, false, rfl, fun _ => Or.inr fun _ => trivial, nofun⟩
      · simp only [if_neg hnp, if_true, if_false, reduceCtorEq]
        exact ⟨_, _, false, (removeClaimFinalizer_core f _).1, fun _ => Or.inr fun _ => trivial, nofun⟩

structure FinalizeFacts (c : ClaimState) (nodes : List NodeRef) (d : ProvOut) (o : ClaimOut) : Prop where
  removed : o.removed = true → c.finalizer = true ∧ nodesOfClaim c nodes = [] ∧ (c.pid = true → d = .notFound)
  created : o.created = false
  launchPersisted : o.launchPersisted = false
  statusPersisted : o.statusPersisted = false
  finalizerAdded : o.finalizerAdded = false
  selfDeleted : o.selfDeleted = false
  triggered : o.triggered = true → d = .ok

theorem claimFinalize_spec (c : ClaimState) (nodes : List NodeRef) (f : ClaimFaults) (d : ProvOut) :
    FinalizeFacts c nodes d (claimFinalize c nodes f d) := by
  -- a pass that ends before the instance step has written none of the core fields
  have idle : ∀ o : ClaimOut, o.core = ClaimCore.zero → FinalizeFacts c nodes d o := by
    intro o h
    obtain ⟨h1, h2, h3, h4, h5, h6, _, h8⟩ := core_eq (b := {}) h
    exact ⟨fun hr => Bool.noConfusion (h1.symm.trans hr), h2, h3, h4, h5, h6, fun ht => Bool.noConfusion (h8.symm.trans ht)⟩
  have hz : ∀ b : Bool, (if b = true then ({ calls := [Act.annotateClaim] } : ClaimOut) else {}).core = ClaimCore.zero :=
    fun b => by cases b <;> rfl
  fun_cases claimFinalize c nodes f d
  case case1 => exact idle _ rfl  -- no finalizer
  -- the annotation patch or the Node list failed
  case case2 | case3 | case4 | case5 | case6 => exact idle _ (hz _)
  -- every Node delete went through and no Node of the claim is left: `claimInstanceStep`
  case case9 hfin _ _ _ _ _ _ _ hemp _ _ _ _ dn _ =>
    obtain ⟨r, ip, t, hcore, hr, ht⟩ := claimInstanceStep_spec c f d dn.1
    have hdn : dn.1.core = ClaimCore.zero := (deleteNodes_core _ _ _).trans (hz _)
    have hr0 : dn.1.removed = false := congrArg ClaimCore.removed hdn
    have ht0 : dn.1.triggered = false := congrArg ClaimCore.triggered hdn
    rw [hdn] at hcore
    obtain ⟨e1, e2, e3, e4, e5, e6, _, e8⟩ := core_eq (b := { removed := r, instPersisted := ip, triggered := t }) hcore
    exact ⟨fun h => ⟨by simpa using hfin, List.isEmpty_iff.mp (by simpa using hemp), (hr (e1.symm.trans h)).resolve_left (hr0 ▸ nofun)⟩,
      e2, e3, e4, e5, e6, fun h => (ht (e8.symm.trans h)).resolve_left (ht0 ▸ nofun)⟩
  -- a Node delete failed, or Nodes of the claim are still there
  all_goals exact idle _ ((deleteNodes_core _ _ _).trans (hz _))

structure LaunchFacts (c : ClaimState) (cache : Bool) (o : ClaimOut) : Prop where
  removed : o.removed = false
  triggered : o.triggered = false
  nodesDeleted : o.nodesDeleted = 0
  annotated : o.annotated = false
  instPersisted : o.instPersisted = false
  created : o.created = true → c.fresh = true ∧ cache = false
  finalizer : (o.created = true ∨ o.selfDeleted = true ∨ o.statusPersisted = true) → (c.finalizer = true ∨ o.finalizerAdded = true)
  persisted : o.launchPersisted = true → o.statusPersisted = true
  freshOnly : o.statusPersisted = true → c.fresh = true

/-- what `LaunchFacts` reads of a log -/
def ClaimOut.eff (o : ClaimOut) : ClaimCore × Nat × Bool := (o.core, o.nodesDeleted, o.annotated)

theorem LaunchFacts.congr {c : ClaimState} {cache : Bool} {o o' : ClaimOut} (h : LaunchFacts c cache o) (e : o'.eff = o.eff) :
    LaunchFacts c cache o' := by
  simp only [ClaimOut.eff, ClaimOut.core, Prod.mk.injEq, ClaimCore.mk.injEq] at e
  obtain ⟨⟨e1, e2, e3, e4, e5, e6, e7, e8⟩, e9, e10⟩ := e
  exact ⟨e1 ▸ h.removed, e8 ▸ h.triggered, e9 ▸ h.nodesDeleted, e10 ▸ h.annotated, e7 ▸ h.instPersisted,
    e2 ▸ h.created, e2 ▸ e6 ▸ e4 ▸ e5 ▸ h.finalizer, e3 ▸ e4 ▸ h.persisted, e4 ▸ h.freshOnly⟩

/-- the launch path of a fresh claim whose finalizer is in place: `LaunchFacts` holds of the log at every point of it -/
structure Launching (c : ClaimState) (cache : Bool) (o : ClaimOut) : Prop extends LaunchFacts c cache o where
  fresh : c.fresh = true
  fin : c.finalizer = true ∨ o.finalizerAdded = true

theorem Launching.congr {c : ClaimState} {cache : Bool} {o o' : ClaimOut} (h : Launching c cache o) (e : o'.eff = o.eff) :
    Launching c cache o' :=
  ⟨h.toLaunchFacts.congr e, h.fresh, (congrArg (·.1.finalizerAdded) e : o'.finalizerAdded = o.finalizerAdded) ▸ h.fin⟩

theorem launchPersist_keeps {c : ClaimState} {cache : Bool} {o : ClaimOut} (h : Launching c cache o) (hv l r : Bool) (f : ClaimFaults) :
    Launching c cache (launchPersist hv l r f o) := by
  fun_cases launchPersist hv l r f o
  case case9 =>  -- both patches succeeded
    exact ⟨⟨h.removed, h.triggered, h.nodesDeleted, h.annotated, h.instPersisted, h.created, fun _ => h.fin, fun _ => rfl,
      fun _ => h.fresh⟩, h.fresh, h.fin⟩
  all_goals exact h.congr rfl

theorem launchCreated_keeps {c : ClaimState} {cache : Bool} {o : ClaimOut} (h : Launching c cache o) (co : CreateOut) :
    Launching c cache (launchCreated cache co o) := by
  fun_cases launchCreated cache co o
  case case3 =>  -- `Create` answered ok (or the cache was hit)
    exact ⟨⟨h.removed, h.triggered, h.nodesDeleted, h.annotated, h.instPersisted, fun hc => ⟨h.fresh, (Bool.not_eq_true' _).mp hc⟩,
      fun _ => h.fin, h.persisted, h.freshOnly⟩, h.fresh, h.fin⟩
  case case4 => exact h.congr rfl  -- `Create` failed otherwise
  -- insufficient capacity / node class not ready: the claim deletes itself
  all_goals exact ⟨⟨h.removed, h.triggered, h.nodesDeleted, h.annotated, h.instPersisted, h.created, fun _ => h.fin, h.persisted,
    h.freshOnly⟩, h.fresh, h.fin⟩

theorem launchFresh_keeps {c : ClaimState} {cache : Bool} {o : ClaimOut} (h : Launching c cache o) (f : ClaimFaults) (co : CreateOut) :
    Launching c cache (launchFresh cache f co o) := by
  unfold launchFresh
  dsimp only
  -- the optional `Create` call adds to `calls` alone
  generalize ho1 : (if cache = true then o else { o with calls := o.calls ++ [Act.providerCreate] }) = o1
  have h1 : Launching c cache o1 := by
    rw [← ho1]; split
    · exact h
    · exact h.congr rfl
  generalize (if cache = true then CreateOut.ok else co) = co'
  generalize (if co' = CreateOut.ok then f.listNodes else Fault.ok) = lf
  split
  · exact h1.congr rfl
  split
  · exact (launchCreated_keeps h1 _).congr rfl
  · exact launchPersist_keeps (launchCreated_keeps h1 _) ..

theorem claimLaunch_spec (c : ClaimState) (cache : Bool) (f : ClaimFaults) (co : CreateOut) :
    LaunchFacts c cache (claimLaunch c cache f co) := by
  -- a pass that ends at the finalizer patch, or finds the claim launched already
  have idle : ∀ cs res err fa, LaunchFacts c cache { calls := cs, res := res, err := err, finalizerAdded := fa, cached := cache } :=
    fun _ _ _ _ => ⟨rfl, rfl, rfl, rfl, rfl, nofun, fun h => (by rcases h with h | h | h <;> cases h), nofun, nofun⟩
  unfold claimLaunch
  dsimp only
  generalize ho : (if (!c.finalizer) = true then ({ calls := [Act.addClaimFinalizer] } : ClaimOut) else {}) = o
  obtain ⟨cs, rfl⟩ : ∃ cs, o = { calls := cs } := by rw [← ho]; split <;> exact ⟨_, rfl⟩
  generalize (if (!c.finalizer) = true then f.addFinalizer else Fault.ok) = af
  cases af
  case ok =>
    cases hfr : c.fresh
    · exact idle _ _ _ _
    · rw [if_pos rfl]
      exact (launchFresh_keeps ⟨idle _ _ _ _, hfr, by cases c.finalizer <;> simp⟩ f co).toLaunchFacts
  all_goals exact idle _ _ _ _

theorem FinalizeFacts.congr {c : ClaimState} {nodes : List NodeRef} {d : ProvOut} {o o' : ClaimOut}
    (h : FinalizeFacts c nodes d o) (e : o'.core = o.core) : FinalizeFacts c nodes d o' := by
  obtain ⟨e1, e2, e3, e4, e5, e6, _, e8⟩ := core_eq e
  exact ⟨e1 ▸ h.removed, e2 ▸ h.created, e3 ▸ h.launchPersisted, e4 ▸ h.statusPersisted, e5 ▸ h.finalizerAdded,
    e6 ▸ h.selfDeleted, e8 ▸ h.triggered⟩

/-- **single pass, claim**: every pass of the lifecycle controller is a `finalize` pass or a launch pass (one that does
    nothing is both) -/
theorem claimReconcile_facts (c : ClaimState) (nodes : List NodeRef) (cache : Bool) (f : ClaimFaults) (d : ProvOut) (co : CreateOut) :
    FinalizeFacts c nodes d (claimReconcile c nodes cache f d co) ∨ LaunchFacts c cache (claimReconcile c nodes cache f d co) := by
  fun_cases claimReconcile c nodes cache f d co
  -- in the order of `claimReconcile`: not managed, deleting, neither
  case case1 => exact Or.inl ⟨nofun, rfl, rfl, rfl, rfl, rfl, nofun⟩
  case case2 => exact Or.inl ((claimFinalize_spec c nodes f d).congr rfl)
  case case3 => exact Or.inr (claimLaunch_spec c cache f co)

/-- only `finalize` removes the finalizer -/
theorem claimReconcile_removed {c : ClaimState} {nodes : List NodeRef} {cache : Bool} {f : ClaimFaults} {d : ProvOut} {co : CreateOut}
    (h : (claimReconcile c nodes cache f d co).removed = true) : FinalizeFacts c nodes d (claimReconcile c nodes cache f d co) :=
  (claimReconcile_facts c nodes cache f d co).resolve_right fun hl => Bool.noConfusion (hl.removed.symm.trans h)

/-- only the launch path creates an instance -/
theorem claimReconcile_created {c : ClaimState} {nodes : List NodeRef} {cache : Bool} {f : ClaimFaults} {d : ProvOut} {co : CreateOut}
    (h : (claimReconcile c nodes cache f d co).created = true) : LaunchFacts c cache (claimReconcile c nodes cache f d co) :=
  (claimReconcile_facts c nodes cache f d co).resolve_left fun hf => Bool.noConfusion (hf.created.symm.trans h)

/-! ## Volume attachments in transitional states

The code reads nothing of a VolumeAttachment but its persistent volume name (fact `Finalize.vaFilterReads`, generated from the source):
an attachment that carries a deletionTimestamp (held by the external-attacher's finalizer while the detach is going on)
or whose `status.attached` is false blocks exactly like any other. -/

/-- rewrite the deletion mark and the attached status of an attachment (everything the code does not read) -/
def VA.remark (g : VA → Bool × Bool) (v : VA) : VA := { v with terminating := (g v).1, unattached := (g v).2 }

theorem any_onNode_remark (g : VA → Bool × Bool) (vas : List VA) :
    (vas.map (VA.remark g)).any (·.onNode) = vas.any (·.onNode) := by
  rw [List.any_map]
  rfl

theorem pendingVAs_remark (g : VA → Bool × Bool) (now : Int) (ft : Fault) (pods : List Pod) (vas : List VA) :
    pendingVAs now ft pods (vas.map (VA.remark g)) = (pendingVAs now ft pods vas).map (VA.remark g) := by
  unfold pendingVAs
  simp only [List.filter_map]
  rfl

theorem stageVolumes_remark (g : VA → Bool × Bool) (now : Int) (hc : Bool) (term : Option Int) (pods : List Pod) (vas : List VA)
    (f : NodeFaults) (c : Conds) :
    stageVolumes now hc term pods (vas.map (VA.remark g)) f c = stageVolumes now hc term pods vas f c := by
  unfold stageVolumes volReadFault pvcLookedUp
  rw [any_onNode_remark, pendingVAs_remark]
  simp only [List.isEmpty_map]

theorem runStages_remark (g : VA → Bool × Bool) (stages : List Stage) (now : Int) (hc : Bool) (term : Option Int) (pods : List Pod)
    (vas : List VA) (f : NodeFaults) (d : ProvOut) (c : Conds) :
    runStages stages now hc term pods (vas.map (VA.remark g)) f d c = runStages stages now hc term pods vas f d c := by
  induction stages generalizing c with
  | nil => rfl
  | cons s rest ih =>
    have hs : runStage s now hc term pods (vas.map (VA.remark g)) f d c = runStage s now hc term pods vas f d c := by
      cases s <;> simp only [runStage, stageVolumes_remark]
    simp only [runStages, hs, ih]

/-- a failed PVC read shields no volume: an attachment that is pending when the reads work is pending then, too -/
theorem pendingVAs_ok_subset {now : Int} {ft : Fault} {pods : List Pod} {vas : List VA} {v : VA}
    (h : v ∈ pendingVAs now .ok pods vas) : v ∈ pendingVAs now ft pods vas := by
  by_cases hf : ft = .ok
  · rw [hf]; exact h
  · unfold pendingVAs at h ⊢
    obtain ⟨hv, hp⟩ := List.mem_filter.mp h
    refine List.mem_filter.mpr ⟨hv, ?_⟩
    rw [show shieldedPVs now ft pods = [] from if_neg hf]
    cases hpv : v.pv with
    | none => rw [hpv] at hp; cases hp
    | some k => rfl

theorem mem_pendingVAs (now : Int) (ft : Fault) (pods : List Pod) (vas : List VA) (v : VA) (k : Nat)
    (hv : v ∈ vas) (hon : v.onNode = true) (hk : v.pv = some k) (hns : (shieldedPVs now .ok pods).contains k = false) :
    v ∈ pendingVAs now ft pods vas :=
  pendingVAs_ok_subset (List.mem_filter.mpr ⟨List.mem_filter.mpr ⟨hv, hon⟩, by rw [hk]; exact congrArg (!·) hns⟩)

theorem pendingVAs_mono (now : Int) (fault : Fault) (pods : List Pod) (vas : List VA)
    (h : pendingVAs now fault pods vas = []) : pendingVAs now .ok pods vas = [] :=
  List.eq_nil_iff_forall_not_mem.mpr fun _ hv => List.not_mem_nil (h ▸ pendingVAs_ok_subset hv)

end Karp.Term
