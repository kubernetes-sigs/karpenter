/-
C11 helper lemmas: `all_quiescent`, everything that holds at a quiescent point, with the exactness of the volume union
(with the repaired `VolumeUsage.Add`) that the pod-layer invariant carries.
-/
import Karp.Proofs.ClusterStateOwners

namespace Karp.ClusterState
open Cluster Karp.Spec.ClusterAbs

theorem quiescent_volumes_exact {fx : Fixes} {dsOf : String → Bool} {b : Map String} {api : Api} {s : SNode} {R : Map PodObj}
    {a : AbsNode} (hG : Good fx dsOf b api [] s R) (hv : VolExact s R) (ho : s.objs = absObjs a)
    (hp : a.pods = match a.node? with | some n => api.pods.vals.filter (onNode n.name) | none => []) :
    ∀ x, x ∈ s.volumes → x ∈ a.volumes := by
  intro x hx
  obtain ⟨k, p, hr, hxl⟩ := hv x hx
  obtain ⟨q, htab, hpq⟩ := quiescent_table hG ho hp
  rw [htab k, Option.filter_eq_some_iff] at hr
  unfold AbsNode.volumes
  rw [(volUnionAll_aux _ [] List.nodup_nil).2 x]
  right
  refine ⟨p.vols, List.mem_map.mpr ⟨p, ?_, rfl⟩, hxl⟩
  rw [hpq, List.mem_filter]
  exact ⟨Map.mem_vals_of_get hr.1, hr.2⟩

/-- objects, claim names, pool totals and per-node pod aggregates at a quiescent point of a well-formed history; the volume
    union is exact with the repaired `VolumeUsage.Add` -/
theorem all_quiescent (fx : Fixes) (hf : PodFix fx) (w : Owners) (dsOf : String → Bool) (h : List Event)
    (howned : ∀ e ∈ h, w.okEvent e) (hsteps : wRun {} {} h = true) (hpods : ∀ e ∈ h, podEventOK dsOf e)
    (hq : (ghostRun {} {} h).dirty = []) :
    ∃ c, run fx {} {} h = .ok (c, apiRun {} h) ∧
      ((∀ pid, (Map.get c.nodes pid).map SNode.objs = (absNodeAt (apiRun {} h) (ghostRun {} {} h) pid).map absObjs) ∧
       (∀ name, Map.has c.claimNameToPid name = absClaimExists (apiRun {} h) name ∧
                decide (Map.get c.claimNameToPid name = some "") = absClaimUnlaunched (apiRun {} h) name) ∧
       (∀ p, Map.getD c.poolRes p Res.zero = absPoolRes (apiRun {} h) (ghostRun {} {} h) p)) ∧
      ∀ pid s a, Map.get c.nodes pid = some s → absNodeAt (apiRun {} h) (ghostRun {} {} h) pid = some a →
        (sumOver s.podReq (fun e => e.2) = a.requests ∧ sumOver s.podLim (fun e => e.2) = a.limits ∧
         sumOver s.dsReq (fun e => e.2) = a.dsRequests ∧ sumOver s.dsLim (fun e => e.2) = a.dsLimits ∧
         costUnit + (s.costs.map (·.2)).foldr (· + ·) 0 = a.cost ∧
         (∀ k, Map.get s.ports k = Map.get a.ports k) ∧ s.limits = a.volLimits ∧ (∀ x, x ∈ a.volumes → x ∈ s.volumes)) ∧
        (fx.volRebuild = true → ∀ x, x ∈ s.volumes → x ∈ a.volumes) := by
  obtain ⟨c, o, hr, he, hi, ha, hp, hpa⟩ := run_all fx hf w dsOf h {} {} {} {} (OC.Eqv.refl _) (oinv_empty w) (apiOK_empty w)
    (podInv_empty fx dsOf) ⟨Map.noDup_nil, by intro k p hg; simp at hg⟩ (fun e hm => ⟨howned e hm, hpods e hm⟩) hsteps
  have hobj := objects_of_oinv he hi ha (apiND_run h {} apiND_empty) (run_poolInv fx h {} c {} _ poolInv_empty hr) hq
  refine ⟨c, hr, hobj, fun pid s a hs habs => ?_⟩
  have hobjs : s.objs = absObjs a := by
    have := hobj.1 pid
    rw [hs, habs] at this
    exact Option.some.inj this
  obtain ⟨R, hR⟩ := hp.good pid s hs
  rw [hq] at hR
  exact ⟨quiescent_pods hR hpa hobjs (absNodeAt_pods habs), fun hb =>
    quiescent_volumes_exact hR (hR.exact hb) hobjs (absNodeAt_pods habs)⟩

end Karp.ClusterState
