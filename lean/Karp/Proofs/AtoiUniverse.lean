/-
What the requirement algebra needs of the value universe (`String` under Go's `strconv.Atoi`): outside every
finite list of strings there is one that parses to a given int64 (pad with leading zeros: `Atoi("003") = 3`),
and `Atoi(FormatInt(i)) = i`, the same computation without the zeros.
-/
import Karp.Model.Req

namespace Karp.Req

def maxLen : List String → Nat
  | [] => 0
  | s :: rest => max s.length (maxLen rest)

theorem le_maxLen (L : List String) (s : String) (h : s ∈ L) : s.length ≤ maxLen L := by
  induction L with
  | nil => cases h
  | cons x xs ih =>
    cases h with
    | head => exact Nat.le_max_left ..
    | tail _ h' => exact Nat.le_trans (ih h') (Nat.le_max_right ..)

theorem not_contains_of_longer (L : List String) (v : String) (h : maxLen L < v.length) :
    L.contains v = false := by
  cases hc : L.contains v with
  | false => rfl
  | true => exact absurd (le_maxLen L v (List.contains_iff_mem.mp hc)) (Nat.not_le_of_gt h)

theorem digitVal_digitChar : ∀ d, d < 10 → digitVal (digitChar d) = some d := by decide

theorem parseNat_append (a b : List Char) (acc : Nat) :
    parseNat (a ++ b) acc = (parseNat a acc).bind (fun x => parseNat b x) := by
  induction a generalizing acc with
  | nil => rfl
  | cons c cs ih =>
    simp only [List.cons_append, parseNat]
    cases digitVal c with
    | none => rfl
    | some d => exact ih _

theorem parseNat_digit (d : Nat) (hd : d < 10) (cs : List Char) (acc : Nat) :
    parseNat (digitChar d :: cs) acc = parseNat cs (acc * 10 + d) := by
  simp only [parseNat, digitVal_digitChar d hd]

theorem parseNat_natDigits (f n : Nat) (h : n ≤ f) : parseNat (natDigits f n) 0 = some n := by
  fun_induction natDigits f n with
  | case1 n => rw [Nat.le_zero.mp h]; rfl
  | case2 f n hn => rw [parseNat_digit n hn, Nat.zero_mul, Nat.zero_add]; rfl
  | case3 f n hn ih =>
    rw [parseNat_append, ih (by omega), Option.bind_some, parseNat_digit _ (Nat.mod_lt _ (by decide)),
      Nat.div_add_mod']; rfl

theorem natDigits_length_pos (f n : Nat) : 0 < (natDigits f n).length := by
  fun_cases natDigits f n <;> simp

theorem parseNat_zeros (k : Nat) (cs : List Char) :
    parseNat (List.replicate k '0' ++ cs) 0 = parseNat cs 0 := by
  induction k with
  | zero => rfl
  | succ k ih => rw [List.replicate_succ, List.cons_append]; exact (parseNat_digit 0 (by decide) _ 0).trans ih

theorem atoiChars_of_parseNat (ds : List Char) (n : Nat) (hne : ds ≠ []) (hp : parseNat ds 0 = some n) :
    atoiChars ds = if (n : Int) ≤ maxInt then ((n : Int), true) else (maxInt, false) := by
  cases ds with
  | nil => exact absurd rfl hne
  | cons c rest =>
    have hm : c ≠ '-' := by rintro rfl; cases hp
    have hq : c ≠ '+' := by rintro rfl; cases hp
    unfold atoiChars
    split
    · next heq => cases heq
    · next heq => exact absurd (List.cons.inj heq).1 hm
    · next heq => exact absurd (List.cons.inj heq).1 hq
    · rw [hp]

theorem atoiChars_neg_of_parseNat (ds : List Char) (n : Nat) (hne : ds ≠ []) (hp : parseNat ds 0 = some n) :
    atoiChars ('-' :: ds) = if (n : Int) ≤ -minInt then (-(n : Int), true) else (minInt, false) := by
  cases ds with
  | nil => exact absurd rfl hne
  | cons c rest => simp only [atoiChars, List.isEmpty_cons, Bool.false_eq_true, if_false, hp]

theorem atoi_signed (ds : List Char) (i : Int) (hne : ds ≠ []) (hp : parseNat ds 0 = some i.natAbs)
    (h1 : minInt ≤ i) (h2 : i ≤ maxInt) :
    atoi (if i < 0 then String.ofList ('-' :: ds) else String.ofList ds) = some i := by
  unfold atoi atoiRaw
  by_cases hneg : i < 0
  · rw [if_pos hneg, String.toList_ofList, atoiChars_neg_of_parseNat ds _ hne hp,
      Int.ofNat_natAbs_of_nonpos (Int.le_of_lt hneg), if_pos (Int.neg_le_neg h1), Int.neg_neg]; rfl
  · rw [if_neg hneg, String.toList_ofList, atoiChars_of_parseNat ds _ hne hp,
      Int.natAbs_of_nonneg (Int.not_lt.mp hneg), if_pos h2]; rfl

theorem atoi_renderInt (i : Int) (h1 : minInt ≤ i) (h2 : i ≤ maxInt) : atoi (renderInt i) = some i :=
  atoi_signed _ i (List.ne_nil_of_length_pos (natDigits_length_pos ..)) (parseNat_natDigits _ _ (Nat.le_refl _)) h1 h2

def paddedInt (k : Nat) (i : Int) : String :=
  if i < 0 then String.ofList ('-' :: (List.replicate (k + 1) '0' ++ natDigits i.natAbs i.natAbs))
  else String.ofList (List.replicate (k + 1) '0' ++ natDigits i.natAbs i.natAbs)

theorem atoi_paddedInt (k : Nat) (i : Int) (h1 : minInt ≤ i) (h2 : i ≤ maxInt) :
    atoi (paddedInt k i) = some i :=
  atoi_signed _ i (List.append_ne_nil_of_right_ne_nil _ (List.ne_nil_of_length_pos (natDigits_length_pos ..)))
    ((parseNat_zeros _ _).trans (parseNat_natDigits _ _ (Nat.le_refl _))) h1 h2

theorem paddedInt_length (k : Nat) (i : Int) : k < (paddedInt k i).length := by
  unfold paddedInt
  split <;> simp [String.length_ofList] <;> omega

theorem fresh_int (L : List Val) (i : Int) (h1 : minInt ≤ i) (h2 : i ≤ maxInt) :
    ∃ v : Val, L.contains v = false ∧ atoi v = some i :=
  ⟨paddedInt (maxLen L) i, not_contains_of_longer _ _ (paddedInt_length _ _), atoi_paddedInt _ i h1 h2⟩

end Karp.Req
