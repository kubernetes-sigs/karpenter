/-
C14: the modelled system satisfies, step by step and over whole histories, the very executable specification
(`Karp/Spec/LifecycleOrder.lean`) that the harness evaluates on the real controller.
-/
import Karp.Proofs.LifecycleSteps

namespace Karp.Lifecycle
open Karp.Spec.LifecycleOrder

/-- if `a` has the finalizer, so has `b`, and `b` is present exactly if `a` is -/
def Keeps (a b : Claim) : Prop := a.finalizer = true → b.present = a.present ∧ b.finalizer = true

theorem Keeps.refl (a : Claim) : Keeps a a := fun h => ⟨rfl, h⟩
theorem Keeps.trans {a b c : Claim} (h1 : Keeps a b) (h2 : Keeps b c) : Keeps a c :=
  fun h => ⟨((h2 (h1 h).2).1).trans (h1 h).1, (h2 (h1 h).2).2⟩

theorem MaybeDeleted.keeps {a b : Claim} (h : MaybeDeleted a b) : Keeps a b := by
  rcases h with rfl | rfl
  · exact Keeps.refl _
  · exact fun hf => by unfold Claim.deleted; simp [hf]

theorem runSubs_keeps (sp : Spec) (f : Faults) (co : CreateOutcome) (w0 : World) (m0 : Claim) (calls : List Call) :
    Keeps w0.claim (runSubs sp f co w0 m0 calls).w.claim := by
  obtain ⟨a, ha, h | h | h⟩ := runSubs_claim sp f co w0 m0 calls <;> rw [h]
  · exact ha.keeps
  · exact ha.keeps.trans fun hf => by simp [mergeMeta, hf]
  · exact ha.keeps.trans fun hf => by simp [mergeMeta, mergeStatus, hf]

def createObsOf (w' : World) (c : Call) : CreateObs :=
  { ok := c.out == .ok, fin := w'.claim.finalizer && w'.claim.present, present := w'.claim.present }

def modelObs (sp : Spec) (w : World) (s : Step) : StepObs :=
  { isRec := (step sp w s).2.isRec, fresh := (step sp w s).2.fresh, view := (step sp w s).2.view,
    calls := (step sp w s).2.calls, result := (step sp w s).2.result,
    claim := (step sp w s).1.claim, nodes := (step sp w s).1.nodes,
    creates := (creates (step sp w s).2.calls).map (createObsOf (step sp w s).1),
    now := (step sp w s).1.now }

def accOf (w : World) : Acc := { prev := w.claim, created := w.instances, finEver := w.finEver }

theorem okCreates_modelObs (sp : Spec) (w : World) (s : Step) :
    Karp.Spec.LifecycleOrder.okCreates (modelObs sp w s) = Karp.Lifecycle.okCreates (step sp w s).2.calls := by
  unfold Karp.Spec.LifecycleOrder.okCreates Karp.Lifecycle.okCreates modelObs
  simp only [List.filter_map, List.length_map]
  congr 1

theorem step_creates (sp : Spec) (w : World) (s : Step) :
    (creates (step sp w s).2.calls).length ≤ 1 ∧
    (step sp w s).1.instances = w.instances + Karp.Lifecycle.okCreates (step sp w s).2.calls := by
  rcases step_quiet_or_live sp w s with q | ⟨lag, co, f, fo, rfl, _, _, he⟩
  · rw [q.calls, q.inst]; exact ⟨Nat.zero_le _, rfl⟩
  · rw [he]; exact reconcileLive_creates sp f co w _

/-- "if `c` is true so is `d`", as the specification writes it -/
theorem isTrue_imp {c d : Cond} (h : c.status = .true_ → d.status = .true_) :
    (!Karp.Spec.LifecycleOrder.isTrue c || Karp.Spec.LifecycleOrder.isTrue d) = true := by
  unfold Karp.Spec.LifecycleOrder.isTrue
  cases hc : c.status <;> simp [h, hc]

theorem clause_createOnce (sp : Spec) {w : World} (h : Inv w) (s : Step) :
    createOnce (accOf w) (modelObs sp w s) = true := by
  unfold createOnce
  rw [okCreates_modelObs]
  have h1 := (step_creates sp w s).2
  have h2 := (inv_step sp h s).once
  have : w.instances + Karp.Lifecycle.okCreates (step sp w s).2.calls ≤ 1 := by omega
  exact decide_eq_true this

theorem reconcileLive_finalizerFirst (sp : Spec) (f : Faults) (co : CreateOutcome) {w : World} (h : Inv w) (view : Claim)
    (hv : view ∈ w.versions) :
    ∀ c ∈ (reconcileLive sp f co w view).calls, c.site = .create →
      (reconcileLive sp f co w view).w.claim.finalizer = true ∧
      ((reconcileLive sp f co w view).w.claim.present = false → w.finEver = true) := by
  intro c hc hsite
  refine ⟨(reconcileLive_finalizer sp f co h view hv c hc hsite).1, fun hnp => ?_⟩
  rcases reconcileLive_cases sp f co w view with ⟨hf, _⟩ | ⟨_, ho, e⟩ | ⟨_, _, res, e⟩
  · exact h.finEver view hv hf
  · -- the finalizer patch just succeeded: the object is there and stays there
    rw [e, (runSubs_keeps sp f co w.withFinalizer _ _ rfl).1] at hnp
    exact Bool.noConfusion ((finPatch_ok ho).1.symm.trans hnp)
  · rw [e, List.mem_singleton] at hc
    rw [hc] at hsite
    cases hsite

theorem clause_finalizerFirst (sp : Spec) {w : World} (h : Inv w) (s : Step) :
    finalizerFirst (accOf w) (modelObs sp w s) = true := by
  unfold finalizerFirst modelObs
  simp only [List.all_map, List.all_eq_true, Function.comp]
  intro c hc
  obtain ⟨hcm, hsite⟩ : c ∈ _ ∧ c.site = .create := by simpa [creates] using hc
  rcases step_quiet_or_live sp w s with q | ⟨lag, co, f, fo, rfl, _, _, he⟩
  · rw [q.calls] at hcm; cases hcm
  · rw [he] at hcm ⊢
    simp only [] at hcm ⊢
    obtain ⟨hfin, hgone⟩ := reconcileLive_finalizerFirst sp f co h (pickView w lag) (pickView_version w lag) c hcm hsite
    simp only [createObsOf, accOf, hfin, Bool.true_and]
    cases hpr : (reconcileLive sp f co w (pickView w lag)).w.claim.present
    · simp [hgone hpr]
    · simp

theorem ordered_intro {a : Acc} {o : StepObs}
    (hir : o.claim.conds.i.status = .true_ → o.claim.conds.r.status = .true_)
    (hrl : o.claim.conds.r.status = .true_ → o.claim.conds.l.status = .true_)
    (hl : o.claim.conds.l.status = .true_ →
      o.claim.providerID = true ∧ 1 ≤ a.created + Karp.Spec.LifecycleOrder.okCreates o) :
    ordered a o = true := by
  unfold ordered
  rw [isTrue_imp hir, isTrue_imp hrl]
  cases hL : o.claim.conds.l.status <;> simp [Karp.Spec.LifecycleOrder.isTrue, hL]
  exact Or.inr (hl hL)

theorem clause_ordered (sp : Spec) {w : World} (h : Inv w) (s : Step) :
    ordered (accOf w) (modelObs sp w s) = true := by
  have h' := inv_step sp h s
  have hk := h'.vok _ (claim_mem_versions _)
  refine ordered_intro hk.ir hk.rl fun hL => ⟨hk.lp hL, ?_⟩
  have h1 := (step_creates sp w s).2
  have := h'.linst _ (claim_mem_versions _) hL
  rw [okCreates_modelObs]
  show 1 ≤ w.instances + _
  omega

theorem clause_noCreateWhenDeleting_envQuiet (sp : Spec) (w : World) (s : Step) :
    noCreateWhenDeleting (modelObs sp w s) = true ∧ envQuiet (modelObs sp w s) = true := by
  unfold noCreateWhenDeleting envQuiet modelObs
  rcases step_quiet_or_live sp w s with q | ⟨lag, co, f, fo, rfl, _, hd, he⟩
  · simp [q.calls, creates]
  · rw [he]; simp [hd]

theorem step_flips (sp : Spec) {w : World} (h : Inv w) (s : Step)
    (h1 : cleanTaints sp.taints) (h2 : cleanTaints sp.startup) :
    ((step sp w s).1.claim.conds.r.status = .true_ → w.claim.conds.r.status ≠ .true_ →
      (step sp w s).2.isRec = true ∧
      ((step sp w s).2.view.conds.r.status = .true_ ∨ registeredPre sp (step sp w s).1.nodes = true)) ∧
    ((step sp w s).1.claim.conds.i.status = .true_ → w.claim.conds.i.status ≠ .true_ →
      (step sp w s).2.isRec = true ∧
      ((step sp w s).2.view.conds.i.status = .true_ ∨ initializedPre sp (step sp w s).1.nodes = true)) := by
  rcases step_quiet_or_live sp w s with q | ⟨lag, co, f, fo, rfl, _, _, he⟩
  · rw [q.conds]; exact ⟨fun a b => absurd a b, fun a b => absurd a b⟩
  · rw [he]; simp only []
    have := reconcileLive_flips sp f co h (pickView w lag) (pickView_version w lag) h1 h2
    exact ⟨fun a b => ⟨trivial, this.1 a b⟩, fun a b => ⟨trivial, this.2 a b⟩⟩

theorem step_conds_of_not_live (sp : Spec) (w : World) (s : Step) (h : (step sp w s).2.isRec = false) :
    (step sp w s).1.claim.conds = w.claim.conds := by
  rcases step_quiet_or_live sp w s with q | ⟨lag, co, f, fo, rfl, _, _, he⟩
  · exact q.conds
  · rw [he] at h; cases h

theorem flip_cases {a b c : Prop} (h : b → ¬a → c) : (a ∨ ¬b) ∨ c := by
  by_cases hb : b
  · by_cases ha : a
    · exact .inl (.inl ha)
    · exact .inr (h hb ha)
  · exact .inl (.inr hb)

theorem clause_becomesTrue (sp : Spec) {w : World} (h : Inv w) (s : Step)
    (h1 : cleanTaints sp.taints) (h2 : cleanTaints sp.startup) :
    becomesTrue sp (accOf w) (modelObs sp w s) = true := by
  have h' := inv_step sp h s
  have hl := h'.linst _ (claim_mem_versions _)
  have hi := (step_creates sp w s).2
  have hF := step_flips sp h s h1 h2
  have hLater := step_later sp w s
  unfold becomesTrue
  rw [okCreates_modelObs]
  simp only [modelObs, accOf, Karp.Spec.LifecycleOrder.isTrue]
  cases hp : (step sp w s).1.claim.present
  · simp
  · have hpp := hLater.present hp
    simp only [Bool.not_true, Bool.false_or, hpp, Bool.true_and, Bool.and_eq_true, Bool.or_eq_true, beq_iff_eq,
      Bool.not_eq_true', decide_eq_true_eq, ge_iff_le, beq_eq_false_iff_ne, ne_eq]
    -- per condition: true before, or not true now, or became true under its precondition
    refine ⟨⟨flip_cases fun hL h0 => ?_, flip_cases hF.1⟩, flip_cases hF.2⟩
    cases hr : (step sp w s).2.isRec
    · exact absurd (step_conds_of_not_live sp w s hr ▸ hL) h0
    · exact ⟨rfl, .inr (by have := hl hL; omega)⟩

theorem step_fresh (sp : Spec) (w : World) (s : Step) (h : (step sp w s).2.fresh = true) :
    (step sp w s).2.view = w.claim := by
  rcases step_quiet_or_live sp w s with q | ⟨lag, co, f, fo, rfl, _, _, he⟩
  · exact q.fresh h
  · rw [he] at h ⊢; exact of_decide_eq_true h

theorem step_forward (sp : Spec) {w : World} (h : Inv w) (s : Step)
    (hf : (step sp w s).2.isRec = false ∨ (step sp w s).2.view = w.claim) :
    (w.claim.conds.l.status = .true_ → (step sp w s).1.claim.conds.l.status = .true_) ∧
    (w.claim.conds.r.status = .true_ → (step sp w s).1.claim.conds.r.status = .true_) ∧
    (w.claim.conds.i.status = .true_ → (step sp w s).1.claim.conds.i.status = .true_) := by
  rcases step_quiet_or_live sp w s with q | ⟨lag, co, f, fo, rfl, _, _, he⟩
  · rw [q.conds]; exact ⟨id, id, id⟩
  · rw [he] at hf ⊢
    rcases hf with hf | hf
    · cases hf
    · simp only [] at hf ⊢
      rw [hf]
      exact reconcileLive_forward sp f co h

theorem clause_forward (sp : Spec) {w : World} (h : Inv w) (s : Step) :
    forward (accOf w) (modelObs sp w s) = true := by
  have hLater := step_later sp w s
  unfold forward
  simp only [modelObs, accOf]
  cases hp' : (step sp w s).1.claim.present
  · simp
  · have hdel : (!w.claim.deleting || (step sp w s).1.claim.deleting) = true := by
      cases hd : w.claim.deleting
      · rfl
      · rcases hLater.2 (Or.inl hd) with hg | hg
        · simp [hg]
        · rw [hp'] at hg; cases hg
    rw [hLater.present hp', hdel]
    by_cases hf : (step sp w s).2.isRec = false ∨ (step sp w s).2.fresh = true
    · have := step_forward sp h s (hf.imp_right (step_fresh sp w s))
      rw [isTrue_imp this.1, isTrue_imp this.2.1, isTrue_imp this.2.2]
      simp
    · obtain ⟨h1, h2⟩ := not_or.mp hf
      simp [h1, h2]

theorem deleteOutcome_skip (pre l : List Call) (hpre : ∀ c ∈ pre, isCapacity c = false) :
    deleteOutcomeAfterCapacity (pre ++ l) = deleteOutcomeAfterCapacity l := by
  induction pre with
  | nil => rfl
  | cons c rest ih =>
    simp only [List.cons_append, deleteOutcomeAfterCapacity, hpre c (List.mem_cons_self ..)]
    simpa using ih fun x hx => hpre x (List.mem_cons_of_mem _ hx)

theorem deleteOutcome_none (l : List Call) (h : ∀ c ∈ l, isCapacity c = false) :
    deleteOutcomeAfterCapacity l = none ∧ l.any isCapacity = false :=
  ⟨by simpa [deleteOutcomeAfterCapacity] using deleteOutcome_skip l [] h,
    List.any_eq_false.mpr fun c hc => by simp [h c hc]⟩

theorem deleteOutcome_one (pre post : List Call) (x d : Call) (hpre : ∀ c ∈ pre, isCapacity c = false)
    (hx : isCapacity x = true) :
    deleteOutcomeAfterCapacity (pre ++ [x, d] ++ post) = some d.out := by
  rw [List.append_assoc, deleteOutcome_skip _ _ hpre]
  simp [deleteOutcomeAfterCapacity, hx]

theorem reconcileLive_creates_shape (sp : Spec) (f : Faults) (co : CreateOutcome) (w : World) (view : Claim) :
    ∀ c ∈ creates (reconcileLive sp f co w view).calls, c = ⟨.create, co.toOutcome⟩ := by
  have key : ∀ (w0 : World) (m0 : Claim) (calls : List Call), creates calls = [] →
      ∀ c ∈ creates (runSubs sp f co w0 m0 calls).calls, c = ⟨.create, co.toOutcome⟩ := by
    intro w0 m0 calls hc c hmem
    obtain ⟨rest, hr, hcr⟩ := runSubs_calls sp f co w0 m0 calls
    rw [hr, creates_append, hc, List.nil_append, hcr] at hmem
    rcases launchCase_cases co { w := w0, mem := m0, calls := calls } with ⟨hl, _⟩ | ⟨hl, _⟩ | ⟨hl, _⟩ | ⟨hl, _, _, hco⟩ | ⟨hl, _⟩
    all_goals rw [hl] at hmem
    all_goals simp [launchCreates] at hmem
    · rw [hmem, hco]; rfl
    · exact hmem
  rcases reconcileLive_cases sp f co w view with ⟨_, e⟩ | ⟨_, _, e⟩ | ⟨_, _, res, e⟩ <;> rw [e]
  · exact key w view [] rfl
  · exact key _ _ _ rfl
  · intro c hc; simp [creates] at hc

theorem reconcileLive_capacityDeletes (sp : Spec) (f : Faults) (co : CreateOutcome) (w : World) (view : Claim) :
    capacityCalls (reconcileLive sp f co w view).calls = true ∧
    (match deleteOutcomeAfterCapacity (reconcileLive sp f co w view).calls with
     | none => (reconcileLive sp f co w view).calls.any isCapacity = false
     | some d =>
       ((reconcileLive sp f co w view).w.claim.conds.l.status = .true_ → w.claim.conds.l.status = .true_) ∧
       DeleteHandled (reconcileLive sp f co w view) d) := by
  by_cases hany : ∃ c ∈ (reconcileLive sp f co w view).calls, isCapacity c = true
  · obtain ⟨c, hc, hcap⟩ := hany
    have hsite : c.site = .create := by
      unfold isCapacity at hcap; simp at hcap; exact hcap.1
    obtain rfl := reconcileLive_creates_shape sp f co w view c (by simp [creates, hc, hsite])
    have hco : co = .ice ∨ co = .ncnr := by
      cases co <;> simp [isCapacity, CreateOutcome.toOutcome] at hcap ⊢
    obtain ⟨hcalls, _, hL, pre, d, post, hlog, hpre, _, hd⟩ := reconcileLive_capacity_log sp f co hco w view hc
    refine ⟨hcalls, ?_⟩
    rw [hlog, deleteOutcome_one pre post _ ⟨.claimDelete, d⟩ (not_capacity_of_creates_nil pre hpre) hcap, ← hlog]
    exact ⟨hL, hd⟩
  · have hnone : ∀ c ∈ (reconcileLive sp f co w view).calls, isCapacity c = false := by
      intro c hc
      cases hcap : isCapacity c
      · rfl
      · exact absurd ⟨c, hc, hcap⟩ hany
    have := deleteOutcome_none _ hnone
    rw [this.1]
    exact ⟨capacityCalls_none _ hnone, this.2⟩

theorem capacityDeletes_intro {a : Acc} {o : StepObs} (hcalls : capacityCalls o.calls = true)
    (h : match deleteOutcomeAfterCapacity o.calls with
      | none => o.calls.any isCapacity = false
      | some d =>
        (o.claim.conds.l.status = .true_ → a.prev.conds.l.status = .true_) ∧
        (d = .ok → o.claim.gone) ∧
        (d ≠ .ok → d ≠ .notFound → o.result = .err ∨ ∃ x ∈ o.calls, x.out = .notFound)) :
    capacityDeletes a o = true := by
  unfold capacityDeletes
  rw [hcalls, Bool.true_and]
  cases hdo : deleteOutcomeAfterCapacity o.calls with
  | none => rw [hdo] at h; simpa using h
  | some d =>
    rw [hdo] at h
    obtain ⟨hL, hok, herr⟩ := h
    have hLb := isTrue_imp hL
    cases d
    case ok =>
      simp only [hLb, Bool.and_true]
      rcases hok rfl with hg | hg <;> simp [hg]
    case notFound => exact hLb
    all_goals
      simp only [hLb, Bool.and_true]
      rcases herr (by simp) (by simp) with hr | ⟨x, hx, hxo⟩
      · simp [hr]
      · have : o.calls.any (fun c => c.out == .notFound) = true := List.any_eq_true.mpr ⟨x, hx, by simp [hxo]⟩
        simp [this]

theorem clause_capacityDeletes (sp : Spec) (w : World) (s : Step) :
    capacityDeletes (accOf w) (modelObs sp w s) = true := by
  rcases step_quiet_or_live sp w s with q | ⟨lag, co, f, fo, rfl, _, _, he⟩
  · apply capacityDeletes_intro <;> simp only [modelObs] <;> rw [q.calls] <;> rfl
  · have hC := reconcileLive_capacityDeletes sp f co w (pickView w lag)
    apply capacityDeletes_intro <;> simp only [modelObs, accOf] <;> rw [he]
    · exact hC.1
    · exact hC.2

/-- **every clause of the executable specification holds of every step of the model** -/
theorem stepOK_model (sp : Spec) {w : World} (h : Inv w) (s : Step)
    (h1 : cleanTaints sp.taints) (h2 : cleanTaints sp.startup) :
    stepOK sp (accOf w) (modelObs sp w s) = true := by
  unfold stepOK clauses
  simp only [List.all_cons, List.all_nil, Bool.and_true, Bool.and_eq_true]
  exact ⟨clause_createOnce sp h s, clause_finalizerFirst sp h s, clause_ordered sp h s,
    clause_becomesTrue sp h s h1 h2, clause_forward sp h s, clause_capacityDeletes sp w s,
    (clause_noCreateWhenDeleting_envQuiet sp w s).1, (clause_noCreateWhenDeleting_envQuiet sp w s).2⟩

/-! ### the specification's accumulator `Acc` follows the world -/

theorem step_finEver (sp : Spec) {w : World} (h : Inv w) (s : Step) :
    (w.finEver || (step sp w s).1.claim.finalizer && (step sp w s).1.claim.present ||
      ((creates (step sp w s).2.calls).map (createObsOf (step sp w s).1)).any (·.fin)) = (step sp w s).1.finEver := by
  have hclaimfin : w.claim.finalizer = true → w.finEver = true := h.finEver w.claim (claim_mem_versions w)
  -- a step that leaves finalizer flag and ghost alone and makes no provider call
  have same : ∀ (w' : World) (calls : List Call), w'.finEver = w.finEver → w'.claim.finalizer = w.claim.finalizer →
      creates calls = [] →
      (w.finEver || w'.claim.finalizer && w'.claim.present || ((creates calls).map (createObsOf w')).any (·.fin)) = w'.finEver := by
    intro w' calls e1 e2 e3
    rw [e1, e2, e3]
    cases hfe : w.finEver
    · cases hcf : w.claim.finalizer
      · simp
      · rw [hclaimfin hcf] at hfe; exact absurd hfe (by simp)
    · simp
  rcases step_quiet_or_live sp w s with q | ⟨lag, co, f, fo, rfl, _, _, he⟩
  · exact same _ _ q.finEver q.fin (by rw [q.calls]; rfl)
  · rw [he]; simp only []
    rcases reconcileLive_cases sp f co w (pickView w lag) with ⟨hf, e⟩ | ⟨_, ho, e⟩ | ⟨_, _, res, e⟩ <;> rw [e]
    · have hfe := h.finEver _ (pickView_version w lag) hf
      rw [(runSubs_world sp f co w (pickView w lag) []).2.1, hfe]; simp
    · have hk := runSubs_keeps sp f co w.withFinalizer w.withFinalizer.claim [⟨.finPatch, .ok⟩] rfl
      rw [(runSubs_world sp f co w.withFinalizer _ _).2.1, hk.2, hk.1]
      simp [World.withFinalizer, (finPatch_ok ho).1]
    · exact same w _ rfl rfl rfl

theorem acc_next_model (sp : Spec) {w : World} (h : Inv w) (s : Step) :
    (accOf w).next (modelObs sp w s) = accOf (step sp w s).1 := by
  unfold Acc.next
  rw [okCreates_modelObs]
  simp only [accOf, modelObs, Acc.mk.injEq, true_and]
  exact ⟨(step_creates sp w s).2.symm, step_finEver sp h s⟩

/-- what the harness would record of a whole model history -/
def modelHistory (sp : Spec) : World → List Step → List StepObs
  | _, [] => []
  | w, s :: ss => modelObs sp w s :: modelHistory sp (step sp w s).1 ss

theorem historyOK_model (sp : Spec) (h1 : cleanTaints sp.taints) (h2 : cleanTaints sp.startup)
    (steps : List Step) : ∀ {w : World}, Inv w → historyOK sp (accOf w) (modelHistory sp w steps) = true := by
  induction steps with
  | nil => intro w _; rfl
  | cons s ss ih =>
    intro w h
    simp only [modelHistory, historyOK, Bool.and_eq_true]
    refine ⟨stepOK_model sp h s h1 h2, ?_⟩
    rw [acc_next_model sp h s]
    exact ih (inv_step sp h s)

end Karp.Lifecycle
