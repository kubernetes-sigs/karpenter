/-
C11 helper lemmas for the component-level usage trackers (`c11.usage`): a sequence of `UsageOp`s read as `PodOp`s, and the
from-scratch `usageOf` as the lookup in the folded pod table.
-/
import Karp.Proofs.ClusterStateClosed
namespace Karp.ClusterState
open Karp.Spec.ClusterAbs

/-- a usage op as an operation on the state node (a deep copy is no operation) -/
def podOpOf : UsageOp → Option PodOp
  | .add p => some (.upd p)
  | .del k => some (.del k)
  | .copy => none

theorem usage_fold_eq (fx : Fixes) (ops : List UsageOp) :
    ∀ s : SNode, ops.foldl (usageStep fx) s = (ops.filterMap podOpOf).foldl (applyPodOp fx) s := by
  induction ops with
  | nil => intro s; rfl
  | cons o os ih =>
    intro s
    cases o <;> simp [List.filterMap_cons, podOpOf, usageStep, applyPodOp, ih]

/-- `usageOf` from an arbitrary accumulator -/
def usageOfFrom (k : String) (acc : Option PodObj) (ops : List UsageOp) : Option PodObj :=
  ops.foldl (fun acc o =>
    match o with
    | .add p => if p.name = k then some p else acc
    | .del k' => if k' = k then none else acc
    | .copy => acc) acc

theorem usage_table_get (k : String) (ops : List UsageOp) :
    ∀ (R : Map PodObj) (acc : Option PodObj), Map.get R k = acc →
      Map.get ((ops.filterMap podOpOf).foldl tablePodOp R) k = usageOfFrom k acc ops := by
  induction ops with
  | nil => intro R acc h; simpa [usageOfFrom] using h
  | cons o os ih =>
    intro R acc h
    cases o with
    | add p =>
      simp only [List.filterMap_cons, podOpOf, List.foldl_cons, tablePodOp, usageOfFrom]
      apply ih
      rw [Map.get_put, h]
      exact ite_congr (propext eq_comm) (fun _ => rfl) (fun _ => rfl)
    | del k' =>
      simp only [List.filterMap_cons, podOpOf, List.foldl_cons, tablePodOp, usageOfFrom]
      apply ih
      rw [Map.get_erase, h]
      exact ite_congr (propext eq_comm) (fun _ => rfl) (fun _ => rfl)
    | copy =>
      simp only [List.filterMap_cons, podOpOf, List.foldl_cons, usageOfFrom]
      exact ih R acc h

theorem usage_agg (fx : Fixes) (dsOf : String → Bool) (ops : List UsageOp)
    (hds : ∀ p, UsageOp.add p ∈ ops → dsOf p.name = p.ds) :
    ∃ R, (∀ k, Map.get R k = usageOf k ops) ∧ Agg (ops.foldl (usageStep fx) SNode.new) R ∧
      (fx.volRebuild = true → VolExact (ops.foldl (usageStep fx) SNode.new) R) := by
  have hds' : ∀ p, PodOp.upd p ∈ ops.filterMap podOpOf → dsOf p.name = p.ds := by
    intro p hp
    obtain ⟨o, ho, hop⟩ := List.mem_filterMap.mp hp
    cases o with
    | add q => exact PodOp.upd.inj (Option.some.inj hop) ▸ hds q ho
    | del k => cases Option.some.inj hop
    | copy => cases hop
  obtain ⟨hagg, _, hex⟩ := podOps_agg fx dsOf (ops.filterMap podOpOf) SNode.new [] agg_new.1
    (tableOK_nil dsOf) (fun _ => agg_new.2) hds'
  rw [← usage_fold_eq] at hagg hex
  exact ⟨_, fun k => usage_table_get k ops [] none rfl, hagg, hex⟩

end Karp.ClusterState
