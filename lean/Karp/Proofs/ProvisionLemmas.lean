/-
Lemmas for C04 (`Karp/Model/Provision.lean`): first-index search and what each verdict of `Scheduler.add` implies, the
mark loop in closed form, where the taints `StateNode.Taints()` shows come from, label-congruence of `Compatible`, the
stepwise re-admission of a set of pods by an existing node, `Cluster.Synced` and the log of passes.
-/
import Karp.Model.Provision
import Karp.Proofs.Sched
namespace Karp.Provision
open Karp.Req Karp.Scn Karp.Sched

theorem firstIdx_eq_findIdx? {α : Type} (f : α → Bool) (l : List α) : firstIdx f l = l.findIdx? f := by
  induction l with
  | nil => rfl
  | cons a as ih => rw [firstIdx, ih, List.findIdx?_cons]

theorem firstIdx_none {α : Type} (f : α → Bool) (l : List α) (h : firstIdx f l = none) : ∀ x ∈ l, f x = false :=
  List.findIdx?_eq_none_iff.mp (firstIdx_eq_findIdx? f l ▸ h)

theorem firstIdx_some {α : Type} (f : α → Bool) (l : List α) (i : Nat) (h : firstIdx f l = some i) :
    ∃ x, l[i]? = some x ∧ f x = true := by
  rw [firstIdx_eq_findIdx?, List.findIdx?_eq_some_iff_getElem] at h
  obtain ⟨hi, hf, _⟩ := h
  exact ⟨l[i], List.getElem?_eq_getElem hi, hf⟩

theorem existingCanAddV_nil (n : ExNode) (p : PodD) : existingCanAddV n p [] = existingCanAdd n p := by
  simp [existingCanAddV]

/-- what each verdict of `Scheduler.add` says about the state it was taken in (`addDecision` is the case `alts = []`) -/
theorem addDecisionV_spec {κ : Type} (ops : ClaimOps κ) (s : Pass κ) (p : PodD) (alts : List (List KExpr)) :
    match addDecisionV ops s p alts with
    | .existing i => ∃ e, s.existing[i]? = some e ∧ existingCanAddV e p alts = true
    | .inflight j =>
      (∀ e ∈ s.existing, existingCanAddV e p alts = false) ∧ ∃ c, s.claims[j]? = some c ∧ ops.canAdd c p = true
    | _ => (∀ e ∈ s.existing, existingCanAddV e p alts = false) ∧ ∀ c ∈ s.claims, ops.canAdd c p = false := by
  unfold addDecisionV
  cases h1 : firstIdx (fun e => existingCanAddV e p alts) s.existing with
  | some i => exact firstIdx_some _ _ _ h1
  | none =>
    cases h2 : firstIdx (fun c => ops.canAdd c p) s.claims with
    | some j => exact ⟨firstIdx_none _ _ h1, firstIdx_some _ _ _ h2⟩
    | none => cases (ops.openFor p).isSome <;> exact ⟨firstIdx_none _ _ h1, firstIdx_none _ _ h2⟩

/-- every recorded step of a pass is `Scheduler.add`'s verdict in the state the step was taken in -/
theorem mem_runPass {κ : Type} (ops : ClaimOps κ) (ps : List PodD) (s : Pass κ) (e : PodD × Decision × Pass κ)
    (h : e ∈ runPass ops s ps) : e.2.1 = addDecision ops e.2.2 e.1 := by
  fun_induction runPass ops s ps with
  | case1 => cases h
  | case2 s p rest _ ih => exact (List.mem_cons.mp h).elim (fun he => he ▸ rfl) ih

/-- the loop of `MarkForDeletion` / `UnmarkForDeletion` in closed form: exactly the state nodes the call names are set -/
theorem foldl_setMark (b : Bool) : ∀ (ids : List String) (s : MarkSt),
    ids.foldl (setMark b) s = s.map (fun n => if n.id ∈ ids then { n with marked := b } else n) := by
  intro ids
  induction ids with
  | nil => intro s; simp
  | cons x rest ih =>
    intro s
    rw [List.foldl_cons, ih, setMark, List.map_map]
    apply List.map_congr_left
    intro n _
    by_cases hx : n.id = x <;> by_cases hr : n.id ∈ rest <;> simp [hx, hr]

theorem mem_active (ns : List SNode) (n : SNode) : n ∈ active ns ↔ n ∈ ns ∧ n.markedForDeletion = false := by
  simp [active]

theorem orIfZero_eq (a b : Int) (h : a = 0 ∨ a = b) : orIfZero a b = b := by
  unfold orIfZero; rcases h with h | h <;> simp [h]

/-- `StateNode.Taints()` of a managed node: every taint shown is one of the NodeClaim's or one of the Node object's, and
    until the node is initialized none is a known ephemeral taint or matches a startup taint of the NodeClaim -/
theorem mem_taints_managed (n : SNode) (c : ClaimObj) (hc : n.claim = some c) (t : Taint) (ht : t ∈ n.taints) :
    (t ∈ c.taints ∨ ∃ nd, n.node = some nd ∧ t ∈ nd.taints) ∧
    (n.initialized = false → knownEphemeral t = false ∧ c.startupTaints.any (fun st => matchTaint st t) = false) := by
  unfold SNode.taints at ht
  rw [hc] at ht
  refine ⟨?_, fun hi => ?_⟩
  · cases hnode : n.node with
    | none =>
      simp only [hnode] at ht
      split at ht
      · exact Or.inl (List.mem_filter.mp ht).1
      · exact Or.inl ht
    | some nd =>
      simp only [hnode] at ht
      have ht' : t ∈ if !n.registered then c.taints else nd.taints := by
        split at ht
        · exact (List.mem_filter.mp ht).1
        · exact ht
      split at ht'
      · exact Or.inl ht'
      · exact Or.inr ⟨nd, rfl, ht'⟩
  · simp only [hi, Bool.not_false, if_true] at ht
    simpa [Bool.or_eq_false_iff] using (List.mem_filter.mp ht).2

/-! ### `Compatible` against a node's labels only reads the labels of the keys the pod mentions -/

theorem all_congr_mem {α : Type} (l : List α) (f g : α → Bool) (h : ∀ x ∈ l, f x = g x) : l.all f = l.all g := by
  induction l with
  | nil => rfl
  | cons a as ih =>
    simp only [List.all_cons]
    rw [h a (by simp), ih (fun x hx => h x (by simp [hx]))]

theorem compatible_congr (A A' B : Reqs) (U : List String) (h : ∀ p ∈ B, A.lookup p.1 = A'.lookup p.1) :
    A.compatible B U = A'.compatible B U := by
  unfold Reqs.compatible Reqs.intersects Reqs.hasKey
  congr 1
  · exact all_congr_mem B _ _ fun (k, r) hp => by simp only [h (k, r) hp]
  · exact all_congr_mem B _ _ fun (k, r) hp => by simp only [h (k, r) hp]

theorem compatible_labels_congr (ls ls' : Labels) (R : Reqs) (h : ∀ p ∈ R, ls.lookup p.1 = ls'.lookup p.1) :
    (labelReqs ls).compatible R [] = (labelReqs ls').compatible R [] := by
  apply compatible_congr
  intro p hp
  rw [lookup_labelReqs, lookup_labelReqs, h p hp]

/-- `ExistingNode.CanAdd` / `Add` over a list of pods, in order: `none` as soon as one is refused -/
def addAll : ExNode → List PodD → Option ExNode
  | n, [] => some n
  | n, p :: rest => if existingCanAdd n p then addAll (existingAdd n p) rest else none

/-- the host-port check of every pod against the ports in use when it arrives -/
def portsChain : List HostPort → List PodD → Bool
  | _, [] => true
  | used, p :: rest => portsFree used p.ports && portsChain (used ++ p.ports) rest

def sumCPU (ps : List PodD) : Int := (ps.map (·.cpu)).sum
def sumMem (ps : List PodD) : Int := (ps.map (·.mem)).sum

theorem sum_map_nonneg {α : Type} (f : α → Int) (l : List α) (h : ∀ x ∈ l, 0 ≤ f x) : 0 ≤ (l.map f).sum := by
  induction l with
  | nil => simp
  | cons x rest ih =>
    rw [List.forall_mem_cons] at h
    have h2 := ih h.2
    simp only [List.map_cons, List.sum_cons]
    omega

theorem addAll_succeeds : ∀ (ps : List PodD) (n : ExNode),
    (∀ p ∈ ps, toleratesAll p.tolerations n.taints = true) →
    (∀ p ∈ ps, (labelReqs n.labels).compatible (podReqs p.exprs) [] = true) →
    portsChain n.ports ps = true →
    (∀ p ∈ ps, 0 ≤ p.cpu ∧ 0 ≤ p.mem) →
    sumCPU ps ≤ n.remCPU → sumMem ps ≤ n.remMem → (ps.length : Int) ≤ n.remPods →
    ∃ n', addAll n ps = some n' := by
  intro ps
  induction ps with
  | nil => intro n _ _ _ _ _ _ _; exact ⟨n, rfl⟩
  | cons p rest ih =>
    intro n htol hlab hports hnn hcpu hmem hpods
    rw [List.forall_mem_cons] at htol hlab hnn
    have hrest_cpu : 0 ≤ sumCPU rest := sum_map_nonneg PodD.cpu rest (fun q hq => (hnn.2 q hq).1)
    have hrest_mem : 0 ≤ sumMem rest := sum_map_nonneg PodD.mem rest (fun q hq => (hnn.2 q hq).2)
    simp only [sumCPU, sumMem, List.map_cons, List.sum_cons, List.length_cons, Int.natCast_add, Int.natCast_one,
      portsChain, Bool.and_eq_true] at hcpu hmem hpods hports hrest_cpu hrest_mem
    have hcan : existingCanAdd n p = true := (existingCanAdd_iff n p).mpr ⟨htol.1, hports.1, by omega, hlab.1⟩
    simp only [addAll, hcan, if_true]
    exact ih (existingAdd n p) htol.2 hlab.2 hports.2 hnn.2 (by simp only [existingAdd, sumCPU]; omega)
      (by simp only [existingAdd, sumMem]; omega) (by simp only [existingAdd]; omega)

theorem portsFree_append (used extra new : List HostPort) (h : portsFree (used ++ extra) new = true) :
    portsFree used new = true := by
  simp only [portsFree, List.all_eq_true, List.any_append, Bool.not_eq_true', Bool.or_eq_false_iff] at h ⊢
  exact fun p hp => (h p hp).1

theorem lookup_setKV (k v k' : String) (l : List (String × String)) :
    (setKV k v l).lookup k' = if k' = k then some v else l.lookup k' := by
  fun_induction setKV k v l with
  | case1 => simp
  | case2 a b rest h => rw [eq_of_beq h]; simp only [lookup_cons_ite]; split <;> rfl
  | case3 a b rest h ih =>
    have h : a ≠ k := by simpa using h
    simp only [lookup_cons_ite, ih]
    by_cases hk : k' = a
    · simp [hk, h]
    · simp [hk]

theorem synced_claims (s : Sync) : s.synced.2.claims = s.claims := by
  fun_cases Sync.synced s
  · rfl
  · rfl
  · simp only; split <;> rfl

theorem noneUnlaunched_of_synced (s : Sync) (h : s.synced.1 = true) : noneUnlaunched s.claims = true := by
  revert h
  fun_cases Sync.synced s
  · exact id
  · intro h; cases h
  · rename_i hn _; intro _; simpa using hn

theorem step_reconcile (st : Sync × List Sync) :
    step st .reconcile = (st.1.synced.2, if st.1.synced.1 then st.2 ++ [st.1.synced.2] else st.2) := by
  simp only [step]; split <;> rfl

theorem step_log (st : Sync × List Sync) (e : Ev) :
    (step st e).2 = st.2 ∨ ((step st e).2 = st.2 ++ [st.1.synced.2] ∧ st.1.synced.1 = true) := by
  cases e with
  | reconcile =>
    rw [step_reconcile]
    cases st.1.synced.1
    · exact Or.inl rfl
    · exact Or.inr ⟨rfl, rfl⟩
  | _ => exact Or.inl rfl

/-- NodeClaim `name` is recorded by cluster state without a provider id -/
def Unlaunched (name : String) (s : Sync) : Prop := s.claims.lookup name = some ""

theorem not_noneUnlaunched (s : Sync) (name : String) (h : Unlaunched name s) : noneUnlaunched s.claims = false := by
  rw [noneUnlaunched, List.all_eq_false]
  exact ⟨(name, ""), lookup_mem s.claims name "" h, by simp⟩

/-- the event launches or deletes NodeClaim `name` -/
def touches (name : String) : Ev → Bool
  | .launch n _ => n == name
  | .delete n => n == name
  | _ => false

theorem step_keeps_unlaunched (name : String) (st : Sync × List Sync) (e : Ev) (h : Unlaunched name st.1)
    (he : touches name e = false) : Unlaunched name (step st e).1 ∧ (step st e).2 = st.2 := by
  -- the log grows only behind a successful `Synced` check, which an unlaunched NodeClaim rules out
  refine ⟨?_, (step_log st e).resolve_right fun hp => ?_⟩
  · cases e with
    | create n =>
      simp only [Unlaunched, step, Sync.updateNodeClaim, lookup_setKV]
      split
      · rfl
      · exact h
    | launch n pid =>
      have hne : name ≠ n := by
        intro e; subst e; simp [touches] at he
      simp only [Unlaunched, step]
      split
      · simp only [Sync.updateNodeClaim, lookup_setKV, hne, if_false]; exact h
      · exact h
    | delete n =>
      have hne : name ≠ n := by
        intro e; subst e; simp [touches] at he
      simp only [Unlaunched, step, Sync.deleteNodeClaim]
      rw [lookup_filter_key _ (· != n), if_pos (by simpa using hne)]; exact h
    | nodeSeen n =>
      simp only [Unlaunched, step, Sync.updateNode]
      split <;> exact h
    | reconcile =>
      simp only [Unlaunched, step_reconcile, synced_claims]; exact h
  · exact Bool.false_ne_true ((not_noneUnlaunched st.1 name h).symm.trans (noneUnlaunched_of_synced st.1 hp.2))

end Karp.Provision
