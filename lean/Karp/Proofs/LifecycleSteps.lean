/-
The model against the executable specification `Spec/LifecycleOrder`: its observable preconditions hold of what the
modelled registration / initialization write; condition flips, the deletion marks, reported errors, capacity errors.
-/
import Karp.Proofs.LifecycleInv
import Karp.Spec.LifecycleOrder
namespace Karp.Lifecycle
open Karp.Spec.LifecycleOrder

theorem unregistered_eq : unregistered = unregisteredTaint := rfl

theorem ephemeral_table : Karp.Gen.Lifecycle.knownEphemeralTaints = ephemeralTaints.map (fun e => (e.key, e.effect)) := rfl
theorem ephemeral_prefixes : Karp.Gen.Lifecycle.knownEphemeralTaintKeyPrefixes = ephemeralPrefixes := rfl

theorem isKnownEphemeral_eq (t : Taint) : isKnownEphemeral t = isEphemeral t := by
  unfold isKnownEphemeral isEphemeral
  rw [ephemeral_table, ephemeral_prefixes, List.any_map]
  rfl

theorem matches_eq_sameTaint (a b : Taint) : a.matches b = sameTaint a b := rfl

theorem hasMatch_eq_carries (ts : List Taint) (t : Taint) : hasMatch ts t = carries ts t := rfl

theorem matches_comm (a b : Taint) : a.matches b = b.matches a := by
  unfold Taint.matches
  rw [Bool.beq_comm (a := a.key), Bool.beq_comm (a := a.effect)]

/-- `MatchTaint` only looks at key and effect: two taints that match each other match the same third taints -/
theorem matches_trans {a b c : Taint} (hab : a.matches b = true) (hbc : b.matches c = true) : a.matches c = true := by
  unfold Taint.matches at *
  simp only [Bool.and_eq_true, beq_iff_eq] at *
  exact ⟨hab.1.trans hbc.1, hab.2.trans hbc.2⟩

theorem mem_mergeTaints_left (w ts : List Taint) (t : Taint) (h : t ∈ ts) : t ∈ mergeTaints ts w := by
  unfold mergeTaints
  induction w generalizing ts with
  | nil => simpa using h
  | cons x xs ih =>
    simp only [List.foldl_cons]
    apply ih
    split
    · exact h
    · exact List.mem_append_left _ h

theorem hasMatch_mergeTaints_left (w ts : List Taint) (t : Taint) (h : hasMatch ts t = true) :
    hasMatch (mergeTaints ts w) t = true := by
  unfold hasMatch at *
  rw [List.any_eq_true] at *
  obtain ⟨x, hx, hm⟩ := h
  exact ⟨x, mem_mergeTaints_left w ts x hx, hm⟩

/-- after `Taints.Merge` every merged-in taint is on the list *by key and effect*: itself, or the taint that was
    already there with the same key and effect (whose value and `timeAdded` are kept) -/
theorem hasMatch_mergeTaints_right (w ts : List Taint) (t : Taint) (h : t ∈ w) : hasMatch (mergeTaints ts w) t = true := by
  induction w generalizing ts with
  | nil => simp at h
  | cons x xs ih =>
    have hstep : mergeTaints ts (x :: xs) = mergeTaints (if hasMatch ts x then ts else ts ++ [x]) xs := by
      simp [mergeTaints, List.foldl_cons]
    rw [hstep]
    rcases List.mem_cons.mp h with rfl | h
    · apply hasMatch_mergeTaints_left
      split
      · rename_i hc; exact hc
      · unfold hasMatch
        rw [List.any_eq_true]
        exact ⟨t, by simp, by simp [Taint.matches]⟩
    · exact ih _ h

theorem carries_filter_unregistered (ts : List Taint) (t : Taint) (hclean : t.matches unregistered = false)
    (h : hasMatch ts t = true) : carries (ts.filter (fun x => !x.matches unregistered)) t = true := by
  unfold hasMatch at h
  unfold carries
  rw [List.any_eq_true] at *
  obtain ⟨x, hx, hm⟩ := h
  refine ⟨x, ?_, hm⟩
  rw [List.mem_filter]
  refine ⟨hx, ?_⟩
  cases hxu : x.matches unregistered
  · rfl
  · rw [matches_trans hm hxu] at hclean; cases hclean

/-- whatever value or `timeAdded` the unregistered taint carried: after the removal no taint with its key and
    effect is left -/
theorem carries_filter_unregistered_none (ts : List Taint) :
    carries (ts.filter (fun x => !x.matches unregistered)) unregisteredTaint = false := by
  unfold carries
  rw [List.any_eq_false]
  intro x hx
  rw [List.mem_filter] at hx
  have h := hx.2
  rw [← unregistered_eq, ← matches_eq_sameTaint, matches_comm]
  simpa using h

theorem registeredPre_registerNode (sp : Spec) (m : Claim) (n : Node) (hpl : m.provLabels = true)
    (h1 : cleanTaints sp.taints) (h2 : cleanTaints sp.startup) :
    registeredPre sp [registerNode sp m n] = true ∧
    registeredPre sp [{ registerNode sp m n with initLabel := true }] = true := by
  have key : ∀ t, t ∈ sp.taints ∨ t ∈ sp.startup → n.doNotSync = false →
      carries (registerNode sp m n).taints t = true := by
    intro t ht hd
    have hne : t.matches unregistered = false := by
      rcases ht with ht | ht
      · exact h1 t ht
      · exact h2 t ht
    simp only [registerNode, hd]
    simp only [Bool.false_eq_true, if_false]
    apply carries_filter_unregistered _ _ hne
    rcases ht with ht | ht
    · exact hasMatch_mergeTaints_left _ _ _ (hasMatch_mergeTaints_right _ _ _ ht)
    · exact hasMatch_mergeTaints_right _ _ _ ht
  have hun : carries (registerNode sp m n).taints unregisteredTaint = false := by
    simp only [registerNode]
    exact carries_filter_unregistered_none _
  have hsync : (registerNode sp m n).doNotSync = true ∨
      (sp.taints.all (fun t => carries (registerNode sp m n).taints t) = true ∧
       sp.startup.all (fun t => carries (registerNode sp m n).taints t) = true) := by
    cases hd : n.doNotSync
    · right
      constructor
      · simp only [List.all_eq_true]; intro t ht; exact key t (Or.inl ht) hd
      · simp only [List.all_eq_true]; intro t ht; exact key t (Or.inr ht) hd
    · left; simp [registerNode, hd]
  have hflags : (registerNode sp m n).regLabel = true ∧ (registerNode sp m n).finalizer = true ∧
      (registerNode sp m n).ownerRef = true ∧ (registerNode sp m n).userLabels = true ∧
      (registerNode sp m n).provLabels = true := by
    simp [registerNode, hpl]
  have hpre : registeredPre sp [registerNode sp m n] = true := by
    simp only [registeredPre, hun, hflags.1, hflags.2.1, hflags.2.2.1, hflags.2.2.2.1, hflags.2.2.2.2]
    rcases hsync with hs | ⟨hs1, hs2⟩
    · simp [hs]
    · simp [hs1, hs2]
  -- `registeredPre` does not look at the initialized label
  exact ⟨hpre, hpre⟩

theorem ready_eq_nodeIsReady (n : Node) : n.ready = nodeIsReady n := by
  unfold Node.ready nodeIsReady
  cases n.readyCond <;> rfl

theorem initializedPre_of_blocker (sp : Spec) (n : Node) (h : initBlocker sp n = none) :
    initializedPre sp [{ n with initLabel := true }] = true := by
  revert h
  fun_cases initBlocker sp n <;> intro h
  case case5 hr hs he hres =>
    simp only [initializedPre]
    simp at hr
    have hr' : nodeIsReady { n with initLabel := true } = true := by
      rw [← ready_eq_nodeIsReady]; exact hr
    unfold firstStartupTaint at hs
    unfold firstEphemeralTaint at he
    rw [List.findSome?_eq_none_iff] at hs
    rw [List.find?_eq_none] at he
    simp only [hr', Bool.true_and, Bool.and_eq_true, List.all_eq_true]
    refine ⟨⟨?_, ?_⟩, ?_⟩
    · intro s hs'
      have := hs s hs'
      rw [List.find?_eq_none] at this
      simp only [Bool.not_eq_true', carries, List.any_eq_false]
      intro x hx
      simpa [sameTaint, Taint.matches] using this x hx
    · intro t ht; have := he t ht; rw [isKnownEphemeral_eq] at this; simpa using this
    · simp at hres
      cases hw : sp.wantsRes
      · simp
      · simp [hres hw]
  all_goals cases h

theorem registeredPre_elim {sp : Spec} {nodes : List Node} (h : registeredPre sp nodes = true) :
    ∃ n, nodes = [n] ∧ n.regLabel = true ∧
      ∀ t ∈ n.taints, ¬(t.key = "karpenter.sh/unregistered" ∧ t.effect = "NoExecute") := by
  unfold registeredPre at h
  split at h
  · rename_i n
    simp only [Bool.and_eq_true, Bool.not_eq_true'] at h
    refine ⟨n, rfl, h.1.1.1.1.1.1, ?_⟩
    have hc := h.1.1.1.1.1.2
    unfold carries at hc
    rw [List.any_eq_false] at hc
    intro t ht ⟨hk, he⟩
    apply hc t ht
    simp [sameTaint, unregisteredTaint, hk, he]
  · simp at h

theorem initializedPre_elim {sp : Spec} {nodes : List Node} (h : initializedPre sp nodes = true) :
    ∃ n, nodes = [n] ∧ n.readyCond = .true_ ∧
      (∀ s ∈ sp.startup, ∀ t ∈ n.taints, ¬(t.key = s.key ∧ t.effect = s.effect)) ∧
      (∀ t ∈ n.taints, isEphemeral t = false) ∧ (sp.wantsRes = true → n.resOK = true) := by
  unfold initializedPre at h
  split at h
  · rename_i n
    simp only [Bool.and_eq_true, Bool.or_eq_true, Bool.not_eq_true', List.all_eq_true] at h
    obtain ⟨⟨⟨hr, hs⟩, he⟩, hres⟩ := h
    refine ⟨n, rfl, ?_, ?_, ?_, ?_⟩
    · unfold nodeIsReady at hr
      cases hrc : n.readyCond <;> simp [hrc] at hr
      rfl
    · intro s hs' t ht ⟨hk, hef⟩
      have := hs s hs'
      unfold carries at this
      rw [List.any_eq_false] at this
      apply this t ht
      simp [sameTaint, hk, hef]
    · intro t ht; exact he t ht
    · intro hw
      rcases hres with h | h
      · rw [hw] at h; cases h
      · exact h
  · simp at h

/-- the Ready gate of `Initialization.Reconcile`: a Ready condition that is `Unknown`, `False` or was never posted
    blocks, with the reason `NodeNotReady`, before anything else is looked at -/
theorem initBlocker_not_ready (sp : Spec) (n : Node) (h : n.readyCond ≠ .true_) :
    initBlocker sp n = some .nodeNotReady := by
  unfold initBlocker Node.ready
  cases hrc : n.readyCond <;> simp_all

theorem registerNode_unregistered_gone (sp : Spec) (m : Claim) (n : Node) :
    ∀ t ∈ (registerNode sp m n).taints, t.matches unregistered = false := by
  intro t ht
  simp only [registerNode, List.mem_filter] at ht
  simpa using ht.2

theorem initialization_not_ready (sp : Spec) (f : Faults) (c : Ctx) (n : Node)
    (hi : c.mem.conds.i.status = .unknown) (hr : c.mem.conds.r.status = .true_) (hp : c.mem.providerID = true)
    (hl : f.nodeList = false) (hn : c.w.nodes = [n]) (hrc : n.readyCond ≠ .true_) :
    (initialization sp f c).calls = c.calls ∧ (initialization sp f c).w = c.w ∧
    (initialization sp f c).mem.conds.i.status = .unknown ∧
    (initialization sp f c).mem.conds.i.reason = .nodeNotReady := by
  have hb := initBlocker_not_ready sp n hrc
  simp [initialization, hi, hr, nodeForInit, hp, hl, hn, hb, Ctx.setI, Cond.set]

theorem runSubs_flips (sp : Spec) (f : Faults) (co : CreateOutcome) {w w0 : World} {m0 : Claim}
    (calls : List Call) (h : Inv w) (s : Start w w0 m0) (h1 : cleanTaints sp.taints) (h2 : cleanTaints sp.startup) :
    ((runSubs sp f co w0 m0 calls).w.claim.conds.r.status = .true_ → w.claim.conds.r.status ≠ .true_ →
      m0.conds.r.status = .true_ ∨ registeredPre sp (runSubs sp f co w0 m0 calls).w.nodes = true) ∧
    ((runSubs sp f co w0 m0 calls).w.claim.conds.i.status = .true_ → w.claim.conds.i.status ≠ .true_ →
      m0.conds.i.status = .true_ ∨ initializedPre sp (runSubs sp f co w0 m0 calls).w.nodes = true) := by
  have S := runSubs_summary sp f co calls h s
  have hmR := (runSubs_mem sp f co w0 m0 calls rfl).2.1
  have hN := runSubs_nodes sp f co w0 m0 calls
  have hc := runSubs_conds sp f co w0 m0 calls
  rw [s.conds] at hc
  generalize runMem sp f co w0 m0 calls = mem at S hmR hN hc
  generalize runSubs sp f co w0 m0 calls = r at S hN hc ⊢
  rcases hc with ec | ec <;> rw [ec]
  · exact ⟨fun a b => absurd a b, fun a b => absurd a b⟩
  constructor
  · refine fun hr _ => Decidable.or_iff_not_imp_left.mpr fun h0 => ?_
    obtain ⟨n, hn⟩ := hN.1 hr h0
    have := registeredPre_registerNode sp mem n (S.lpid (S.pidL ((hmR hr).resolve_left h0))).2 h1 h2
    rcases hn with hn | hn <;> rw [hn]
    · exact this.1
    · exact this.2
  · refine fun hi _ => Decidable.or_iff_not_imp_left.mpr fun h0 => ?_
    obtain ⟨n, hb, hn⟩ := hN.2 hi h0
    rw [hn]; exact initializedPre_of_blocker sp n hb

theorem runSubs_forward (sp : Spec) (f : Faults) (co : CreateOutcome) {w w0 : World} {m0 : Claim}
    (calls : List Call) (h : Inv w) (s : Start w w0 m0) (hfresh : m0.conds = w.claim.conds) :
    (w.claim.conds.l.status = .true_ → (runSubs sp f co w0 m0 calls).w.claim.conds.l.status = .true_) ∧
    (w.claim.conds.r.status = .true_ → (runSubs sp f co w0 m0 calls).w.claim.conds.r.status = .true_) ∧
    (w.claim.conds.i.status = .true_ → (runSubs sp f co w0 m0 calls).w.claim.conds.i.status = .true_) := by
  have S := runSubs_summary sp f co calls h s
  obtain ⟨-, -, -, hkR, hkI⟩ := runSubs_mem sp f co w0 m0 calls rfl
  have hc := runSubs_conds sp f co w0 m0 calls
  rw [s.conds] at hc
  generalize runMem sp f co w0 m0 calls = mem at S hkR hkI hc
  generalize runSubs sp f co w0 m0 calls = r at S hc ⊢
  rcases hc with ec | ec
  · rw [ec]; exact ⟨id, id, id⟩
  · rw [ec, ← hfresh]
    exact ⟨fun hl => (S.keepL hl).1, hkR, hkI⟩

theorem reconcileLive_flips (sp : Spec) (f : Faults) (co : CreateOutcome) {w : World} (h : Inv w) (view : Claim)
    (hv : view ∈ w.versions) (h1 : cleanTaints sp.taints) (h2 : cleanTaints sp.startup) :
    ((reconcileLive sp f co w view).w.claim.conds.r.status = .true_ → w.claim.conds.r.status ≠ .true_ →
      view.conds.r.status = .true_ ∨ registeredPre sp (reconcileLive sp f co w view).w.nodes = true) ∧
    ((reconcileLive sp f co w view).w.claim.conds.i.status = .true_ → w.claim.conds.i.status ≠ .true_ →
      view.conds.i.status = .true_ ∨ initializedPre sp (reconcileLive sp f co w view).w.nodes = true) := by
  rcases reconcileLive_cases sp f co w view with ⟨hf, e⟩ | ⟨_, _, e⟩ | ⟨_, _, res, e⟩ <;> rw [e]
  · exact runSubs_flips sp f co [] h (.view h hv hf) h1 h2
  · -- the in-memory copy is the current one: a condition it says is true did not become true
    have := runSubs_flips sp f co [⟨.finPatch, .ok⟩] h (.patched h) h1 h2
    exact ⟨fun a b => (this.1 a b).imp_left fun h0 => absurd h0 b, fun a b => (this.2 a b).imp_left fun h0 => absurd h0 b⟩
  · exact ⟨fun a b => absurd a b, fun a b => absurd a b⟩

theorem reconcileLive_forward (sp : Spec) (f : Faults) (co : CreateOutcome) {w : World} (h : Inv w) :
    (w.claim.conds.l.status = .true_ → (reconcileLive sp f co w w.claim).w.claim.conds.l.status = .true_) ∧
    (w.claim.conds.r.status = .true_ → (reconcileLive sp f co w w.claim).w.claim.conds.r.status = .true_) ∧
    (w.claim.conds.i.status = .true_ → (reconcileLive sp f co w w.claim).w.claim.conds.i.status = .true_) := by
  rcases reconcileLive_cases sp f co w w.claim with ⟨hf, e⟩ | ⟨_, _, e⟩ | ⟨_, _, res, e⟩ <;> rw [e]
  · exact runSubs_forward sp f co [] h (.view h (claim_mem_versions w) hf) rfl
  · exact runSubs_forward sp f co [⟨.finPatch, .ok⟩] h (.patched h) rfl
  · exact ⟨id, id, id⟩

theorem merge_later (stored mem a : Claim) : Later a (mergeMeta stored mem a) ∧
    Later a (mergeStatus stored mem (mergeMeta stored mem a)) := by
  simp [Later, Claim.gone, mergeMeta, mergeStatus]

theorem persist_later (stored : Claim) (f : Faults) (c : Ctx) : Later c.w.claim (persist stored f c).w.claim := by
  rcases (persist_world stored f c).2.2.2.2.2 with h | h | h <;> rw [h]
  · exact Later.refl _
  · exact (merge_later stored c.mem c.w.claim).1
  · exact (merge_later stored c.mem c.w.claim).2

theorem runSubs_later (sp : Spec) (f : Faults) (co : CreateOutcome) (w0 : World) (m0 : Claim) (calls : List Call) :
    Later w0.claim (runSubs sp f co w0 m0 calls).w.claim := by
  obtain ⟨a, ha, h | h | h⟩ := runSubs_claim sp f co w0 m0 calls <;> rw [h]
  · exact ha.later
  · exact ha.later.trans (merge_later _ _ a).1
  · exact ha.later.trans (merge_later _ _ a).2

theorem reconcileLive_later (sp : Spec) (f : Faults) (co : CreateOutcome) (w : World) (view : Claim) :
    Later w.claim (reconcileLive sp f co w view).w.claim := by
  rcases reconcileLive_cases sp f co w view with ⟨_, e⟩ | ⟨_, _, e⟩ | ⟨_, _, res, e⟩ <;> rw [e]
  · exact runSubs_later sp f co w view []
  · exact Later.trans ⟨id, id⟩ (runSubs_later sp f co w.withFinalizer _ _)
  · exact Later.refl _

theorem step_later (sp : Spec) (w : World) (s : Step) : Later w.claim (step sp w s).1.claim := by
  rcases step_quiet_or_live sp w s with q | ⟨lag, co, f, fo, rfl, _, _, he⟩
  · exact q.later
  · rw [he]; exact reconcileLive_later sp f co w _

theorem launch_errsNF (f : Faults) (co : CreateOutcome) (c : Ctx) : (launch f co c).errsNF = c.errsNF := by
  rcases launch_cases f co c with ⟨_, _, e⟩ | ⟨_, e⟩ | ⟨_, e⟩ | ⟨_, e⟩ | ⟨_, _, e⟩ | ⟨_, _, r, e⟩ <;> rw [e]
  · rw [capacityError_eq]; rfl
  all_goals rfl

theorem patchFail_result {c c' : Ctx} {s : Site} {o : Outcome} (hnf : NF c) (h : c'.errsNF = c.errsNF)
    (rest : List Call) (hmem : ⟨s, o⟩ ∈ rest) :
    patchFailResult c' o = .err ∨ ∃ x ∈ c.calls ++ rest, x.out = .notFound := by
  unfold patchFailResult
  rw [h]
  cases hf : c.errsNF
  · cases ho : o == .notFound
    · exact .inl rfl
    · exact .inr ⟨_, List.mem_append_right _ hmem, by simpa using ho⟩
  · obtain ⟨x, hx, hxo⟩ := hnf hf
    exact .inr ⟨x, List.mem_append_left _ hx, hxo⟩

/-- an error returned by a sub-reconciler is the reconcile's result, unless an API write said NotFound -/
theorem persist_result (stored : Claim) (f : Faults) (c : Ctx) (he : c.errs = true) (hnf : NF c) :
    (persist stored f c).result = .err ∨ ∃ x ∈ (persist stored f c).calls, x.out = .notFound := by
  rcases persist_cases stored f c with ⟨_, e⟩ | ⟨o, _, e⟩ | ⟨o, _, e⟩ | e <;> rw [e]
  · exact .inl (by simp [finish, he])
  · exact patchFail_result hnf rfl _ (List.mem_singleton.mpr rfl)
  · exact patchFail_result (s := .statusPatch) hnf rfl _ (by simp)
  · exact .inl (by simp [finish, he])

theorem claimDelete_ok {f : Faults} {w : World} (h : claimDeleteOutcome f w = .ok) : w.claim.present = true := by
  revert h
  fun_cases claimDeleteOutcome f w <;> intro h
  case case1 e _ => cases e <;> cases h
  case case2 => assumption
  case case3 => cases h

theorem launch_capacity (f : Faults) (co : CreateOutcome) (c : Ctx) (hco : co = .ice ∨ co = .ncnr)
    (hlc : launchCase co c = .failed) :
    (launch f co c).calls = c.calls ++ [⟨.create, co.toOutcome⟩, ⟨.claimDelete, claimDeleteOutcome f c.w⟩] ∧
    (launch f co c).mem.conds.l = c.mem.conds.l ∧
    (claimDeleteOutcome f c.w = .ok → (launch f co c).w.claim = c.w.claim.deleted) ∧
    (claimDeleteOutcome f c.w ≠ .ok → claimDeleteOutcome f c.w ≠ .notFound → (launch f co c).errs = true) := by
  have e : launch f co c = capacityError f co.toOutcome c.initConds := by
    rcases launch_cases f co c with ⟨_, _, e⟩ | ⟨h, _⟩ | ⟨h, _⟩ | ⟨h, _⟩ | ⟨h, _⟩ | ⟨_, h, _⟩
    · exact e
    any_goals (rw [hlc] at h; cases h)
    rcases hco with rfl | rfl <;> rcases h with h | h <;> cases h
  rw [e, capacityError_eq]
  exact ⟨rfl, rfl, fun hok => by simp [hok], fun h1 h2 => if_neg (not_or.mpr ⟨h1, h2⟩)⟩

/-- successful provider `Create` calls in a log -/
def okCreates (l : List Call) : Nat := ((creates l).filter (fun c => c.out == .ok)).length

theorem launchCreates_count (co : CreateOutcome) (c : Ctx) :
    (launchCreates co (launchCase co c)).length ≤ 1 ∧
    launchInst (launchCase co c) c.w.instances =
      c.w.instances + ((launchCreates co (launchCase co c)).filter (fun x => x.out == .ok)).length := by
  rcases launchCase_cases co c with ⟨h, _⟩ | ⟨h, _⟩ | ⟨h, _⟩ | ⟨h, _⟩ | ⟨h, _, _, hco⟩ <;> rw [h]
  all_goals simp [launchCreates, launchInst]
  cases co <;> simp_all [CreateOutcome.toOutcome]

theorem runSubs_creates (sp : Spec) (f : Faults) (co : CreateOutcome) (w0 : World) (m0 : Claim) (calls : List Call)
    (hc : creates calls = []) :
    (creates (runSubs sp f co w0 m0 calls).calls).length ≤ 1 ∧
    (runSubs sp f co w0 m0 calls).w.instances = w0.instances + okCreates (runSubs sp f co w0 m0 calls).calls := by
  obtain ⟨rest, hr, hcr⟩ := runSubs_calls sp f co w0 m0 calls
  have hi := (runSubs_world sp f co w0 m0 calls).2.2.2
  have hcount := launchCreates_count co { w := w0, mem := m0, calls := calls }
  simp only [] at hcount
  unfold okCreates
  rw [hr, creates_append, hc, hcr, hi]
  simpa using hcount

theorem reconcileLive_creates (sp : Spec) (f : Faults) (co : CreateOutcome) (w : World) (view : Claim) :
    (creates (reconcileLive sp f co w view).calls).length ≤ 1 ∧
    (reconcileLive sp f co w view).w.instances = w.instances + okCreates (reconcileLive sp f co w view).calls := by
  rcases reconcileLive_cases sp f co w view with ⟨_, e⟩ | ⟨_, _, e⟩ | ⟨_, _, res, e⟩ <;> rw [e]
  · exact runSubs_creates sp f co w view [] rfl
  · exact runSubs_creates sp f co w.withFinalizer _ _ rfl
  · simp [creates, okCreates]

/-- no provider `Create` before the finalizer is on the API server's copy -/
theorem reconcileLive_finalizer (sp : Spec) (f : Faults) (co : CreateOutcome) {w : World} (h : Inv w) (view : Claim)
    (hv : view ∈ w.versions) :
    ∀ c ∈ (reconcileLive sp f co w view).calls, c.site = .create →
      (reconcileLive sp f co w view).w.claim.finalizer = true ∧ (reconcileLive sp f co w view).w.finEver = true ∧
      (view.finalizer = true ∨ (reconcileLive sp f co w view).calls.head? = some ⟨.finPatch, .ok⟩) := by
  intro c hc hsite
  rcases reconcileLive_cases sp f co w view with ⟨hf, e⟩ | ⟨_, _, e⟩ | ⟨_, _, res, e⟩ <;> rw [e] at hc ⊢
  · exact ⟨(runSubs_patch sp f co w view [] rfl).1.trans (h.finMono view hv hf),
      (runSubs_world sp f co w view []).2.1.trans (h.finEver view hv hf), Or.inl hf⟩
  · obtain ⟨rest, hr, _⟩ := runSubs_calls sp f co w.withFinalizer w.withFinalizer.claim [⟨.finPatch, .ok⟩]
    exact ⟨(runSubs_patch sp f co w.withFinalizer _ _ rfl).1, (runSubs_world sp f co w.withFinalizer _ _).2.1,
      Or.inr (by rw [hr]; rfl)⟩
  · rw [List.mem_singleton.mp hc] at hsite
    cases hsite

theorem capacityCalls_skip (pre l : List Call) (hpre : ∀ c ∈ pre, isCapacity c = false) :
    capacityCalls (pre ++ l) = capacityCalls l := by
  induction pre with
  | nil => rfl
  | cons c rest ih =>
    simp only [List.cons_append, capacityCalls, hpre c (List.mem_cons_self ..)]
    simpa using ih fun x hx => hpre x (List.mem_cons_of_mem _ hx)

theorem capacityCalls_none (l : List Call) (h : ∀ c ∈ l, isCapacity c = false) : capacityCalls l = true := by
  simpa [capacityCalls] using capacityCalls_skip l [] h

theorem capacityCalls_one (pre post : List Call) (x d : Call) (hpre : ∀ c ∈ pre, isCapacity c = false)
    (hd : d.site = .claimDelete) (hpost : ∀ c ∈ post, isCapacity c = false) :
    capacityCalls (pre ++ [x, d] ++ post) = true := by
  rw [List.append_assoc, capacityCalls_skip _ _ hpre]
  simp [capacityCalls, isCapacity, hd, capacityCalls_none post hpost]

theorem not_capacity_of_creates_nil (l : List Call) (h : creates l = []) : ∀ c ∈ l, isCapacity c = false := by
  intro c hc
  unfold isCapacity
  have : ¬ (c.site == .create) = true := by
    intro hs
    have : c ∈ creates l := by simp [creates, hc]; simpa using hs
    rw [h] at this; simp at this
  simp [this]

/-- a `Delete` that answered `d` is followed up: accepted, the NodeClaim is terminating or gone; failed with anything but
    NotFound, the reconcile returns an error, unless one of its API writes answered NotFound -/
def DeleteHandled (r : RecOut) (d : Outcome) : Prop :=
  (d = .ok → r.w.claim.gone) ∧ (d ≠ .ok → d ≠ .notFound → r.result = .err ∨ ∃ x ∈ r.calls, x.out = .notFound)

/-- a capacity error in a pass: the delete directly follows and no other provider call is made, no instance, Launched
    untouched in memory, the NodeClaim terminating or gone after a successful delete, a failed delete reported -/
theorem runSubs_capacity (sp : Spec) (f : Faults) (co : CreateOutcome) (w0 : World) (m0 : Claim) (calls : List Call)
    (hco : co = .ice ∨ co = .ncnr) (hlc : launchCase co { w := w0, mem := m0, calls := calls } = .failed) :
    (∃ post, (runSubs sp f co w0 m0 calls).calls =
      calls ++ [⟨.create, co.toOutcome⟩, ⟨.claimDelete, claimDeleteOutcome f w0⟩] ++ post ∧ creates post = []) ∧
    (runSubs sp f co w0 m0 calls).w.instances = w0.instances ∧
    (runMem sp f co w0 m0 calls).conds.l = m0.conds.l ∧
    DeleteHandled (runSubs sp f co w0 m0 calls) (claimDeleteOutcome f w0) := by
  have hL := launch_capacity f co { w := w0, mem := m0, calls := calls } hco hlc
  have hi := (runSubs_world sp f co w0 m0 calls).2.2.2
  have n1 : NF (launch f co { w := w0, mem := m0, calls := calls }) := fun h => by simp [launch_errsNF] at h
  rw [hlc] at hi
  rw [runSubs_eq] at hi ⊢
  unfold runMem
  simp only [] at hL
  generalize launch f co { w := w0, mem := m0, calls := calls } = c1 at *
  obtain ⟨hLc, hLl, hLd, hLe⟩ := hL
  have hC := subs_continues sp f c1
  obtain ⟨r2, h2, h2'⟩ := hC.calls
  obtain ⟨r5, h5, h5'⟩ := persist_calls m0 f (subs sp f c1)
  refine ⟨⟨r2 ++ r5, by rw [h5, h2, hLc]; simp, by simp [h2', h5']⟩, hi, ?_, fun hok => ?_, fun h1 h2 => ?_⟩
  · rw [(subs_frame sp f c1).2]; exact hLl
  · have hg : c1.w.claim.gone := by rw [hLd hok]; exact (deleted_gone w0.claim).2.2 (claimDelete_ok hok)
    exact ((subs_claim sp f c1).later.trans (persist_later m0 f _)).2 hg
  · exact persist_result m0 f _ (hC.errs (hLe h1 h2)) (hC.nf n1)

theorem runSubs_capacity_of_mem_log (sp : Spec) (f : Faults) (co : CreateOutcome) (hco : co = .ice ∨ co = .ncnr)
    (w : World) (w0 : World) (m0 : Claim) (calls : List Call) (hcalls : creates calls = [])
    (hconds : w0.claim.conds = w.claim.conds) (hinst : w0.instances = w.instances)
    (hin : (⟨.create, co.toOutcome⟩ : Call) ∈ (runSubs sp f co w0 m0 calls).calls) :
    capacityCalls (runSubs sp f co w0 m0 calls).calls = true ∧
    (runSubs sp f co w0 m0 calls).w.instances = w.instances ∧
    ((runSubs sp f co w0 m0 calls).w.claim.conds.l.status = .true_ → w.claim.conds.l.status = .true_) ∧
    ∃ d post, (runSubs sp f co w0 m0 calls).calls = calls ++ [⟨.create, co.toOutcome⟩, ⟨.claimDelete, d⟩] ++ post ∧
      creates post = [] ∧ DeleteHandled (runSubs sp f co w0 m0 calls) d := by
  -- the launch case is `failed`: the log contains `create:<capacity error>`
  obtain ⟨rest, hr, hcr⟩ := runSubs_calls sp f co w0 m0 calls
  have hmem : (⟨.create, co.toOutcome⟩ : Call) ∈ creates (runSubs sp f co w0 m0 calls).calls := by
    simp [creates, hin]
  rw [hr, creates_append, hcalls, List.nil_append, hcr] at hmem
  obtain ⟨hlc, hstat⟩ : launchCase co { w := w0, mem := m0, calls := calls } = .failed ∧ m0.conds.l.status = .unknown := by
    rcases launchCase_cases co { w := w0, mem := m0, calls := calls } with ⟨hc, _⟩ | ⟨hc, _⟩ | ⟨hc, _⟩ | ⟨hc, _⟩ | ⟨hc, hs, _⟩
    all_goals rw [hc] at hmem
    all_goals try (simp [launchCreates] at hmem)
    · rcases hco with rfl | rfl <;> simp [CreateOutcome.toOutcome] at hmem
    · exact ⟨hc, hs⟩
  obtain ⟨⟨post, hlog, hpost⟩, c4, c5, c6⟩ := runSubs_capacity sp f co w0 m0 calls hco hlc
  refine ⟨?_, by rw [c4, hinst], ?_, claimDeleteOutcome f w0, post, hlog, hpost, c6⟩
  · rw [hlog]
    exact capacityCalls_one _ _ _ _ (not_capacity_of_creates_nil _ hcalls) rfl (not_capacity_of_creates_nil _ hpost)
  intro hl
  rcases runSubs_conds sp f co w0 m0 calls with ec | ec
  · rw [ec, hconds] at hl; exact hl
  · rw [ec, c5, hstat] at hl; cases hl

/-- a reconcile in which `Create` answered with a capacity error: its call log around that call, and what follows -/
theorem reconcileLive_capacity_log (sp : Spec) (f : Faults) (co : CreateOutcome) (hco : co = .ice ∨ co = .ncnr)
    (w : World) (view : Claim)
    (hin : (⟨.create, co.toOutcome⟩ : Call) ∈ (reconcileLive sp f co w view).calls) :
    capacityCalls (reconcileLive sp f co w view).calls = true ∧
    (reconcileLive sp f co w view).w.instances = w.instances ∧
    ((reconcileLive sp f co w view).w.claim.conds.l.status = .true_ → w.claim.conds.l.status = .true_) ∧
    ∃ pre d post, (reconcileLive sp f co w view).calls = pre ++ [⟨.create, co.toOutcome⟩, ⟨.claimDelete, d⟩] ++ post ∧
      creates pre = [] ∧ creates post = [] ∧ DeleteHandled (reconcileLive sp f co w view) d := by
  rcases reconcileLive_cases sp f co w view with ⟨_, e⟩ | ⟨_, _, e⟩ | ⟨_, _, res, e⟩ <;> rw [e] at hin ⊢
  · obtain ⟨hc, hi, hl, d, post, hlog, hrest⟩ := runSubs_capacity_of_mem_log sp f co hco w w view [] rfl rfl rfl hin
    exact ⟨hc, hi, hl, [], d, post, hlog, rfl, hrest⟩
  · obtain ⟨hc, hi, hl, d, post, hlog, hrest⟩ := runSubs_capacity_of_mem_log sp f co hco w w.withFinalizer _ _ rfl rfl rfl hin
    exact ⟨hc, hi, hl, _, d, post, hlog, rfl, hrest⟩
  · cases List.mem_singleton.mp hin

end Karp.Lifecycle
