/-
Lemmas for C10: the steps of the eviction queue and the drain pass of `Karp/Model/Drain.lean` against the step
specifications of `Karp/Spec/Drain.lean`, and what follows along histories of such steps.
-/
import Karp.Model.Drain
import Karp.Spec.Drain
import Karp.Proofs.ListLemmas

namespace Karp.Drain
open Karp.Spec.Drain

/-! ### the queue as a finite map -/

theorem qget_nil (k : Nat) : qget [] k = none := rfl

theorem qget_cons (a : Nat × Option Int) (q : Items) (k : Nat) :
    qget (a :: q) k = if k = a.1 then some a.2 else qget q k := lookup_cons_ite a.1 a.2 q k

theorem qget_qerase (q : Items) (k k' : Nat) :
    qget (qerase q k) k' = if k' = k then none else qget q k' :=
  lookup_erase q k k' _ fun _ => bne_iff_ne

theorem qget_qput (q : Items) (k k' : Nat) (v : Option Int) :
    qget (qput q k v) k' = if k' = k then some v else qget q k' :=
  lookup_put q k k' v _ fun _ => bne_iff_ne

theorem qget_qadd1 (q : Items) (d : Option Int) (k k' : Nat) :
    qget (qadd1 q d k) k' = if k' = k then some (earlier ((qget q k).getD none) d) else qget q k' :=
  qget_qput ..

theorem mem_keys_iff (q : Items) (k : Nat) : k ∈ keys q ↔ (qget q k).isSome = true :=
  mem_keys_iff_lookup q k

theorem all_keys (q : Items) (P : Nat → Bool) :
    (keys q).all P = true ↔ ∀ k e, qget q k = some e → P k = true := by
  simp only [List.all_eq_true, mem_keys_iff, Option.isSome_iff_exists]
  exact ⟨fun h k e he => h k ⟨e, he⟩, fun h k ⟨e, he⟩ => h k e he⟩

/-! ### deadlines are totally ordered with `none` = +∞, and `earlier` is the minimum -/

theorem dle_refl (a : Option Int) : dle a a = true := by
  cases a <;> simp [dle]

theorem dle_trans {a b c : Option Int} (h1 : dle a b = true) (h2 : dle b c = true) : dle a c = true := by
  cases a <;> cases b <;> cases c <;> simp [dle] at * <;> omega

theorem dle_total (a b : Option Int) : dle a b = true ∨ dle b a = true := by
  cases a <;> cases b <;> simp [dle] <;> omega

theorem dmin_eq_or (a b : Option Int) : dmin a b = a ∨ dmin a b = b := by
  unfold dmin; split <;> simp

theorem dle_dmin_left (a b : Option Int) : dle (dmin a b) a = true := by
  unfold dmin
  split
  · exact dle_refl a
  · exact (dle_total a b).resolve_left ‹_›

theorem dle_dmin_right (a b : Option Int) : dle (dmin a b) b = true := by
  unfold dmin
  split
  · assumption
  · exact dle_refl b

theorem dle_dmin_of {c a b : Option Int} (h1 : dle c a = true) (h2 : dle c b = true) : dle c (dmin a b) = true := by
  rcases dmin_eq_or a b with h | h <;> rw [h] <;> assumption

theorem dmin_idem_right (a b : Option Int) : dmin (dmin a b) b = dmin a b := by
  unfold dmin
  by_cases h : dle a b = true <;> simp [h, dle_refl]

theorem earlier_eq_dmin (a b : Option Int) : earlier a b = dmin a b := by
  cases a <;> cases b <;> simp [earlier, dmin, dle]
  rename_i x y
  rcases Int.lt_trichotomy x y with h | rfl | h
  · simp [h, Int.le_of_lt h]
  · simp
  · simp [Int.not_lt.mpr (Int.le_of_lt h), Int.not_le.mpr h]

/-! ### `Queue.Add` -/

theorem qget_qaddAll (d : Option Int) (ks : List Nat) : ∀ (q : Items) (k : Nat),
    qget (qaddAll q d ks) k = if k ∈ ks then some (dmin ((qget q k).getD none) d) else qget q k := by
  induction ks with
  | nil => intro q k; simp [qaddAll]
  | cons a ks ih =>
    intro q k
    simp only [qaddAll]
    rw [ih, qget_qadd1]
    by_cases hka : k = a
    · subst hka
      by_cases hin : k ∈ ks <;> simp [hin, earlier_eq_dmin, dmin_idem_right]
    · by_cases hin : k ∈ ks <;> simp [hin, hka]

theorem qaddAll_entry (q : Items) (d : Option Int) (ks : List Nat) (k : Nat) :
    qget (qaddAll q d ks) k = qget q k ∨
      (k ∈ ks ∧ qget (qaddAll q d ks) k = some (dmin ((qget q k).getD none) d)) := by
  rw [qget_qaddAll]
  by_cases h : k ∈ ks <;> simp [h]

theorem qaddAll_append (d : Option Int) (a b : List Nat) : ∀ q : Items,
    qaddAll (qaddAll q d a) d b = qaddAll q d (a ++ b) := by
  induction a with
  | nil => intro q; rfl
  | cons x a ih => intro q; simp only [qaddAll, List.cons_append]; exact ih _

theorem kept_qaddAll (q : Items) (d : Option Int) (ks : List Nat) : keptAndMonotone q (qaddAll q d ks) = true := by
  unfold keptAndMonotone
  rw [all_keys]
  intro u e hq
  rw [qget_qaddAll, hq]
  by_cases hin : u ∈ ks
  · simp only [hin, if_true, Option.getD_some]; exact dle_dmin_left _ _
  · simp only [hin, if_false]; exact dle_refl _

theorem admitted_qaddAll (q : Items) (d : Option Int) (ks : List Nat) (P : Nat → Bool) (hP : ∀ u ∈ ks, P u = true) :
    (keys (qaddAll q d ks)).all (fun u => qget (qaddAll q d ks) u == qget q u ||
      (P u && qget (qaddAll q d ks) u == some (dmin ((qget q u).getD none) d))) = true := by
  rw [List.all_eq_true]
  intro u _
  rw [qget_qaddAll]
  by_cases hin : u ∈ ks
  · simp [hin, hP u hin]
  · simp [hin]

theorem add_meets_spec (q : Items) (D : Option Int) (uids : List Nat) :
    addOK uids D q (qaddAll q D uids) [] = true := by
  unfold addOK
  simp only [List.isEmpty_nil, Bool.true_and, Bool.and_eq_true]
  exact ⟨kept_qaddAll _ _ _, admitted_qaddAll q D uids (fun u => uids.contains u) (fun u hu => by simpa using hu)⟩

theorem idleOK_refl (q : Items) : idleOK q q [] = true := by
  unfold idleOK
  -- `q` is `q` after adding nothing
  simp [show keptAndMonotone q q = true from kept_qaddAll q none []]

/-! ### predicates: the model's against the specification's -/

theorem stuckBuffer_eq : stuckBuffer = 60 * sec := by decide

theorem dndActive_eq_protectedNow (p : Pod) (now : Int) : dndActive p now = protectedNow p now := by
  unfold dndActive protectedNow
  cases p.dnd with
  | absent | forever | invalid => rfl
  | dur d =>
    cases p.start with
    | none => rfl
    | some s => exact decide_eq_decide.mpr ⟨fun h => by omega, fun h => by omega⟩

theorem isEvictable_eq_mayEvict (p : Pod) (now : Int) : isEvictable p now = mayEvict p now := by
  unfold isEvictable mayEvict isActive isTerminating untouchable
  rw [dndActive_eq_protectedNow, Bool.not_or, ← Option.not_isSome]
  -- the same conjuncts in another order
  simp only [Bool.and_assoc, Bool.and_comm, Bool.and_left_comm]

theorem isStuckTerminating_eq_lingering (p : Pod) (now : Int) : isStuckTerminating p now = lingering p now := by
  unfold isStuckTerminating lingering
  cases p.del with
  | none => rfl
  | some dt => exact decide_eq_decide.mpr (by rw [stuckBuffer_eq]; constructor <;> intro h <;> omega)

theorem waiting_eq_mustWait (p : Pod) (now : Int) : (p.onNode && isWaitingEviction p now) = mustWait p now := by
  unfold isWaitingEviction isDrainable mustWait untouchable
  rw [isStuckTerminating_eq_lingering, Bool.not_or]
  simp only [Bool.and_assoc, Bool.and_comm, Bool.and_left_comm]

theorem needsForceDelete_eq_strictlyPastD (p : Pod) (D : Option Int) (now : Int) :
    needsForceDelete p D now = strictlyPastD p D now := by
  unfold needsForceDelete strictlyPastD strictlyPastThreshold ownGraceEnd
  cases D with
  | none => rfl
  | some d =>
    cases p.del with
    | some dt => rfl
    | none =>
      cases p.grace with
      | none => rfl
      | some g =>
        show decide (now > d - g * sec) = decide (d < now + g * sec)
        exact decide_eq_decide.mpr ⟨fun h => by omega, fun h => by omega⟩

theorem pastD_of_strictlyPastD {p : Pod} {D : Option Int} {now : Int} (h : strictlyPastD p D now = true) :
    pastD p D now = true := by
  revert h
  unfold strictlyPastD strictlyPastThreshold pastD pastThreshold
  cases D with
  | none => exact id
  | some d =>
    cases ownGraceEnd p now with
    | none => exact id
    | some e => simp only [decide_eq_true_eq]; omega

/-! ### one reconcile -/

/-- `Queue.Reconcile` keeps the items or drops the pod's entry; a request is made only for a queued pod: in the order
    of the code's decisions, a Delete with the clamped grace period past the force-delete threshold, else an eviction
    of an evictable pod -/
theorem reconcile_cases (q : Items) (p : Pod) (now : Int) (ea : EvictAns) (da : DeleteAns) :
    ((reconcile q p now ea da).2.2 = q ∨ (reconcile q p now ea da).2.2 = qerase q p.uid) ∧
    ∀ c, (reconcile q p now ea da).1 = some c →
      ∃ D, qget q p.uid = some D ∧
        ((needsForceDelete p D now = true ∧ c = .delete p.uid (forceGrace (D.getD 0) now)) ∨
         (needsForceDelete p D now = false ∧ isEvictable p now = true ∧ c = .evict p.uid)) := by
  unfold reconcile
  cases hq : qget q p.uid with
  | none => exact ⟨Or.inl rfl, nofun⟩
  | some D =>
    simp only [Option.some.injEq, exists_eq_left']
    by_cases hf : needsForceDelete p D now = true
    · rw [if_pos hf]
      cases da <;> simp [hf]
    · rw [if_neg hf]
      by_cases ha : isActive p = true
      · by_cases he : isEvictable p now = true
        · cases ea <;> simp [ha, he, hf]
        · simp [ha, he]
      · simp [ha]

theorem forceGrace_ge_one (d now : Int) : 1 ≤ forceGrace d now := by
  unfold forceGrace minGrace
  rw [show Karp.Gen.C10Drain.forceDeleteMinGraceSeconds = 1 from rfl]; omega

theorem forceGrace_within (d now : Int) : now + forceGrace d now * sec ≤ d ∨ forceGrace d now = 1 := by
  unfold forceGrace minGrace sec
  -- truncating division is floor division, one more for a negative non-multiple; what is left is linear
  rw [show Karp.Gen.C10Drain.forceDeleteMinGraceSeconds = 1 from rfl, Int.tdiv_eq_ediv,
    show Int.sign 1000000000 = 1 from rfl]
  split <;> omega

theorem onlyDrops_qerase (q : Items) (u : Nat) : onlyDrops q (qerase q u) u = true := by
  unfold onlyDrops
  simp only [Bool.and_eq_true, all_keys, qget_qerase]
  constructor
  · intro k e h
    by_cases hk : k = u <;> simp [hk] at h ⊢
  · intro k _ _
    by_cases hk : k = u <;> simp [hk]

theorem reconcile_meets_spec (q : Items) (p : Pod) (now : Int) (ea : EvictAns) (da : DeleteAns) (strict : Bool)
    (hs : strict = true → (qget q p.uid).isSome = true → untouchable p = false) :
    reconcileOK p now q (reconcile q p now ea da).2.2 (reconcile q p now ea da).1.toList strict = true := by
  unfold reconcileOK
  simp only [Bool.and_eq_true]
  refine ⟨⟨?_, ?_⟩, ?_⟩
  · rcases (reconcile_cases q p now ea da).1 with h | h <;> rw [h]
    · simp [onlyDrops]
    · exact onlyDrops_qerase _ _
  · cases (reconcile q p now ea da).1 <;> simp
  · cases hc : (reconcile q p now ea da).1 with
    | none => rfl
    | some c =>
      obtain ⟨D, hD, ⟨hf, rfl⟩ | ⟨_, he, rfl⟩⟩ := (reconcile_cases q p now ea da).2 c hc
      · -- a Delete: the pod is past its threshold under the stored deadline, which the clamped grace period keeps
        rw [needsForceDelete_eq_strictlyPastD] at hf
        cases D with
        | none => cases hf
        | some d =>
          have hp : pastThreshold p d now = true := pastD_of_strictlyPastD hf
          have hst : (!strict || !untouchable p) = true := by
            cases hstrict : strict with
            | false => rfl
            | true => simp [hs hstrict (by rw [hD]; rfl)]
          simpa [callOK, hD, mayDelete, forceGrace_ge_one, hp, hst] using forceGrace_within d now
      · simp [callOK, hD, ← isEvictable_eq_mayEvict, he]

/-! ### tiers of a drain pass -/

/-- position of a class in an order -/
def rankIn (ord : List (Bool × Bool)) (c : Bool × Bool) : Nat := ord.idxOf c

theorem rankIn_cons (c d : Bool × Bool) (cs : List (Bool × Bool)) :
    rankIn (c :: cs) d = if d = c then 0 else rankIn cs d + 1 := by
  unfold rankIn
  rw [List.idxOf_cons]
  by_cases h : d = c
  · simp [h]
  · simp [h, beq_false_of_ne (Ne.symm h)]

theorem bucket_isEmpty (l : List Pod) (c : Bool × Bool) :
    (l.filter (fun p => cls p == c)).isEmpty = true ↔ ∀ x ∈ l, cls x ≠ c := by
  simp [List.isEmpty_iff, List.filter_eq_nil_iff]

/-- the tier gate, for any order of classes: the first non-empty bucket holds exactly the pods of least rank among
    those whose class occurs in the order -/
theorem mem_firstNonEmpty (l : List Pod) (p : Pod) : ∀ ord : List (Bool × Bool),
    p ∈ firstNonEmpty (ord.map (fun c => l.filter (fun p => cls p == c))) ↔
      p ∈ l ∧ cls p ∈ ord ∧ ∀ p' ∈ l, cls p' ∈ ord → rankIn ord (cls p) ≤ rankIn ord (cls p')
  | [] => by simp [firstNonEmpty]
  | c :: cs => by
    simp only [List.map_cons, firstNonEmpty, rankIn_cons, List.mem_cons]
    by_cases hg : ∀ x ∈ l, cls x ≠ c
    · -- nobody is of class `c`: the question passes to `cs`, where every rank is one less
      rw [if_pos ((bucket_isEmpty l c).mpr hg), mem_firstNonEmpty l p cs]
      refine and_congr_right fun hp => ?_
      simp only [hg p hp, false_or, if_false]
      refine and_congr_right fun _ => forall₂_congr fun p' hp' => ?_
      simp only [hg p' hp', false_or, if_false, Nat.add_le_add_iff_right]
    · -- somebody is, at rank 0: the bucket of `c` is taken, and it holds the pods of rank 0
      rw [if_neg (mt (bucket_isEmpty l c).mp hg), List.mem_filter, beq_iff_eq]
      refine and_congr_right fun _ => ⟨fun h => ⟨Or.inl h, fun _ _ _ => by simp [h]⟩, fun ⟨_, h⟩ => ?_⟩
      simp only [ne_eq, Classical.not_forall, Classical.not_not] at hg
      obtain ⟨x, hx, hc⟩ := hg
      have := h x hx (Or.inl hc)
      by_cases hp : cls p = c
      · exact hp
      · simp [hp, hc] at this

theorem firstNonEmpty_eq_nil : ∀ gs : List (List Pod), firstNonEmpty gs = [] ↔ ∀ g ∈ gs, g = []
  | [] => by simp [firstNonEmpty]
  | g :: gs => by
    unfold firstNonEmpty
    cases g with
    | nil => simpa using firstNonEmpty_eq_nil gs
    | cons => simp

theorem cls_mem_tierOrder (p : Pod) : cls p ∈ Karp.Gen.C10Drain.tierOrder := by
  unfold cls
  cases p.critical <;> cases p.daemon <;> decide

theorem late_iff_rank (p : Pod) : late p = true ↔ 0 < rankIn Karp.Gen.C10Drain.tierOrder (cls p) := by
  unfold late cls
  cases p.critical <;> cases p.daemon <;> decide

/-! ### one drain pass -/

/-- whom a drain pass hands to the queue, in the specification's terms: a pod that is waited for and is strictly past
    its threshold, or of the least tier among the pods waited for that are not -/
theorem mem_enqueued_iff {pods : List Pod} {D : Option Int} {now : Int} {p : Pod} :
    p ∈ enqueued pods D now ↔ p ∈ pods ∧ mustWait p now = true ∧
      (strictlyPastD p D now = true ∨
        ∀ p' ∈ pods, mustWait p' now = true → strictlyPastD p' D now = false →
          rankIn Karp.Gen.C10Drain.tierOrder (cls p) ≤ rankIn Karp.Gen.C10Drain.tierOrder (cls p')) := by
  unfold enqueued groups
  simp only [List.mem_append, mem_firstNonEmpty, cls_mem_tierOrder, true_and, forall_const, deleteEligible,
    gracefulCandidates, waitingPods, List.mem_filter, waiting_eq_mustWait, needsForceDelete_eq_strictlyPastD,
    Bool.not_eq_true', and_imp, and_assoc]
  cases strictlyPastD p D now <;> simp

theorem enqueued_waiting {pods : List Pod} {D : Option Int} {now : Int} {p : Pod} (h : p ∈ enqueued pods D now) :
    p ∈ pods ∧ mustWait p now = true := ⟨(mem_enqueued_iff.mp h).1, (mem_enqueued_iff.mp h).2.1⟩

theorem drain_items (q : Items) (pods : List Pod) (D : Option Int) (now : Int) :
    (drain q pods D now).1 = qaddAll q D ((enqueued pods D now).map (·.uid)) := by
  unfold drain enqueued
  rw [List.map_append, ← qaddAll_append]
  cases firstNonEmpty (groups (gracefulCandidates pods D now)) <;> rfl

theorem qget_drain (q : Items) (pods : List Pod) (D : Option Int) (now : Int) (k : Nat) :
    qget (drain q pods D now).1 k =
      if k ∈ (enqueued pods D now).map (·.uid) then some (dmin ((qget q k).getD none) D) else qget q k := by
  rw [drain_items, qget_qaddAll]

/-- `Drain` returns a drain error exactly when it hands some pod to the queue -/
theorem drain_error_iff_enqueued (q : Items) (pods : List Pod) (D : Option Int) (now : Int) :
    (drain q pods D now).2 = !(enqueued pods D now).isEmpty := by
  unfold drain enqueued
  cases firstNonEmpty (groups (gracefulCandidates pods D now)) <;> cases deleteEligible pods D now <;> rfl

theorem drain_verdict (q : Items) (pods : List Pod) (D : Option Int) (now : Int) :
    (drain q pods D now).2 = pods.any (fun p => mustWait p now) := by
  rw [drain_error_iff_enqueued, Bool.eq_iff_iff, Bool.not_eq_true', List.isEmpty_eq_false_iff_exists_mem,
    List.any_eq_true]
  constructor
  · rintro ⟨p, hp⟩
    exact ⟨p, enqueued_waiting hp⟩
  · rintro ⟨p, hp, hm⟩
    cases hs : strictlyPastD p D now with
    | true => exact ⟨p, mem_enqueued_iff.mpr ⟨hp, hm, Or.inl hs⟩⟩
    | false =>
      -- `p` is a graceful candidate, so the bucket of its class is not empty, nor is the first non-empty one
      have hgc : p ∈ gracefulCandidates pods D now := by
        simp [gracefulCandidates, waitingPods, waiting_eq_mustWait, needsForceDelete_eq_strictlyPastD, hp, hm, hs]
      cases hg : firstNonEmpty (groups (gracefulCandidates pods D now)) with
      | cons x _ => exact ⟨x, List.mem_append_right _ (hg ▸ List.mem_cons_self)⟩
      | nil =>
        have := (firstNonEmpty_eq_nil _).mp hg _ (List.mem_map.mpr ⟨cls p, cls_mem_tierOrder p, rfl⟩)
        exact (List.filter_eq_nil_iff.mp this p hgc (beq_self_eq_true _)).elim

theorem enqueued_ok {pods : List Pod} {D : Option Int} {now : Int} {p : Pod} (h : p ∈ enqueued pods D now) :
    enqueueOK pods p D now = true := by
  obtain ⟨_, hm, hs | hleast⟩ := mem_enqueued_iff.mp h
  · simp [enqueueOK, hm, pastD_of_strictlyPastD hs]
  · cases hl : late p with
    | false => simp [enqueueOK, hm, hl]
    | true =>
      -- a pod waited for and not past its threshold is not strictly past it, so of a tier no lower than `p`'s
      have : pods.all (fun p' => !(mustWait p' now && !pastD p' D now) || late p') = true := by
        rw [List.all_eq_true]
        intro p' hp'
        cases hm' : mustWait p' now <;> cases hpd : pastD p' D now <;> simp
        exact (late_iff_rank p').mpr (Nat.lt_of_lt_of_le ((late_iff_rank p).mp hl) (hleast p' hp' hm'
          (Bool.eq_false_iff.mpr fun hs => by simp [pastD_of_strictlyPastD hs] at hpd)))
      simp only [enqueueOK, hm, this, Bool.or_true, Bool.and_true]

theorem due_enqueued {pods : List Pod} {D : Option Int} {now : Int} {p : Pod} (hp : p ∈ pods)
    (h : enqueueDue p D now = true) : p ∈ enqueued pods D now := by
  simp only [enqueueDue, Bool.and_eq_true, Bool.or_eq_true, Bool.not_eq_true'] at h
  refine mem_enqueued_iff.mpr ⟨hp, h.1, h.2.symm.imp_right fun hl p' _ _ _ => ?_⟩
  have : ¬ 0 < rankIn Karp.Gen.C10Drain.tierOrder (cls p) := fun h0 => by rw [(late_iff_rank p).mpr h0] at hl; cases hl
  omega

theorem drain_meets_spec (q : Items) (pods : List Pod) (D : Option Int) (now : Int) :
    drainOK pods D now q (drain q pods D now).1 [] (!(drain q pods D now).2) = true := by
  unfold drainOK
  simp only [List.isEmpty_nil, Bool.true_and, Bool.and_eq_true]
  refine ⟨⟨⟨?_, ?_⟩, ?_⟩, ?_⟩
  · rw [drain_items]; exact kept_qaddAll _ _ _
  · rw [drain_items]
    refine admitted_qaddAll q D _ (fun u => pods.any (fun p => p.uid == u && enqueueOK pods p D now)) (fun u hin => ?_)
    obtain ⟨p, hp, hpu⟩ := List.mem_map.mp hin
    exact List.any_eq_true.mpr ⟨p, (enqueued_waiting hp).1, by simp [hpu, enqueued_ok hp]⟩
  · unfold dueQueued
    rw [List.all_eq_true]
    intro p hp
    cases hd : enqueueDue p D now with
    | false => rfl
    | true =>
      have hin : p.uid ∈ (enqueued pods D now).map (·.uid) :=
        List.mem_map.mpr ⟨p, due_enqueued hp hd, rfl⟩
      rw [qget_drain]
      simp only [hin, if_true, Bool.not_true, Bool.false_or]
      exact dle_dmin_right _ _
  · unfold verdictOK
    rw [drain_verdict]
    cases h : pods.any (fun p => mustWait p now) with
    | true => rfl
    | false => simpa [List.any_eq_false] using h

/-! ### steps and histories -/

theorem modifyAt_eq (f : WPod → WPod) : ∀ (l : List WPod) (i : Nat), modifyAt l i f = l.modify i f
  | [], _ => by simp [modifyAt]
  | x :: xs, 0 => by simp [modifyAt]
  | x :: xs, i + 1 => by simp [modifyAt, modifyAt_eq f xs i]

theorem modifyAt_slot {f : WPod → WPod} {l : List WPod} {i j : Nat} {w' : WPod}
    (h : (modifyAt l i f)[j]? = some w') : l[j]? = some w' ∨ ∃ w, l[j]? = some w ∧ w' = f w := by
  rw [modifyAt_eq, List.getElem?_modify] at h
  cases hw : l[j]? with
  | none => rw [hw] at h; cases h
  | some w =>
    rw [hw] at h
    by_cases hij : i = j
    · exact Or.inr ⟨w, rfl, by simpa [hij] using h.symm⟩
    · exact Or.inl (by simpa [hij] using h)

/-- every UID identifies its pod slot -/
def WF (s : State) : Prop := ∀ i w, s.pods[i]? = some w → w.pod.uid % s.pods.length = i

/-- queued keys belong to pod slots Karpenter may touch (neither static nor tolerating) -/
def Touchable (s : State) : Prop :=
  ∀ k, (qget s.q k).isSome = true → ∀ w, s.pods[k % s.pods.length]? = some w → untouchable w.pod = false

theorem terminate_slot (p : Pod) (now g : Int) :
    (terminate p now g).uid = p.uid ∧ untouchable (terminate p now g) = untouchable p := by
  unfold terminate; cases p.del <;> exact ⟨rfl, rfl⟩

theorem applyCall_slot (w : WPod) (now : Int) (c : Option Call) (ea : EvictAns) (da : DeleteAns) :
    (applyCall w now c ea da).pod.uid = w.pod.uid ∧ untouchable (applyCall w now c ea da).pod = untouchable w.pod := by
  unfold applyCall
  cases c with
  | none => exact ⟨rfl, rfl⟩
  | some c =>
    cases c with
    | evict u => cases ea <;> simp [terminate_slot]
    | delete u g => cases da <;> simp [terminate_slot]

theorem applyMut_slot (n : Nat) (w : WPod) (now : Int) (m : Mut) :
    (applyMut n w now m).pod.uid % n = w.pod.uid % n ∧ untouchable (applyMut n w now m).pod = untouchable w.pod := by
  unfold applyMut
  cases m with
  | cleardnd | gone => exact ⟨rfl, rfl⟩
  | replace => exact ⟨Nat.add_mod_right .., rfl⟩
  | succeed => cases w.gone <;> exact ⟨rfl, rfl⟩
  | kill => cases w.gone <;> simp [terminate_slot]

theorem nextState_q (s : State) (st : Step) : (nextState s st).q = (stepModel s st).items := by
  unfold nextState advance
  cases st <;> rfl

theorem nextState_pods_length (s : State) (st : Step) : (nextState s st).pods.length = s.pods.length := by
  unfold nextState advance
  cases st <;> simp [modifyAt_eq]

theorem nextState_slot (s : State) (st : Step) (j : Nat) (w' : WPod) (h : (nextState s st).pods[j]? = some w') :
    ∃ w, s.pods[j]? = some w ∧ w'.pod.uid % s.pods.length = w.pod.uid % s.pods.length ∧
      untouchable w'.pod = untouchable w.pod := by
  unfold nextState advance at h
  cases st with
  | add _ _ | drain _ | node _ | tick _ => exact ⟨w', h, rfl, rfl⟩
  | recon i ea da =>
    rcases modifyAt_slot h with h | ⟨w, hw, rfl⟩
    · exact ⟨w', h, rfl, rfl⟩
    · exact ⟨w, hw, congrArg (· % _) (applyCall_slot ..).1, (applyCall_slot ..).2⟩
  | change i m =>
    rcases modifyAt_slot h with h | ⟨w, hw, rfl⟩
    · exact ⟨w', h, rfl, rfl⟩
    · exact ⟨w, hw, applyMut_slot ..⟩

theorem wf_next (s : State) (st : Step) (h : WF s) : WF (nextState s st) := by
  intro j w' hw'
  obtain ⟨w, hw, hu, _⟩ := nextState_slot s st j w' hw'
  rw [nextState_pods_length, hu]
  exact h j w hw

theorem mem_livePods (s : State) (p : Pod) (h : p ∈ livePods s) :
    ∃ (i : Nat) (w : WPod), s.pods[i]? = some w ∧ w.gone = false ∧ w.pod = p := by
  unfold livePods at h
  obtain ⟨w, hw, hp⟩ := List.mem_map.mp h
  rw [List.mem_filter] at hw
  obtain ⟨i, hi, hget⟩ := List.getElem_of_mem hw.1
  refine ⟨i, w, ?_, by simpa using hw.2, hp⟩
  rw [List.getElem?_eq_getElem hi, hget]

/-- the deadline a step hands to `Queue.Add`, if it enqueues at all: a direct add's, a drain pass's, or the one
    the termination controller read off the NodeClaim (nothing when it could not read one) -/
def stepDeadline : Step → Option (Option Int)
  | .add d _ => some d
  | st => passDeadline st

/-- the entry of pod `k` across a step: left as it was; dropped by a reconcile; or stored anew as the earlier of what
    was there and the deadline `d` the step enqueues under — and such a step, unless it is a direct `Queue.Add`, is a
    drain pass under `d` that handed `k` to the queue -/
theorem step_entry (s : State) (st : Step) (k : Nat) :
    qget (nextState s st).q k = qget s.q k ∨
    ((∃ i ea da, st = .recon i ea da) ∧ qget (nextState s st).q k = none) ∨
    ∃ d, stepDeadline st = some d ∧ qget (nextState s st).q k = some (dmin ((qget s.q k).getD none) d) ∧
      ((∀ d' ps, st ≠ .add d' ps) →
        passDeadline st = some d ∧ k ∈ (enqueued (livePods s) d s.now).map (·.uid)) := by
  rw [nextState_q]
  have drained : ∀ d, qget (drain s.q (livePods s) d s.now).1 k = qget s.q k ∨
      (k ∈ (enqueued (livePods s) d s.now).map (·.uid) ∧
        qget (drain s.q (livePods s) d s.now).1 k = some (dmin ((qget s.q k).getD none) d)) :=
    fun d => drain_items .. ▸ qaddAll_entry ..
  -- the branches of `stepModel`, in its order: add; drain; node (refused, goes ahead); recon (no such slot, pod gone,
  -- pod reconciled); tick; change
  fun_cases stepModel s st with
  | case1 d ps =>
    rcases qaddAll_entry s.q d (liveUids s ps) k with e | ⟨_, e⟩
    · exact Or.inl e
    · exact Or.inr (Or.inr ⟨d, rfl, e, fun h => absurd rfl (h d ps)⟩)
  | case2 d =>
    rcases drained d with e | ⟨hin, e⟩
    · exact Or.inl e
    · exact Or.inr (Or.inr ⟨d, rfl, e, fun _ => ⟨rfl, hin⟩⟩)
  | case4 src d hT =>
    rcases drained d with e | ⟨hin, e⟩
    · exact Or.inl e
    · exact Or.inr (Or.inr ⟨d, hT, e, fun _ => ⟨hT, hin⟩⟩)
  | case3 | case5 | case6 | case8 | case9 => exact Or.inl rfl
  | case7 i ea da w _ _ o =>
    rcases (reconcile_cases s.q w.pod s.now ea da).1 with e | e
    · exact Or.inl (congrArg (qget · k) e)
    · have hq : qget o.2.2 k = _ := e ▸ qget_qerase s.q w.pod.uid k
      by_cases hk : k = w.pod.uid
      · rw [if_pos hk] at hq; exact Or.inr (Or.inl ⟨⟨i, ea, da, rfl⟩, hq⟩)
      · rw [if_neg hk] at hq; exact Or.inl hq

/-- the keys after a step are old keys or pods a drain pass admitted -/
theorem touchable_next (s : State) (st : Step) (hwf : WF s) (h : Touchable s)
    (hst : ∀ d ps, st ≠ .add d ps) : Touchable (nextState s st) := by
  intro k hk w' hw'
  rw [nextState_pods_length] at hw'
  obtain ⟨w, hw, _, hun⟩ := nextState_slot s st _ w' hw'
  rw [hun]
  rcases step_entry s st k with e1 | ⟨_, e1⟩ | ⟨d, _, _, hd⟩
  · rw [e1] at hk; exact h k hk w hw
  · rw [e1] at hk; cases hk
  · obtain ⟨p, hp, hpu⟩ := List.mem_map.mp (hd hst).2
    obtain ⟨hpods, hm⟩ := enqueued_waiting hp
    obtain ⟨i, wi, hwi, _, rfl⟩ := mem_livePods s p hpods
    have hslot := hwf i wi hwi
    rw [hpu] at hslot
    rw [hslot, hwi] at hw
    cases hw
    simp only [mustWait, Bool.and_eq_true, Bool.not_eq_true'] at hm
    exact hm.1.2

theorem drainStep_meets_spec (s : State) (d : Option Int) :
    ((drainStep s d).r != "error") = true ∧
    drainOK (livePods s) d s.now s.q (drainStep s d).items (drainStep s d).calls ((drainStep s d).r == "drained") = true := by
  have hspec := drain_meets_spec s.q (livePods s) d s.now
  cases hv : (drain s.q (livePods s) d s.now).2 <;> simpa [drainStep, hv] using hspec

theorem nodeTerminationTime_spec (src : DeadlineSrc) :
    (unreadable src = true ∧ nodeTerminationTime src = none) ∨
    (unreadable src = false ∧ nodeTerminationTime src = some (knownDeadline src)) :=
  match src with
  | .annotation none => Or.inl ⟨rfl, rfl⟩
  | .noClaim | .noAnnotation | .annotation (some _) => Or.inr ⟨rfl, rfl⟩

theorem nodeStep_meets_spec (s : State) (src : DeadlineSrc) :
    nodePassOK (livePods s) src s.now s.q (stepModel s (.node src)).items (stepModel s (.node src)).calls
      (stepModel s (.node src)).r = true := by
  unfold nodePassOK
  rcases nodeTerminationTime_spec src with ⟨hu, hT⟩ | ⟨hu, hT⟩
  · simpa [stepModel, hT, hu, refusedStep] using idleOK_refl s.q
  · simpa [stepModel, hT, hu] using drainStep_meets_spec s (knownDeadline src)

theorem step_meets_spec (strict : Bool) (s : State) (st : Step) (h : strict = true → WF s ∧ Touchable s) :
    stepOK strict s st (stepModel s st).items (stepModel s st).calls (stepModel s st).r = true := by
  -- the branches of `stepModel`, numbered as in `step_entry`
  fun_cases stepModel s st with
  | case1 d ps => exact add_meets_spec _ _ _
  | case2 d => simpa [stepOK] using drainStep_meets_spec s d
  | case3 src hT | case4 src d hT => simpa [stepOK, stepModel, hT] using nodeStep_meets_spec s src
  | case5 i ea da hp => simpa [stepOK, hp] using idleOK_refl s.q
  | case6 i ea da w hp hg => simpa [stepOK, hp, hg] using idleOK_refl s.q
  | case7 i ea da w hp hg =>
    simp only [stepOK, hp, hg, Bool.false_eq_true, if_false]
    refine reconcile_meets_spec _ _ _ _ _ _ fun hstrict hsome => (h hstrict).2 w.pod.uid hsome w ?_
    rw [(h hstrict).1 i w hp]; exact hp
  | case8 | case9 => exact idleOK_refl _

theorem call_queued {s : State} {st : Step} {c : Call} : c ∈ (stepModel s st).calls → qhas s.q c.uid = true := by
  fun_cases stepModel s st with
  | case7 i ea da w _ _ o =>
    intro hc
    obtain ⟨D, hD, ⟨_, rfl⟩ | ⟨_, _, rfl⟩⟩ := (reconcile_cases s.q w.pod s.now ea da).2 c (Option.mem_toList.mp hc) <;>
      simp [Call.uid, qhas, hD]
  | case1 | case2 | case3 | case4 | case5 | case6 | case8 | case9 => exact fun h => (List.not_mem_nil h).elim

/-- no step of the history is a direct `Queue.Add` (`Step.add`): pods enter the queue through drain passes only -/
def noAdd : List Step → Bool
  | [] => true
  | .add _ _ :: _ => false
  | _ :: rest => noAdd rest

theorem noAdd_cons {st : Step} {rest : List Step} (h : noAdd (st :: rest) = true) :
    (∀ d ps, st ≠ .add d ps) ∧ noAdd rest = true := by
  cases st with
  | add d ps => cases h
  | drain _ | node _ | recon _ _ _ | tick _ | change _ _ => exact ⟨nofun, h⟩

/-- every step of the model's run over a history meets the specification -/
def allOK (strict : Bool) : State → List Step → Bool
  | _, [] => true
  | s, st :: rest =>
    stepOK strict s st (stepModel s st).items (stepModel s st).calls (stepModel s st).r
      && allOK strict (nextState s st) rest

theorem history_meets_spec (strict : Bool) : ∀ (steps : List Step) (s : State),
    (strict = true → WF s ∧ Touchable s ∧ noAdd steps = true) → allOK strict s steps = true
  | [], _, _ => rfl
  | st :: rest, s, hs => by
    simp only [allOK, Bool.and_eq_true]
    refine ⟨step_meets_spec strict s st (fun h => ⟨(hs h).1, (hs h).2.1⟩),
      history_meets_spec strict rest _ fun hstrict => ?_⟩
    obtain ⟨hwf, ht, hna⟩ := hs hstrict
    exact ⟨wf_next s st hwf, touchable_next s st hwf ht (noAdd_cons hna).1, (noAdd_cons hna).2⟩

theorem assignUids_uid : ∀ (ps : List Pod) (start i : Nat) (w : WPod),
    (assignUids ps start)[i]? = some w → w.pod.uid = start + i
  | [], _, _, _, h => nomatch h
  | p :: ps, start, 0, w, h => by cases Option.some.inj h; rfl
  | p :: ps, start, i + 1, w, h => by
    have := assignUids_uid ps (start + 1) i w h
    omega

theorem wf_init (now : Int) (ps : List Pod) : WF (initState now ps) := by
  intro i w h
  obtain ⟨hlt, _⟩ := List.getElem?_eq_some_iff.mp h
  rw [assignUids_uid _ _ _ _ h, Nat.zero_add]
  exact Nat.mod_eq_of_lt hlt

theorem touchable_init (now : Int) (ps : List Pod) : Touchable (initState now ps) := by
  intro k hk
  simp [initState, qget_nil] at hk

/-! ### every queued pod traces back to the drain pass that admitted it -/

/-- `k` is queued in every state the run passes through -/
def queuedThroughout (k : Nat) : State → List Step → Bool
  | s, [] => qhas s.q k
  | s, st :: rest => qhas s.q k && queuedThroughout k (nextState s st) rest

theorem queuedThroughout_head (k : Nat) (steps : List Step) (s : State)
    (h : queuedThroughout k s steps = true) : qhas s.q k = true := by
  cases steps with
  | nil => exact h
  | cons st rest => simp only [queuedThroughout, Bool.and_eq_true] at h; exact h.1

/-- a pod queued at the end was queued all along, or a drain pass of the history handed it to the queue and it has
    stayed queued since -/
theorem queued_from (k : Nat) : ∀ (steps : List Step) (s : State), noAdd steps = true →
    qhas (runState s steps).q k = true →
    queuedThroughout k s steps = true ∨
    ∃ pre st d post, steps = pre ++ st :: post ∧ passDeadline st = some d ∧
      k ∈ (enqueued (livePods (runState s pre)) d (runState s pre).now).map (·.uid) ∧
      queuedThroughout k (nextState (runState s pre) st) post = true
  | [], _, _, h => Or.inl h
  | st :: rest, s, hna, h => by
    obtain ⟨hne, hna'⟩ := noAdd_cons hna
    rcases queued_from k rest (nextState s st) hna' h with hthr | ⟨pre, st', d, post, hsteps, hpd, hin, hthr⟩
    · cases hold : qhas s.q k with
      | true => exact Or.inl (by simp [queuedThroughout, hold, hthr])
      | false =>
        -- `k` appears during `st`, which is not a direct add
        have hnew := queuedThroughout_head k rest _ hthr
        unfold qhas at hold hnew
        rcases step_entry s st k with e1 | ⟨_, e1⟩ | ⟨d, _, _, hd⟩
        · rw [e1] at hnew; rw [hnew] at hold; cases hold
        · rw [e1] at hnew; cases hnew
        · exact Or.inr ⟨[], st, d, rest, rfl, (hd hne).1, (hd hne).2, hthr⟩
    · exact Or.inr ⟨st :: pre, st', d, post, by rw [hsteps]; rfl, hpd, hin, hthr⟩

/-! ### every stored deadline was supplied by a step of the history -/

theorem dmin_getD_origin (prev : Option (Option Int)) (D : Option Int) :
    some (dmin (prev.getD none) D) = prev ∨ dmin (prev.getD none) D = D := by
  cases prev with
  | none => exact Or.inr (by cases D <;> rfl)
  | some p => exact (dmin_eq_or p D).imp (congrArg some) id

theorem step_deadline_origin (s : State) (st : Step) (k : Nat) (e : Option Int)
    (h : qget (nextState s st).q k = some e) : qget s.q k = some e ∨ stepDeadline st = some e := by
  rcases step_entry s st k with e1 | ⟨_, e1⟩ | ⟨d, hd, e1, _⟩ <;> rw [e1] at h
  · exact Or.inl h
  · cases h
  · rcases dmin_getD_origin (qget s.q k) d with h1 | h1
    · exact Or.inl (h1.symm.trans h)
    · rw [h1] at h; exact Or.inr (hd.trans h)

theorem history_deadline_origin (k : Nat) (e : Option Int) : ∀ (steps : List Step) (s : State),
    qget (runState s steps).q k = some e → qget s.q k = some e ∨ ∃ st ∈ steps, stepDeadline st = some e
  | [], _, h => Or.inl h
  | st :: rest, s, h => by
    rcases history_deadline_origin k e rest _ h with h1 | ⟨st', hm, hd⟩
    · exact (step_deadline_origin s st k e h1).imp id fun h2 => ⟨st, List.mem_cons_self, h2⟩
    · exact Or.inr ⟨st', List.mem_cons_of_mem _ hm, hd⟩

end Karp.Drain
