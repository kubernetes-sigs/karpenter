/-
C11 helper lemmas: sums over lists (`sumOver`); at quiescence the per-NodePool resource totals equal the from-scratch
totals, and with them the object-layer result of a run from the empty state (`objects_quiescent`).
-/
import Karp.Proofs.ClusterStateQuiescent

namespace Karp.ClusterState
open Karp.Spec.ClusterAbs

def sumOver {α : Type} (l : List α) (f : α → Res) : Res := l.foldr (fun a acc => (f a).add acc) Res.zero

theorem sumOver_nil {α : Type} (f : α → Res) : sumOver ([] : List α) f = Res.zero := rfl
theorem sumOver_cons {α : Type} (a : α) (l : List α) (f : α → Res) : sumOver (a :: l) f = (f a).add (sumOver l f) := rfl

theorem sumOver_congr {α : Type} (l : List α) (f g : α → Res) (h : ∀ a ∈ l, f a = g a) : sumOver l f = sumOver l g := by
  induction l with
  | nil => rfl
  | cons a l ih =>
    rw [sumOver_cons, sumOver_cons, h a List.mem_cons_self, ih (fun b hb => h b (List.mem_cons_of_mem _ hb))]

theorem sumOver_zero {α : Type} (l : List α) : sumOver l (fun _ => Res.zero) = Res.zero := by
  induction l with
  | nil => rfl
  | cons a l ih => rw [sumOver_cons, ih, Res.add_zero]

theorem sumRes_eq_sumOver {α : Type} (l : List α) (f : α → Res) : AbsNode.sumRes (l.map f) = sumOver l f := by
  induction l with
  | nil => rfl
  | cons a l ih => simp only [List.map_cons, AbsNode.sumRes, List.foldr_cons, sumOver_cons]; rw [← ih]; rfl

theorem sumOver_filter {α : Type} (l : List α) (q : α → Bool) (f : α → Res) :
    sumOver (l.filter q) f = sumOver l (fun p => if q p then f p else Res.zero) := by
  induction l with
  | nil => rfl
  | cons a l ih =>
    by_cases hq : q a = true
    · rw [List.filter_cons_of_pos hq, sumOver_cons, sumOver_cons, ih, if_pos hq]
    · rw [List.filter_cons_of_neg hq, sumOver_cons, ih, if_neg hq, Res.zero_add]

theorem poolSum_eq_sumOver (m : Map SNode) (p : String) : poolSum m p = sumOver m (fun e => contribAt e.2 p) := by
  induction m with
  | nil => rfl
  | cons e m ih => obtain ⟨k, s⟩ := e; rw [sumOver_cons]; simp only [poolSum]; rw [ih]

theorem sumOver_filterMap {α β : Type} (l : List α) (h : α → Option β) (F : β → Res) :
    sumOver (l.filterMap h) F = sumOver l (fun k => match h k with | some a => F a | none => Res.zero) := by
  induction l with
  | nil => rfl
  | cons a l ih =>
    rw [sumOver_cons]
    cases ha : h a with
    | none => rw [List.filterMap_cons_none ha, ih]; simp only []; rw [Res.zero_add]
    | some b => rw [List.filterMap_cons_some ha, sumOver_cons, ih]

theorem sumOver_single (L : List String) (k0 : String) (a : Res) (G : String → Res) (hn : L.Nodup) (hm : k0 ∈ L)
    (hz : G k0 = Res.zero) : sumOver L (fun k => if k = k0 then a else G k) = a.add (sumOver L G) := by
  induction L with
  | nil => simp at hm
  | cons x L ih =>
    rw [List.nodup_cons] at hn
    rw [sumOver_cons, sumOver_cons]
    by_cases hx : x = k0
    · rw [if_pos hx]
      have hnot : k0 ∉ L := hx ▸ hn.1
      have : sumOver L (fun k => if k = k0 then a else G k) = sumOver L G :=
        sumOver_congr L _ _ (fun b hb => by
          have : b ≠ k0 := fun e => hnot (e ▸ hb)
          simp [this])
      rw [this, hx, hz, Res.zero_add]
    · rw [if_neg hx]
      have hm' : k0 ∈ L := by
        rcases List.mem_cons.mp hm with h | h
        · exact absurd h.symm hx
        · exact h
      rw [ih hn.2 hm', Res.add_left_comm]

theorem sumOver_map_keys {α : Type} (m : Map α) (L : List String) (F : α → Res) (hn : Map.NoDup m) (hL : L.Nodup)
    (hsub : ∀ k, k ∈ Map.keys m → k ∈ L) :
    sumOver m (fun e => F e.2) = sumOver L (fun k => match Map.get m k with | some v => F v | none => Res.zero) := by
  induction m with
  | nil =>
    rw [sumOver_nil]
    have : sumOver L (fun k => match Map.get ([] : Map α) k with | some v => F v | none => Res.zero) = sumOver L (fun _ => Res.zero) :=
      sumOver_congr L _ _ (fun _ _ => rfl)
    rw [this, sumOver_zero]
  | cons e m ih =>
    obtain ⟨k0, v0⟩ := e
    rw [Map.noDup_cons] at hn
    rw [sumOver_cons]
    have hsub' : ∀ k, k ∈ Map.keys m → k ∈ L := fun k hk => hsub k (by rw [Map.keys_cons]; exact List.mem_cons_of_mem _ hk)
    rw [ih hn.2 hsub']
    have hk0 : k0 ∈ L := hsub k0 (by rw [Map.keys_cons]; exact List.mem_cons_self)
    have hnone : Map.get m k0 = none := Map.get_none_of_not_mem_keys hn.1
    have := sumOver_single L k0 (F v0) (fun k => match Map.get m k with | some v => F v | none => Res.zero) hL hk0 (by simp only [hnone])
    rw [← this]
    apply sumOver_congr
    intro k _
    rw [Map.get_cons]
    by_cases hk : k = k0
    · rw [if_pos hk, if_pos hk.symm]
    · rw [if_neg hk, if_neg (fun e => hk e.symm)]

theorem nodup_dedup (l : List String) : (dedup l).Nodup := (foldl_insertNew l [] List.nodup_nil).1
theorem mem_dedup (l : List String) (x : String) : x ∈ dedup l ↔ x ∈ l := by
  unfold dedup
  rw [(foldl_insertNew l [] List.nodup_nil).2 x]
  simp

section
attribute [local simp] SNode.pool SNode.markedForDeletion SNode.deleted SNode.capacity SNode.name SNode.registered
  SNode.initialized SNode.managed AbsNode.pool AbsNode.markedForDeletion AbsNode.deleted AbsNode.capacity AbsNode.name
  AbsNode.registered AbsNode.initialized AbsNode.node? AbsNode.claim?

theorem snode_reads_abs (s : SNode) (a : AbsNode) (h : s.objs = absObjs a) :
    s.pool = a.pool ∧ s.markedForDeletion = a.markedForDeletion ∧ s.capacity = a.capacity ∧ s.name = a.name ∧
    s.registered = a.registered ∧ s.initialized = a.initialized ∧ s.deleted = a.deleted ∧ (s.node.isSome || s.claim.isSome) = true := by
  obtain ⟨pid, shape, mk, nm, pods⟩ := a
  have h1 : s.node = AbsNode.node? ⟨pid, shape, mk, nm, pods⟩ := congrArg Objs.node h
  have h2 : s.claim = AbsNode.claim? ⟨pid, shape, mk, nm, pods⟩ := congrArg Objs.claim h
  have h3 : s.marked = mk := congrArg Objs.marked h
  cases shape with
  | nodeOnly n => simp at h1 h2; simp [h1, h2, h3]
  | claimOnly c => simp at h1 h2; simp [h1, h2, h3]
  | both n c =>
    simp at h1 h2
    simp [h1, h2, h3]
    cases hi : n.init <;> simp [Res.fillZero, AbsNode.fill]

end

/-- what the from-scratch node `a` adds to the total of NodePool `p` (`contribAt` on the specification's side) -/
def absContribAt (a : AbsNode) (p : String) : Res :=
  if p ≠ "" ∧ a.pool = p ∧ a.markedForDeletion = false then a.capacity else Res.zero

theorem contribAt_of_objs (s : SNode) (a : AbsNode) (h : s.objs = absObjs a) (p : String) : contribAt s p = absContribAt a p := by
  obtain ⟨hp, hm, hc, _, _, _, _, hne⟩ := snode_reads_abs s a h
  unfold contribAt absContribAt SNode.contrib
  rw [hne]
  simp only [if_true, hp, hm, hc]
  by_cases h1 : p ≠ "" ∧ a.pool = p
  · rw [if_pos h1]
    cases hmd : a.markedForDeletion with
    | true => simp
    | false => simp [h1.1, h1.2]
  · rw [if_neg h1]
    have : ¬ (p ≠ "" ∧ a.pool = p ∧ a.markedForDeletion = false) := fun x => h1 ⟨x.1, x.2.1⟩
    rw [if_neg this]

theorem absPoolRes_eq (api : Api) (g : Ghost) (p : String) :
    absPoolRes api g p = sumOver (absNodes api g) (fun a => absContribAt a p) := by
  unfold absPoolRes
  by_cases hp : p = ""
  · rw [if_pos hp]
    have : sumOver (absNodes api g) (fun a => absContribAt a p) = sumOver (absNodes api g) (fun _ => Res.zero) :=
      sumOver_congr _ _ _ (fun a _ => by simp [absContribAt, hp])
    rw [this, sumOver_zero]
  · rw [if_neg hp, sumRes_eq_sumOver, sumOver_filter]
    apply sumOver_congr
    intro a _
    simp [absContribAt, hp]

theorem mem_absPids_of_some (api : Api) (g : Ghost) (pid : String) (h : (absNodeAt api g pid).isSome = true) :
    pid ∈ absPids api := by
  unfold absPids
  rw [mem_dedup, List.mem_append]
  unfold absNodeAt at h
  dsimp only at h
  cases hn : api.nodes.vals.find? (fun n => nodeKey n = some pid) with
  | some v =>
    left
    rw [List.mem_filterMap]
    exact ⟨v, List.mem_of_find?_eq_some hn, by have := List.find?_some hn; simpa using this⟩
  | none =>
    cases hc : api.claims.vals.find? (fun c => claimKey c = some pid) with
    | some cl =>
      right
      rw [List.mem_filterMap]
      exact ⟨cl, List.mem_of_find?_eq_some hc, by have := List.find?_some hc; simpa using this⟩
    | none => rw [hn, hc] at h; simp at h

theorem quiescent_poolRes {c : Cluster} {api : Api} {g : Ghost} (hp : PoolInv c)
    (hobjs : ∀ pid, (Map.get c.nodes pid).map SNode.objs = (absNodeAt api g pid).map absObjs) (p : String) :
    Map.getD c.poolRes p Res.zero = absPoolRes api g p := by
  rw [hp.sum p, poolSum_eq_sumOver, absPoolRes_eq, absNodes, sumOver_filterMap]
  rw [sumOver_map_keys c.nodes (absPids api) (fun s => contribAt s p) hp.nodup (nodup_dedup _)]
  · apply sumOver_congr
    intro k _
    have := (hobjs k).symm
    cases hs : Map.get c.nodes k with
    | none => rw [hs] at this; rw [Option.map_eq_none_iff.mp this]
    | some s =>
      rw [hs] at this
      obtain ⟨a, ha, hsa⟩ := Option.map_eq_some_iff.mp this
      rw [ha]
      exact contribAt_of_objs s a hsa.symm p
  · intro k hk
    apply mem_absPids_of_some api g k
    have := (hobjs k).symm
    cases hg : Map.get c.nodes k with
    | none => rw [(Map.mem_keys_iff c.nodes k), hg] at hk; cases hk
    | some s =>
      rw [hg] at this
      obtain ⟨a, ha, _⟩ := Option.map_eq_some_iff.mp this
      rw [ha]; rfl

theorem objects_of_oinv {w : Owners} {c : Cluster} {o : OC} {api : Api} {g : Ghost} (he : (proj c).Eqv o)
    (hi : OInv w o api g) (ha : ApiOK w api) (hnd : ApiND api) (hp : PoolInv c) (hq : g.dirty = []) :
    (∀ pid, (Map.get c.nodes pid).map SNode.objs = (absNodeAt api g pid).map absObjs) ∧
    (∀ name, Map.has c.claimNameToPid name = absClaimExists api name ∧
             decide (Map.get c.claimNameToPid name = some "") = absClaimUnlaunched api name) ∧
    (∀ p, Map.getD c.poolRes p Res.zero = absPoolRes api g p) := by
  have hobjs : ∀ pid, (Map.get c.nodes pid).map SNode.objs = (absNodeAt api g pid).map absObjs := by
    intro pid
    rw [← get_proj, he.nodes pid]
    exact quiescent_objects hi ha hnd hq pid
  refine ⟨hobjs, fun name => ?_, quiescent_poolRes hp hobjs⟩
  have hcn : c.claimNameToPid = o.cn := he.cn
  have hc := hi.cc name (by rw [hq]; simp)
  unfold ClaimCons at hc
  unfold absClaimExists absClaimUnlaunched
  rw [hcn, Map.has_eq]
  cases hg : Map.get api.claims name with
  | none => rw [hg] at hc; dsimp only at hc ⊢; rw [hc]; simp
  | some cl =>
    rw [hg] at hc; dsimp only at hc ⊢
    cases hm : cl.managed with
    | true => rw [hm, if_pos rfl] at hc; rw [hc.1]; simp
    | false => rw [hm, if_neg Bool.false_ne_true] at hc; rw [hc]; simp

theorem objects_quiescent (fx : Fixes) (w : Owners) (h : List Event) (howned : ∀ e ∈ h, w.okEvent e)
    (hsteps : wRun {} {} h = true) (hq : (ghostRun {} {} h).dirty = []) :
    ∃ c, run fx {} {} h = .ok (c, apiRun {} h) ∧
      (∀ pid, (Map.get c.nodes pid).map SNode.objs = (absNodeAt (apiRun {} h) (ghostRun {} {} h) pid).map absObjs) ∧
      (∀ name, Map.has c.claimNameToPid name = absClaimExists (apiRun {} h) name ∧
               decide (Map.get c.claimNameToPid name = some "") = absClaimUnlaunched (apiRun {} h) name) ∧
      (∀ p, Map.getD c.poolRes p Res.zero = absPoolRes (apiRun {} h) (ghostRun {} {} h) p) := by
  obtain ⟨c, o, hr, he, hi, ha⟩ := run_oinv fx w h {} {} {} {} (OC.Eqv.refl _) (oinv_empty w) (apiOK_empty w) howned hsteps
  exact ⟨c, hr, objects_of_oinv he hi ha (apiND_run h {} apiND_empty) (run_poolInv fx h {} c {} _ poolInv_empty hr) hq⟩

end Karp.ClusterState
