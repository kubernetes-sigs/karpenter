/-
Bridge between the model's vocabulary (`Karp.Term`) and the independent specification (`Karp.Spec.Finalize`) for C09:
how a model observation / world is read as a ground-truth snapshot, and that the model's predicates (`waitingPods`,
`pendingVAs`, `elapsed`) imply the specification's (`drained`, `volumesOk`).  Uses the constants generated from the source: if the
"stuck terminating" buffer or its comparison changes in the source, `abs_stuck` no longer proves.
-/
import Karp.Proofs.TermLemmas
import Karp.Spec.Finalize

namespace Karp.C09
open Karp.Term Karp.Gen
open Karp.Spec.Finalize (NodeSnap ClaimSnap nodeRemovalOk claimRemovalOk instanceDeleteOk orphaned)

theorem stuck_terminating_constants : Finalize.stuckTerminatingNs = 60 * 1000000000 ∧ Finalize.stuckTerminatingStrict = true := ⟨rfl, rfl⟩

/-- the model's pod as the specification sees it (a tolerating pod is given the universal toleration) -/
def absPod (p : Pod) : Karp.Spec.Finalize.Pod :=
  { tolerations := if p.tolerates then [{ key := "", opExists := true, value := "", effect := "" }] else [],
    static := p.mirror, phase := if p.terminal then "Succeeded" else "Running", deletedAt := p.deletedAt,
    pvs := match p.pv with | some k => [k] | none => [] }

theorem abs_canDrain (p : Pod) : (absPod p).canDrain = (!p.tolerates && !p.mirror) := by
  cases h : p.tolerates <;> simp [absPod, Karp.Spec.Finalize.Pod.canDrain, h, Karp.Spec.Finalize.Toleration.tolerates]

theorem abs_completed (p : Pod) : (absPod p).completed = p.terminal := by
  cases h : p.terminal <;> simp [absPod, Karp.Spec.Finalize.Pod.completed, h]

theorem abs_stuck (now : Int) (p : Pod) : (absPod p).stuckTerminating now = p.stuck now := by
  unfold Karp.Spec.Finalize.Pod.stuckTerminating Pod.stuck absPod
  cases p.deletedAt with
  | none => rfl
  | some d =>
    simp only [cmpGt, stuck_terminating_constants.2, if_true, Karp.Spec.Finalize.stuckAfterNs]
    have : ((Finalize.stuckTerminatingNs : Nat) : Int) = 60 * 1000000000 := by
      rw [stuck_terminating_constants.1]; rfl
    rw [this]
    simp only [gt_iff_lt]

theorem abs_holdsDrain (now : Int) (p : Pod) : (absPod p).holdsDrain now = p.waiting now := by
  unfold Karp.Spec.Finalize.Pod.holdsDrain Pod.waiting Pod.drainable
  rw [abs_canDrain, abs_completed, abs_stuck]
  cases p.tolerates <;> cases p.mirror <;> cases p.terminal <;> cases p.stuck now <;> rfl


/-- the ground-truth snapshot of a node as the specification judges it -/
def nodeSnap (now : Int) (tainted ready : Bool) (claims : Nat) (deadline : Option Int) (pods : List Pod) (vas : List VA) (instanceGone : Bool) : NodeSnap :=
  { now := now, tainted := tainted, ready := ready, claims := claims, deadline := deadline,
    pods := (pods.filter (·.onNode)).map absPod, vas := (vas.filter (·.onNode)).map (·.pv), instanceGone := instanceGone }

theorem snap_drained (now : Int) (t r : Bool) (k : Nat) (dl : Option Int) (pods : List Pod) (vas : List VA) (g : Bool)
    (h : waitingPods now pods = []) : (nodeSnap now t r k dl pods vas g).drained = true := by
  unfold NodeSnap.drained nodeSnap
  simp only [List.all_map, List.all_eq_true, List.mem_filter, Function.comp]
  intro p ⟨hp, hon⟩
  rw [abs_holdsDrain]
  unfold waitingPods at h
  rw [List.filter_eq_nil_iff] at h
  have := h p hp
  simp only [hon, Bool.true_and] at this
  simpa using this

theorem snap_deadline (now : Int) (t r : Bool) (k : Nat) (dl : Option Int) (pods : List Pod) (vas : List VA) (g : Bool) :
    (nodeSnap now t r k dl pods vas g).deadlinePassed = elapsed now dl := by
  unfold NodeSnap.deadlinePassed nodeSnap elapsed
  cases dl <;> rfl

theorem abs_shields (now : Int) (p : Pod) :
    (!((absPod p).canDrain && !(absPod p).stuckTerminating now)) = !p.drainable now := by
  unfold Pod.drainable
  rw [abs_canDrain, abs_stuck]
  cases p.tolerates <;> cases p.mirror <;> cases p.stuck now <;> rfl

theorem snap_volumes (now : Int) (t r : Bool) (k : Nat) (dl : Option Int) (pods : List Pod) (vas : List VA) (g : Bool)
    (h : pendingVAs now .ok pods vas = [] ∨ elapsed now dl = true) : (nodeSnap now t r k dl pods vas g).volumesOk = true := by
  unfold NodeSnap.volumesOk
  rw [snap_deadline]
  rcases h with h | h
  · refine Bool.or_eq_true_iff.mpr (Or.inl ?_)
    unfold nodeSnap
    simp only [List.all_map, List.all_eq_true, List.mem_filter, Function.comp]
    intro v ⟨hv, hon⟩
    unfold Karp.Spec.Finalize.blockingVA
    cases hpv : v.pv with
    | none => rfl
    | some j =>
      -- `v` is not pending: an undrainable pod on the node mounts its volume
      have hsh : j ∈ shieldedPVs now .ok pods := List.contains_iff_mem.mp <| Decidable.byContradiction fun hne =>
        List.not_mem_nil (h ▸ mem_pendingVAs now .ok pods vas v j hv hon hpv (Bool.eq_false_iff.mpr hne))
      obtain ⟨p, hpm, hpk⟩ := List.mem_filterMap.mp (show j ∈ (pods.filter _).filterMap _ from hsh)
      obtain ⟨hp, hpc⟩ := List.mem_filter.mp hpm
      obtain ⟨hpon, hnd⟩ := Bool.and_eq_true_iff.mp hpc
      rw [Bool.not_not, List.any_map]
      refine List.any_eq_true.mpr ⟨p, List.mem_filter.mpr ⟨hp, hpon⟩, ?_⟩
      show (!((absPod p).canDrain && !(absPod p).stuckTerminating now) && (absPod p).pvs.contains j) = true
      rw [abs_shields, hnd]
      simp [absPod, show p.pv = some j from hpk]
  · rw [h]; exact Bool.or_true _
theorem snap_orderly (now : Int) (n : NodeObs) (tp r : Bool) (k : Nat) (dl : Option Int) (pods : List Pod) (vas : List VA)
    (fault : Fault) (g : Bool) (ht : (n.tainted && n.lb) = true ∨ tp = true) (hd : waitingPods now pods = [])
    (hv : pendingVAs now fault pods vas = [] ∨ elapsed now dl = true) :
    (nodeSnap now (n.tainted || tp) r k dl pods vas g).orderly = true := by
  have ht' : (n.tainted || tp) = true := by
    rcases ht with h | h
    · simp only [Bool.and_eq_true] at h; simp [h.1]
    · simp [h]
  unfold NodeSnap.orderly
  rw [snap_drained _ _ _ _ _ _ _ _ hd, snap_volumes _ _ _ _ _ _ _ _ (hv.imp (pendingVAs_mono _ _ _ _) id)]
  simp [nodeSnap, ht']

/-- the count in the snapshot plays no role once exactly one NodeClaim carries the provider id -/
theorem node_finalizer_any_count (now : Int) (n : NodeObs) (claims : List ClaimObs) (pods : List Pod) (vas : List VA)
    (f : NodeFaults) (getOut delOut : ProvOut) (instanceGone : Bool) (k : Nat)
    (honestGet : getOut = .notFound → instanceGone = true) (honestDelete : delOut = .notFound → instanceGone = true)
    (single : (nodeClaimOf n claims).isSome = true)
    (h : (nodeReconcile now n claims pods vas f getOut delOut).removed = true) :
    nodeRemovalOk (nodeSnap now (n.tainted || (nodeReconcile now n claims pods vas f getOut delOut).taintPatched) n.ready k
      (termOf (nodeClaimOf n claims)) pods vas instanceGone) = true := by
  obtain ⟨_, hpath⟩ := nodeReconcile_removed h
  unfold nodeRemovalOk
  rcases hpath with ⟨hr, hg⟩ | hp
  · simp [nodeSnap, hr, honestGet hg]
  · rw [snap_orderly _ _ _ _ _ _ _ _ _ _ hp.tainted hp.drained hp.volumes]
    simp [nodeSnap, honestDelete (hp.instance_ single)]

/-- number of NodeClaims that carry the Node's provider id -/
def claimCount (w : World) (n : NodeObs) : Nat := (if n.hasPid then w.claimObs.filter (·.mine) else []).length

/-- the ground truth of the world at the instant a pass of the node termination controller acts (the taint patch, if
    any, precedes the stages and the finalizer removal within the pass) -/
def nodeSnapAt (w : World) (n : NodeObs) (o : NodeOut) : NodeSnap :=
  nodeSnap w.now (n.tainted || o.taintPatched) n.ready (claimCount w n) (termOf (nodeClaimOf n w.claimObs)) w.pods w.vas (w.inst = .gone)

/-- the claim's snapshot with "launched" read as "the claim records a provider id" -/
def claimSnapRecorded (w : World) (c : ClaimW) : ClaimSnap :=
  { registered := c.st.registered = .true_, nodes := (w.nodeRefs.filter (·.mine)).length, launched := c.st.pid,
    instanceGone := w.inst = .gone }

/-- the claim's snapshot with the ground truth: launched = an instance exists for it or it records a provider id -/
def claimSnapTruth (w : World) (c : ClaimW) : ClaimSnap :=
  { registered := c.st.registered = .true_, nodes := (w.nodeRefs.filter (·.mine)).length,
    launched := c.st.pid || w.instanceExists, instanceGone := !w.instanceExists }

/-- the specification's verdict on one step: every finalizer removal and every provider `Delete` issued by the node
    termination controller in this step is judged on the ground truth of the world it happens in -/
def stepOk (w : World) : Event → Bool
  | .reconcileNode f p =>
    match w.node with
    | none => true
    | some n =>
      (!(w.nodePass n f p).removed || nodeRemovalOk (nodeSnapAt w n (w.nodePass n f p))) &&
      (!((w.nodePass n f p).calls.contains Act.providerDelete) || instanceDeleteOk (nodeSnapAt w n (w.nodePass n f p)))
  | .reconcileClaim f p =>
    match w.claim with
    | none => true
    | some c => !(w.claimPass c f p).removed || claimRemovalOk (claimSnapRecorded w c)
  | _ => true

theorem not_or_iff_imp {a b : Bool} : (!a || b) = true ↔ (a = true → b = true) := by
  cases a <;> simp

theorem claimRemovalOk_iff (s : ClaimSnap) :
    claimRemovalOk s = true ↔ (s.registered = true → s.nodes = 0) ∧ (s.launched = true → s.instanceGone = true) := by
  unfold claimRemovalOk
  rw [Bool.and_eq_true, not_or_iff_imp, not_or_iff_imp, beq_iff_eq]

def historyOk (w : World) : List Event → Bool
  | [] => true
  | e :: es => stepOk w e && historyOk (step w e) es

theorem world_single_claim (w : World) (n : NodeObs) (h : (nodeClaimOf n w.claimObs).isSome = false) : claimCount w n = 0 := by
  revert h
  unfold claimCount nodeClaimOf World.claimObs
  cases w.claim with
  | none => cases n.hasPid <;> simp
  | some c => cases n.hasPid <;> cases hp : c.st.pid <;> simp [hp]

theorem world_nodes_of_claim (w : World) (c : ClaimW) (h : c.st.pid = false) (hc : w.claim = some c) :
    w.nodeRefs.filter (·.mine) = [] := by
  unfold World.nodeRefs
  rw [hc]
  cases w.node <;> simp [h]

end Karp.C09
