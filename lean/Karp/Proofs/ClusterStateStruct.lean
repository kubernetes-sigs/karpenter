/-
C11 helper lemmas: the structural invariant of the object layer (state nodes and name maps point at each other), as two
instances of one relation `Linked`; each primitive operation preserves it, and what it leaves alone (`Step`).
-/
import Karp.Proofs.ClusterStateObjs
import Karp.Spec.ClusterAbs

namespace Karp.ClusterState
open Karp.Spec.ClusterAbs

/-- over the whole history a provider id belongs to one node name and one claim name, and whether a claim name is managed
    by this provider never changes -/
structure Owners where
  nodeOf : String → String
  claimOf : String → String
  managed : String → Bool

def Owners.okNode (w : Owners) (n : NodeObj) : Prop := w.nodeOf (epid n) = n.name ∧ n.name ≠ ""
def Owners.okClaim (w : Owners) (c : ClaimObj) : Prop := (c.pid ≠ "" → w.claimOf c.pid = c.name) ∧ w.managed c.name = c.managed

/-- `k0`: no state node under the empty key; `nb` / `cb`: the Node / NodeClaim a state node holds is recorded under its
    name in `o.nn` / `o.cn` with the state node's key, which is its provider id and owned by that name; `nf` / `cf`: a
    name in `o.nn` / `o.cn` leads to a state node holding a Node / NodeClaim of that name (claims: managed, and only once
    launched, i.e. key not empty); `ne`: no state node is empty. -/
structure Struct (w : Owners) (o : OC) : Prop where
  k0 : Map.get o.nodes "" = none
  nb : ∀ id s v, Map.get o.nodes id = some s → s.node = some v → Map.get o.nn v.name = some id ∧ v.pid = id ∧ w.nodeOf id = v.name ∧ v.name ≠ ""
  cb : ∀ id s cl, Map.get o.nodes id = some s → s.claim = some cl → Map.get o.cn cl.name = some id ∧ cl.pid = id ∧ w.claimOf id = cl.name
  nf : ∀ name id, Map.get o.nn name = some id → ∃ s v, Map.get o.nodes id = some s ∧ s.node = some v ∧ v.name = name
  cf : ∀ name id, Map.get o.cn name = some id → w.managed name = true ∧
        (id ≠ "" → ∃ s cl, Map.get o.nodes id = some s ∧ s.claim = some cl ∧ cl.name = name)
  ne : ∀ id s, Map.get o.nodes id = some s → s.node.isSome = true ∨ s.claim.isSome = true

theorem struct_empty (w : Owners) : Struct w {} :=
  ⟨rfl, by intro id s v h; simp at h, by intro id s cl h; simp at h, by intro n id h; simp at h, by intro n id h; simp at h,
   by intro id s h; simp at h⟩

theorem Struct.nn_ne {w : Owners} {o : OC} (h : Struct w o) {name id : String} (hg : Map.get o.nn name = some id) : id ≠ "" := by
  obtain ⟨s, v, hs, _, _⟩ := h.nf name id hg
  intro e; rw [e, h.k0] at hs; simp at hs

/-- `ent`: the objects of one kind by provider id; `names`: provider id by object name; `ok` / `good`: what a stored
    object / an entry of the name map satisfies. The Node and the NodeClaim side of `Struct` are the two instances. -/
structure Linked {α : Type} (nameOf : α → String) (ok : String → α → Prop) (good : String → String → Prop)
    (ent : String → Option α) (names : Map String) : Prop where
  fwd : ∀ id v, ent id = some v → Map.get names (nameOf v) = some id ∧ ok id v
  back : ∀ name id, Map.get names name = some id → good name id ∧ (id ≠ "" → ∃ v, ent id = some v ∧ nameOf v = name)

structure Kept {α : Type} (nameOf : α → String) (T : String → Prop) (ent ent' : String → Option α)
    (names names' : Map String) : Prop where
  obj : ∀ k v, ent k = some v → ¬ T (nameOf v) → ent' k = some v
  name : ∀ n, ¬ T n → Map.get names' n = Map.get names n

namespace Kept
variable {α : Type} {nameOf : α → String} {T : String → Prop} {ent ent' ent'' : String → Option α}
  {names names' names'' : Map String}

theorem of_frame (he : ∀ k, ent' k = ent k) : Kept nameOf T ent ent' names names :=
  ⟨fun k v hv _ => by rw [he]; exact hv, fun _ _ => rfl⟩

theorem of_names {name : String} (hT : T name) (hm : ∀ n, n ≠ name → Map.get names' n = Map.get names n) :
    Kept nameOf T ent ent names names' :=
  ⟨fun _ _ hv _ => hv, fun n hn => hm n (fun e => hn (e ▸ hT))⟩

theorem trans (h1 : Kept nameOf T ent ent' names names') (h2 : Kept nameOf T ent' ent'' names' names'') :
    Kept nameOf T ent ent'' names names'' :=
  ⟨fun k v hv hT => h2.obj k v (h1.obj k v hv hT) hT, fun n hT => (h2.name n hT).trans (h1.name n hT)⟩

end Kept

namespace Linked
variable {α : Type} {nameOf : α → String} {ok : String → α → Prop} {good : String → String → Prop}
  {ent ent' : String → Option α} {names : Map String} {T : String → Prop}

theorem congr (h : Linked nameOf ok good ent names) (he : ∀ id, ent' id = ent id) : Linked nameOf ok good ent' names := by
  constructor
  · intro id v hv; rw [he] at hv; exact h.fwd id v hv
  · intro name id hg; rw [he]; exact h.back name id hg

theorem erase (h : Linked nameOf ok good ent names) {id name : String} (hn : Map.get names name = some id) (hid : id ≠ "")
    (he : ∀ id', ent' id' = if id' = id then none else ent id') : Linked nameOf ok good ent' (Map.erase names name) := by
  obtain ⟨v0, hv0, hn0⟩ := (h.back name id hn).2 hid
  constructor
  · intro id' v hv
    rw [he] at hv
    by_cases hi : id' = id
    · rw [if_pos hi] at hv; cases hv
    · rw [if_neg hi] at hv
      have := h.fwd id' v hv
      refine ⟨?_, this.2⟩
      rw [Map.get_erase_ne _ _ _ ?_]; exact this.1
      intro e; rw [e, hn] at this; exact hi (Option.some.inj this.1).symm
  · intro name' id' hg
    rw [Map.get_erase] at hg
    by_cases hne : name' = name
    · rw [if_pos hne] at hg; cases hg
    · rw [if_neg hne] at hg
      refine ⟨(h.back name' id' hg).1, fun hid' => ?_⟩
      obtain ⟨v, hv, hvn⟩ := (h.back name' id' hg).2 hid'
      have hi : id' ≠ id := by
        intro e; rw [e, hv0] at hv; rw [← Option.some.inj hv, hn0] at hvn; exact hne hvn.symm
      exact ⟨v, by rw [he, if_neg hi]; exact hv, hvn⟩

theorem kept_erase (h : Linked nameOf ok good ent names) {id name : String} (hn : Map.get names name = some id) (hid : id ≠ "")
    (he : ∀ id', ent' id' = if id' = id then none else ent id') (hT : T name) :
    Kept nameOf T ent ent' names (Map.erase names name) := by
  obtain ⟨v0, hv0, hn0⟩ := (h.back name id hn).2 hid
  refine ⟨fun k v hv hTv => ?_, fun n hTn => Map.get_erase_ne _ _ _ (fun e => hTn (e ▸ hT))⟩
  have hk : k ≠ id := by
    intro e; rw [e, hv0] at hv; rw [← Option.some.inj hv, hn0] at hTv; exact hTv hT
  rw [he, if_neg hk]; exact hv

/-- provider ids belong to one name (`owner`), so no other name points at `id` -/
theorem put (h : Linked nameOf ok good ent names) (owner : String → String) (hown : ∀ id v, ok id v → owner id = nameOf v)
    {id : String} {v : α} (hok : ok id v) (hgood : good (nameOf v) id)
    (hn : Map.get names (nameOf v) = none ∨ Map.get names (nameOf v) = some id)
    (he : ∀ id', ent' id' = if id' = id then some v else ent id') :
    Linked nameOf ok good ent' (Map.put names (nameOf v) id) := by
  constructor
  · intro id' v' hv
    rw [he] at hv
    by_cases hi : id' = id
    · rw [if_pos hi] at hv
      rw [← Option.some.inj hv, hi, Map.get_put_self]; exact ⟨rfl, hok⟩
    · rw [if_neg hi] at hv
      have := h.fwd id' v' hv
      refine ⟨?_, this.2⟩
      rw [Map.get_put_ne _ _ _ _ ?_]; exact this.1
      intro e; rw [e] at this
      rcases hn with hn | hn <;> rw [hn] at this
      · cases this.1
      · exact hi (Option.some.inj this.1).symm
  · intro name' id' hg
    rw [Map.get_put] at hg
    by_cases hne : name' = nameOf v
    · rw [if_pos hne] at hg
      rw [← Option.some.inj hg, hne]
      exact ⟨hgood, fun _ => ⟨v, by rw [he, if_pos rfl], rfl⟩⟩
    · rw [if_neg hne] at hg
      refine ⟨(h.back name' id' hg).1, fun hid' => ?_⟩
      obtain ⟨v', hv', hvn⟩ := (h.back name' id' hg).2 hid'
      have hi : id' ≠ id := by
        intro e
        have := hown id' v' (h.fwd id' v' hv').2
        rw [e, hown id v hok, hvn] at this
        exact hne this.symm
      exact ⟨v', by rw [he, if_neg hi]; exact hv', hvn⟩

theorem kept_put (h : Linked nameOf ok good ent names) (owner : String → String) (hown : ∀ id v, ok id v → owner id = nameOf v)
    {id : String} {v : α} (hok : ok id v) (he : ∀ id', ent' id' = if id' = id then some v else ent id') (hT : T (nameOf v)) :
    Kept nameOf T ent ent' names (Map.put names (nameOf v) id) := by
  refine ⟨fun k v' hv' hTv => ?_, fun n hTn => Map.get_put_ne _ _ _ _ (fun e => hTn (e ▸ hT))⟩
  have hk : k ≠ id := by
    intro e
    have := hown k v' (h.fwd k v' hv').2
    rw [e, hown id v hok] at this
    exact hTv (this ▸ hT)
  rw [he, if_neg hk]; exact hv'

theorem unlaunched (h : Linked nameOf ok good ent names) (h0 : ent "" = none) {name : String}
    (hn : Map.get names name = none ∨ Map.get names name = some "") {m : Map String}
    (hm : ∀ n', n' ≠ name → Map.get m n' = Map.get names n')
    (hv : Map.get m name = none ∨ (Map.get m name = some "" ∧ good name "")) : Linked nameOf ok good ent m := by
  constructor
  · intro id v hv'
    have := h.fwd id v hv'
    refine ⟨?_, this.2⟩
    rw [hm _ ?_]; exact this.1
    intro e; rw [e] at this
    rcases hn with hn | hn <;> rw [hn] at this
    · cases this.1
    · rw [← Option.some.inj this.1, h0] at hv'; cases hv'
  · intro n' id' hg
    by_cases hne : n' = name
    · rw [hne] at hg ⊢
      rcases hv with hv | ⟨hv, hgd⟩ <;> rw [hv] at hg
      · cases hg
      · rw [← Option.some.inj hg]; exact ⟨hgd, fun hx => absurd rfl hx⟩
    · rw [hm n' hne] at hg; exact h.back n' id' hg

end Linked

def OC.view {α : Type} (f : Objs → Option α) (o : OC) (id : String) : Option α := (Map.get o.nodes id).bind f

section
variable {α : Type} {f : Objs → Option α} {o o' : OC} {id : String}

theorem view_eq_some {v : α} : o.view f id = some v ↔ ∃ s, Map.get o.nodes id = some s ∧ f s = some v :=
  Option.bind_eq_some_iff

theorem getD_view (hf : f {} = none) (o : OC) (id : String) : f ((Map.get o.nodes id).getD {}) = o.view f id := by
  unfold OC.view; cases Map.get o.nodes id
  · exact hf
  · rfl

variable {new : Option Objs} (hget : ∀ id', Map.get o'.nodes id' = if id' = id then new else Map.get o.nodes id')
include hget

theorem view_upd (id' : String) : o'.view f id' = if id' = id then new.bind f else o.view f id' := by
  unfold OC.view; rw [hget]; split <;> rfl

theorem view_frame (hnew : new.bind f = o.view f id) (id' : String) : o'.view f id' = o.view f id' := by
  rw [view_upd hget]
  split
  · rename_i e; rw [e, hnew]
  · rfl

end

abbrev NodeSide (w : Owners) (o : OC) : Prop :=
  Linked NodeObj.name (fun id v => v.pid = id ∧ w.nodeOf id = v.name ∧ v.name ≠ "") (fun _ id => id ≠ "") (o.view Objs.node) o.nn

abbrev ClaimSide (w : Owners) (o : OC) : Prop :=
  Linked ClaimObj.name (fun id cl => cl.pid = id ∧ w.claimOf id = cl.name) (fun name _ => w.managed name = true) (o.view Objs.claim) o.cn

theorem Struct.nodeSide {w : Owners} {o : OC} (h : Struct w o) : NodeSide w o := by
  constructor
  · intro id v hv
    obtain ⟨s, hs, hsv⟩ := view_eq_some.mp hv
    exact h.nb id s v hs hsv
  · intro name id hg
    obtain ⟨s, v, hs, hsv, hvn⟩ := h.nf name id hg
    exact ⟨h.nn_ne hg, fun _ => ⟨v, view_eq_some.mpr ⟨s, hs, hsv⟩, hvn⟩⟩

theorem Struct.claimSide {w : Owners} {o : OC} (h : Struct w o) : ClaimSide w o := by
  constructor
  · intro id cl hc
    obtain ⟨s, hs, hsc⟩ := view_eq_some.mp hc
    exact h.cb id s cl hs hsc
  · intro name id hg
    refine ⟨(h.cf name id hg).1, fun hid => ?_⟩
    obtain ⟨s, cl, hs, hsc, hcn⟩ := (h.cf name id hg).2 hid
    exact ⟨cl, view_eq_some.mpr ⟨s, hs, hsc⟩, hcn⟩

theorem Struct.of_sides {w : Owners} {o : OC} (k0 : Map.get o.nodes "" = none) (hn : NodeSide w o) (hc : ClaimSide w o)
    (ne : ∀ id s, Map.get o.nodes id = some s → s.node.isSome = true ∨ s.claim.isSome = true) : Struct w o := by
  refine ⟨k0, fun id s v hs hv => hn.fwd id v (view_eq_some.mpr ⟨s, hs, hv⟩),
    fun id s cl hs hcl => hc.fwd id cl (view_eq_some.mpr ⟨s, hs, hcl⟩), ?_, ?_, ne⟩
  · intro name id hg
    obtain ⟨v, hv, hvn⟩ := (hn.back name id hg).2 (hn.back name id hg).1
    obtain ⟨s, hs, hsv⟩ := view_eq_some.mp hv
    exact ⟨s, v, hs, hsv, hvn⟩
  · intro name id hg
    refine ⟨(hc.back name id hg).1, fun hid => ?_⟩
    obtain ⟨cl, hcl, hcn⟩ := (hc.back name id hg).2 hid
    obtain ⟨s, hs, hsc⟩ := view_eq_some.mp hcl
    exact ⟨s, cl, hs, hsc, hcn⟩

def Carry (o o' : OC) : Prop :=
  ∀ id s', Map.get o'.nodes id = some s' →
    s'.marked = ((Map.get o.nodes id).getD {}).marked ∧ s'.nominated = ((Map.get o.nodes id).getD {}).nominated

theorem Carry.refl (o : OC) : Carry o o := fun id s' hs => by rw [hs]; exact ⟨rfl, rfl⟩

/-- what a reconcile of the object with ghost key `key` (`("n", name)` / `("c", name)`) leaves alone -/
structure Step (o o' : OC) (key : String × String) : Prop where
  nodes : Kept NodeObj.name (fun n => ("n", n) = key) (o.view Objs.node) (o'.view Objs.node) o.nn o'.nn
  claims : Kept ClaimObj.name (fun n => ("c", n) = key) (o.view Objs.claim) (o'.view Objs.claim) o.cn o'.cn
  carry : Carry o o'

theorem Step.refl (o : OC) (key : String × String) : Step o o key :=
  ⟨Kept.of_frame (fun _ => rfl), Kept.of_frame (fun _ => rfl), Carry.refl o⟩

theorem ite_isNone_eq_some {α β : Type} {a : Option α} {b b' : β} (e : (if a.isNone = true then none else some b) = some b') :
    a.isSome = true ∧ b' = b := by
  cases a with
  | none => cases e
  | some _ => exact ⟨rfl, (Option.some.inj e).symm⟩

theorem detachNode_step {w : Owners} {o : OC} (h : Struct w o) {name id : String} {s : Objs}
    (hn : Map.get o.nn name = some id) (hs : Map.get o.nodes id = some s) :
    Struct w (o.detachNode name id s) ∧ Step o (o.detachNode name id s) ("n", name) := by
  have hid : id ≠ "" := h.nn_ne hn
  have hget := get_detachNode o name id s
  have hN : ∀ id', (o.detachNode name id s).view Objs.node id' = if id' = id then none else o.view Objs.node id' := by
    intro id'; rw [view_upd hget]; cases s.claim <;> rfl
  have hC := view_frame (f := Objs.claim) hget (by unfold OC.view; rw [hs]; show _ = s.claim; cases s.claim <;> rfl)
  refine ⟨Struct.of_sides ?_ (h.nodeSide.erase hn hid hN) (h.claimSide.congr hC) (Map.forall_upd hget h.ne ?_),
    h.nodeSide.kept_erase hn hid hN rfl, Kept.of_frame hC, Map.forall_upd hget (Carry.refl o) ?_⟩
  · rw [hget, if_neg (fun e => hid e.symm)]; exact h.k0
  · intro s' e
    obtain ⟨hc, rfl⟩ := ite_isNone_eq_some e
    exact Or.inr hc
  · intro s' e
    obtain ⟨_, rfl⟩ := ite_isNone_eq_some e
    rw [hs]; exact ⟨rfl, rfl⟩

theorem detachClaim_step {w : Owners} {o : OC} (h : Struct w o) {name id : String} {s : Objs}
    (hn : Map.get o.cn name = some id) (hid : id ≠ "") (hs : Map.get o.nodes id = some s) :
    Struct w ((o.detachClaim id s).forgetClaim name) ∧ Step o ((o.detachClaim id s).forgetClaim name) ("c", name) := by
  have hget := get_detachClaim o name id s
  have hC : ∀ id', ((o.detachClaim id s).forgetClaim name).view Objs.claim id' = if id' = id then none else o.view Objs.claim id' := by
    intro id'; rw [view_upd hget]; cases s.node <;> rfl
  have hN := view_frame (f := Objs.node) hget (by unfold OC.view; rw [hs]; show _ = s.node; cases s.node <;> rfl)
  refine ⟨Struct.of_sides ?_ (h.nodeSide.congr hN) (h.claimSide.erase hn hid hC) (Map.forall_upd hget h.ne ?_),
    Kept.of_frame hN, h.claimSide.kept_erase hn hid hC rfl, Map.forall_upd hget (Carry.refl o) ?_⟩
  · rw [hget, if_neg (fun e => hid e.symm)]; exact h.k0
  · intro s' e
    obtain ⟨hc, rfl⟩ := ite_isNone_eq_some e
    exact Or.inl hc
  · intro s' e
    obtain ⟨_, rfl⟩ := ite_isNone_eq_some e
    rw [hs]; exact ⟨rfl, rfl⟩

theorem unlaunched_step {w : Owners} {o : OC} (h : Struct w o) {name : String}
    (hn : Map.get o.cn name = none ∨ Map.get o.cn name = some "") (m : Map String)
    (hm : ∀ n', n' ≠ name → Map.get m n' = Map.get o.cn n')
    (hv : Map.get m name = none ∨ (Map.get m name = some "" ∧ w.managed name = true)) :
    Struct w { o with cn := m } ∧ Step o { o with cn := m } ("c", name) :=
  ⟨Struct.of_sides h.k0 h.nodeSide (h.claimSide.unlaunched (by unfold OC.view; rw [h.k0]; rfl) hn hm hv) h.ne,
   Kept.of_frame (fun _ => rfl), Kept.of_names rfl hm, Carry.refl o⟩

theorem forgetClaim_step {w : Owners} {o : OC} (h : Struct w o) {name : String}
    (hn : Map.get o.cn name = none ∨ Map.get o.cn name = some "") :
    Struct w (o.forgetClaim name) ∧ Step o (o.forgetClaim name) ("c", name) :=
  unlaunched_step h hn _ (fun _ hne => Map.get_erase_ne _ _ _ hne) (Or.inl (Map.get_erase_self _ _))

theorem recordUnlaunched_step {w : Owners} {o : OC} (h : Struct w o) {name : String}
    (hn : Map.get o.cn name = none ∨ Map.get o.cn name = some "") (hm : w.managed name = true) :
    Struct w { o with cn := Map.put o.cn name "" } ∧ Step o { o with cn := Map.put o.cn name "" } ("c", name) :=
  unlaunched_step h hn _ (fun _ hne => Map.get_put_ne _ _ _ _ hne) (Or.inr ⟨Map.get_put_self _ _ _, hm⟩)

theorem installNode_step {w : Owners} {o : OC} (h : Struct w o) (node : NodeObj)
    (hp : node.pid ≠ "") (hw : w.nodeOf node.pid = node.name) (hnm : node.name ≠ "")
    (hn : Map.get o.nn node.name = none ∨ Map.get o.nn node.name = some node.pid) :
    Struct w (o.installNode node ((Map.get o.nodes node.pid).getD {})) ∧
      Step o (o.installNode node ((Map.get o.nodes node.pid).getD {})) ("n", node.name) := by
  have hget := get_installNode o node ((Map.get o.nodes node.pid).getD {})
  have hC := view_frame (f := Objs.claim) hget (getD_view (f := Objs.claim) rfl o node.pid)
  refine ⟨Struct.of_sides ?_ (h.nodeSide.put w.nodeOf (fun _ _ hk => hk.2.1) ⟨rfl, hw, hnm⟩ hp hn (view_upd hget))
      (h.claimSide.congr hC) (Map.forall_upd hget h.ne ?_),
    h.nodeSide.kept_put w.nodeOf (fun _ _ hk => hk.2.1) ⟨rfl, hw, hnm⟩ (view_upd hget) rfl, Kept.of_frame hC,
    Map.forall_upd hget (Carry.refl o) ?_⟩
  · rw [hget, if_neg (fun e => hp e.symm)]; exact h.k0
  · intro s' e; rw [← Option.some.inj e]; left; rfl
  · intro s' e; rw [← Option.some.inj e]; exact ⟨rfl, rfl⟩

theorem putClaim_step {w : Owners} {o : OC} (h : Struct w o) (cl : ClaimObj)
    (hp : cl.pid ≠ "") (hw : w.claimOf cl.pid = cl.name) (hm : w.managed cl.name = true)
    (hn : Map.get o.cn cl.name = none ∨ Map.get o.cn cl.name = some cl.pid) :
    Struct w (o.putClaim cl ((Map.get o.nodes cl.pid).getD {})) ∧
      Step o (o.putClaim cl ((Map.get o.nodes cl.pid).getD {})) ("c", cl.name) := by
  have hget := get_putClaim o cl ((Map.get o.nodes cl.pid).getD {})
  have hN := view_frame (f := Objs.node) hget (getD_view (f := Objs.node) rfl o cl.pid)
  refine ⟨Struct.of_sides ?_ (h.nodeSide.congr hN)
      (h.claimSide.put w.claimOf (fun _ _ hk => hk.2) ⟨rfl, hw⟩ hm hn (view_upd hget)) (Map.forall_upd hget h.ne ?_),
    Kept.of_frame hN, h.claimSide.kept_put w.claimOf (fun _ _ hk => hk.2) ⟨rfl, hw⟩ (view_upd hget) rfl,
    Map.forall_upd hget (Carry.refl o) ?_⟩
  · rw [hget, if_neg (fun e => hp e.symm)]; exact h.k0
  · intro s' e; rw [← Option.some.inj e]; right; rfl
  · intro s' e; rw [← Option.some.inj e]; exact ⟨rfl, rfl⟩

theorem touch_views {o : OC} (id : String) {s : Objs} (s' : Objs) (hs : Map.get o.nodes id = some s)
    (h1 : s'.node = s.node) (h2 : s'.claim = s.claim) :
    (∀ k, ({ o with nodes := Map.put o.nodes id s' } : OC).view Objs.node k = o.view Objs.node k) ∧
    (∀ k, ({ o with nodes := Map.put o.nodes id s' } : OC).view Objs.claim k = o.view Objs.claim k) :=
  have hget : ∀ id', Map.get (Map.put o.nodes id s') id' = if id' = id then some s' else Map.get o.nodes id' :=
    fun id' => Map.get_put _ _ _ _
  ⟨view_frame (o' := { o with nodes := Map.put o.nodes id s' }) hget (by unfold OC.view; rw [hs]; exact h1),
   view_frame (o' := { o with nodes := Map.put o.nodes id s' }) hget (by unfold OC.view; rw [hs]; exact h2)⟩

theorem struct_touch {w : Owners} {o : OC} (h : Struct w o) (id : String) (s s' : Objs)
    (hs : Map.get o.nodes id = some s) (h1 : s'.node = s.node) (h2 : s'.claim = s.claim) :
    Struct w { o with nodes := Map.put o.nodes id s' } := by
  have hid : id ≠ "" := by intro e; rw [e, h.k0] at hs; cases hs
  have hv := touch_views id s' hs h1 h2
  refine Struct.of_sides ?_ (h.nodeSide.congr hv.1) (h.claimSide.congr hv.2)
    (Map.forall_put h.ne (by rw [h1, h2]; exact h.ne id s hs))
  show Map.get (Map.put o.nodes id s') "" = none
  rw [Map.get_put, if_neg (fun e => hid e.symm)]; exact h.k0

end Karp.ClusterState
