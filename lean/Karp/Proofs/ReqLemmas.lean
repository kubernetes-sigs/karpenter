/-
The requirement algebra (C12) and what the other models need of it: a requirement denotes the set `has_eq` describes;
`Intersection`, `HasIntersection` and `Compatible` against that reading; the constructor on validated operands;
lookups in requirement lists after `Reqs.set` / `Reqs.add1`.
-/
import Karp.Spec.K8sSelector
import Karp.Proofs.AtoiUniverse
import Karp.Proofs.ListLemmas
namespace Karp.Req
open Karp.Spec.K8s

-- no proof here looks into the alias table; this keeps the unifier out of it as well
attribute [local irreducible] normalizeKey

theorem atoiChars_fst_range (cs : List Char) : minInt ≤ (atoiChars cs).1 ∧ (atoiChars cs).1 ≤ maxInt := by
  fun_cases atoiChars cs <;> simp only [minInt, maxInt] at * <;> omega

theorem atoiRaw_range (v : Val) : minInt ≤ (atoiRaw v).1 ∧ (atoiRaw v).1 ≤ maxInt :=
  atoiChars_fst_range _

theorem atoiRaw_of_atoi (n : Val) (j : Int) (h : atoi n = some j) : (atoiRaw n).1 = j := by
  simp only [atoi] at h
  split at h
  · exact Option.some.inj h
  · cases h

theorem atoi_range (s : String) (i : Int) (h : atoi s = some i) : minInt ≤ i ∧ i ≤ maxInt :=
  atoiRaw_of_atoi s i h ▸ atoiRaw_range s

theorem decide_and_left {p q : Prop} [Decidable p] [Decidable q] (h : p → q) :
    (decide p && decide q) = decide p := by
  by_cases hp : p <;> simp [hp, h]
theorem decide_and_right {p q : Prop} [Decidable p] [Decidable q] (h : q → p) :
    (decide p && decide q) = decide q := by
  by_cases hq : q <;> simp [hq, h]

theorem geOk_max (a b : Option Int) (i : Int) : geOk (maxOpt a b) i = (geOk a i && geOk b i) := by
  fun_cases maxOpt a b
  · rfl
  · exact (Bool.and_true _).symm
  · next h => exact (decide_and_left (Int.le_trans (Int.le_of_lt h))).symm
  · next h => exact (decide_and_right (Int.le_trans (Int.not_lt.mp h))).symm
theorem leOk_min (a b : Option Int) (i : Int) : leOk (minOpt a b) i = (leOk a i && leOk b i) := by
  fun_cases minOpt a b
  · rfl
  · exact (Bool.and_true _).symm
  · next h => exact (decide_and_left fun hi => Int.le_trans hi (Int.le_of_lt h)).symm
  · next h => exact (decide_and_right fun hi => Int.le_trans hi (Int.not_lt.mp h)).symm

theorem maxOpt_cases (a b : Option Int) : maxOpt a b = a ∨ maxOpt a b = b := by
  fun_cases maxOpt a b
  · exact .inr rfl
  · exact .inl rfl
  · exact .inl rfl
  · exact .inr rfl
theorem minOpt_cases (a b : Option Int) : minOpt a b = a ∨ minOpt a b = b := by
  fun_cases minOpt a b
  · exact .inr rfl
  · exact .inl rfl
  · exact .inl rfl
  · exact .inr rfl

theorem maxOpt_forall {P : Int → Prop} {a b : Option Int} (ha : ∀ x, a = some x → P x) (hb : ∀ x, b = some x → P x) :
    ∀ x, maxOpt a b = some x → P x := by
  rcases maxOpt_cases a b with h | h <;> rw [h] <;> assumption
theorem minOpt_forall {P : Int → Prop} {a b : Option Int} (ha : ∀ x, a = some x → P x) (hb : ∀ x, b = some x → P x) :
    ∀ x, minOpt a b = some x → P x := by
  rcases minOpt_cases a b with h | h <;> rw [h] <;> assumption

theorem maxOpt_isNone (a b : Option Int) : (maxOpt a b).isNone = (a.isNone && b.isNone) := by
  fun_cases maxOpt a b
  · rfl
  · exact (Bool.and_true _).symm
  · rfl
  · rfl
theorem minOpt_isNone (a b : Option Int) : (minOpt a b).isNone = (a.isNone && b.isNone) := by
  fun_cases minOpt a b
  · rfl
  · exact (Bool.and_true _).symm
  · rfl
  · rfl

@[simp] theorem withinBounds_none (v : Val) : withinBounds v none none = true := rfl

theorem withinBounds_eq (v : Val) (g l : Option Int) :
    withinBounds v g l = match atoi v with
      | some i => geOk g i && leOk l i
      | none => g.isNone && l.isNone := by
  unfold withinBounds
  cases g <;> cases l <;> cases atoi v <;> rfl

theorem withinBounds_inter (v : Val) (g1 l1 g2 l2 : Option Int) :
    withinBounds v (maxOpt g1 g2) (minOpt l1 l2) = (withinBounds v g1 l1 && withinBounds v g2 l2) := by
  simp only [withinBounds_eq]
  cases atoi v with
  | some i => simp only [geOk_max, leOk_min]; ac_rfl
  | none => simp only [maxOpt_isNone, minOpt_isNone]; ac_rfl

theorem withinBounds_of_boundsEmpty (v : Val) (g l : Option Int) (h : boundsEmpty g l = true) :
    withinBounds v g l = false := by
  cases g <;> cases l <;> simp only [boundsEmpty, Bool.false_eq_true, decide_eq_true_eq] at h
  rw [withinBounds_eq]
  cases atoi v with
  | none => rfl
  | some i => simp only [geOk, leOk, Bool.and_eq_false_iff, decide_eq_false_iff_not]; omega

theorem filter_withinBounds_none (l : List Val) : l.filter (fun v => withinBounds v none none) = l :=
  List.filter_eq_self.mpr fun _ _ => rfl

theorem has_eq (r : Req) (v : Val) :
    r.has v = ((r.complement ^^ r.values.contains v) && withinBounds v r.gte r.lte) := by
  unfold Req.has
  cases r.complement <;> simp

theorem has_doesNotExist (k : String) (mv : Option Int) (v : Val) : (doesNotExist k mv).has v = false := rfl

theorem has_and_has (r q : Req) (v : Val) :
    (r.has v && q.has v) =
      ((r.complement ^^ r.values.contains v) && (q.complement ^^ q.values.contains v) &&
        withinBounds v (maxOpt r.gte q.gte) (minOpt r.lte q.lte)) := by
  rw [has_eq r, has_eq q, withinBounds_inter]; ac_rfl

theorem inter_of_boundsEmpty (r q : Req) (h : boundsEmpty (maxOpt r.gte q.gte) (minOpt r.lte q.lte) = true) :
    r.inter q = doesNotExist r.key (maxOpt r.minValues q.minValues) := if_pos h

theorem has_inter (r q : Req) (v : Val) : (r.inter q).has v = (r.has v && q.has v) := by
  rw [has_and_has]
  by_cases he : boundsEmpty (maxOpt r.gte q.gte) (minOpt r.lte q.lte) = true
  · rw [inter_of_boundsEmpty r q he, has_doesNotExist, withinBounds_of_boundsEmpty v _ _ he, Bool.and_false]
  · unfold Req.inter
    rw [if_neg he]
    cases hr : r.complement <;> cases hq : q.complement <;>
      simp only [has_eq, Bool.and_self, Bool.and_false, Bool.and_true, Bool.not_true, Bool.not_false,
        if_true, if_false, Bool.false_eq_true, contains_filter, List.contains_append, withinBounds_none,
        Bool.true_xor, Bool.false_xor]
    -- `NotIn ∩ In`: the surviving values are those of `q`, so the two conjuncts come in the other order
    · rw [Bool.and_comm (q.values.contains v)]
    -- `NotIn ∩ NotIn`: the concatenated exclusions are themselves filtered by the combined bounds
    · cases withinBounds v (maxOpt r.gte q.gte) (minOpt r.lte q.lte)
      · simp only [Bool.and_false]
      · simp only [Bool.and_true, Bool.not_or]

theorem inter_cases {P : Req → Prop} (r q : Req)
    (concrete : ∀ vs, P { key := r.key, complement := false, values := vs, minValues := maxOpt r.minValues q.minValues })
    (compl : boundsEmpty (maxOpt r.gte q.gte) (minOpt r.lte q.lte) = false → ∀ vs,
      P { key := r.key, complement := true, values := vs, gte := maxOpt r.gte q.gte, lte := minOpt r.lte q.lte,
          minValues := maxOpt r.minValues q.minValues }) :
    P (r.inter q) := by
  fun_cases Req.inter r q
  · exact concrete []
  · exact compl (Bool.eq_false_iff.mpr ‹_›) _
  · exact concrete _

theorem key_inter (r q : Req) : (r.inter q).key = r.key :=
  inter_cases (P := fun x => x.key = r.key) r q (fun _ => rfl) fun _ _ => rfl

theorem minValues_inter (r q : Req) : (r.inter q).minValues = maxOpt r.minValues q.minValues :=
  inter_cases (P := fun x => x.minValues = maxOpt r.minValues q.minValues) r q (fun _ => rfl) fun _ _ => rfl

def Req.boundsInRange (r : Req) : Prop :=
  (∀ g, r.gte = some g → minInt ≤ g ∧ g ≤ maxInt) ∧ (∀ l, r.lte = some l → minInt ≤ l ∧ l ≤ maxInt)

theorem exists_within (L : List Val) (g l : Option Int)
    (hg : ∀ x, g = some x → minInt ≤ x ∧ x ≤ maxInt) (hl : ∀ x, l = some x → minInt ≤ x ∧ x ≤ maxInt)
    (hne : boundsEmpty g l = false) :
    ∃ v : Val, L.contains v = false ∧ withinBounds v g l = true := by
  -- an int64 within the bounds: the lower bound, else the upper bound, else anything
  obtain ⟨i, hi, hgi, hli⟩ : ∃ i, (minInt ≤ i ∧ i ≤ maxInt) ∧ geOk g i = true ∧ leOk l i = true := by
    cases g with
    | some gb =>
      refine ⟨gb, hg gb rfl, decide_eq_true (Int.le_refl _), ?_⟩
      cases l with
      | none => rfl
      | some lb => exact decide_eq_true (Int.not_lt.mp (of_decide_eq_false hne))
    | none =>
      cases l with
      | some lb => exact ⟨lb, hl lb rfl, rfl, decide_eq_true (Int.le_refl _)⟩
      | none => exact ⟨0, by decide, rfl, rfl⟩
  obtain ⟨v, hv, hp⟩ := fresh_int L i hi.1 hi.2
  exact ⟨v, hv, by rw [withinBounds_eq, hp]; exact (Bool.and_eq_true _ _).mpr ⟨hgi, hli⟩⟩

theorem hasIntersection_iff (r q : Req) (hr : r.boundsInRange) (hq : q.boundsInRange) :
    r.hasIntersection q = true ↔ ∃ v, r.has v = true ∧ q.has v = true := by
  simp only [← Bool.and_eq_true, has_and_has]
  unfold Req.hasIntersection
  by_cases he : boundsEmpty (maxOpt r.gte q.gte) (minOpt r.lte q.lte) = true
  · rw [if_pos he]
    simp only [withinBounds_of_boundsEmpty _ _ _ he, Bool.and_false, Bool.false_eq_true, exists_false]
  · rw [if_neg he]
    cases hrc : r.complement <;> cases hqc : q.complement <;>
      simp only [Bool.and_self, Bool.and_false, Bool.and_true, Bool.not_true, Bool.not_false,
        if_true, if_false, Bool.false_eq_true, any_iff, Bool.true_xor, Bool.false_xor, Bool.and_assoc]
    -- `NotIn ∩ In`
    · exact exists_congr fun v => by rw [Bool.and_left_comm]
    -- `NotIn ∩ NotIn`: the code answers `true` without looking, so a value outside both exclusion lists and within the
    -- combined bounds has to exist (`exists_within`)
    · refine iff_of_true trivial ?_
      obtain ⟨v, hv, hw⟩ := exists_within (r.values ++ q.values) _ _ (maxOpt_forall hr.1 hq.1)
        (minOpt_forall hr.2 hq.2) (Bool.eq_false_iff.mpr he)
      rw [List.contains_append, Bool.or_eq_false_iff] at hv
      exact ⟨v, by rw [hv.1, hv.2, hw]; rfl⟩

theorem map_normalizeValue (k : String) (vals : List Val) : vals.map (normalizeValue k) = vals :=
  List.map_id' vals

theorem new_gt (key : String) (mv : Option Int) (n : Val) (rest : List Val) :
    Req.new key .gt mv (n :: rest) =
      if (atoiRaw n).1 = maxInt then .ok (doesNotExist (normalizeKey key) none) else
      .ok { key := normalizeKey key, complement := true, values := [], gte := some ((atoiRaw n).1 + 1), minValues := mv } := rfl
theorem new_lt (key : String) (mv : Option Int) (n : Val) (rest : List Val) :
    Req.new key .lt mv (n :: rest) =
      if (atoiRaw n).1 = minInt then .ok (doesNotExist (normalizeKey key) none) else
      .ok { key := normalizeKey key, complement := true, values := [], lte := some ((atoiRaw n).1 - 1), minValues := mv } := rfl
theorem new_gte (key : String) (mv : Option Int) (n : Val) (rest : List Val) :
    Req.new key .gte mv (n :: rest) =
      .ok { key := normalizeKey key, complement := true, values := [], gte := some (atoiRaw n).1, minValues := mv } := rfl
theorem new_lte (key : String) (mv : Option Int) (n : Val) (rest : List Val) :
    Req.new key .lte mv (n :: rest) =
      .ok { key := normalizeKey key, complement := true, values := [], lte := some (atoiRaw n).1, minValues := mv } := rfl

theorem cmpMatch_of_atoi (cmp : Int → Int → Bool) (n v : Val) (j : Int) (hj : atoi n = some j) :
    cmpMatch cmp [n] (some v) = match atoi v with | some i => cmp i j | none => false := by
  simp only [cmpMatch, hj]
  cases atoi v <;> rfl

theorem withinBounds_cmp {cmp : Int → Int → Bool} {g l : Option Int} {n : Val} {j : Int} (v : Val)
    (hj : atoi n = some j) (hb : (g.isNone && l.isNone) = false) (hc : ∀ i, (geOk g i && leOk l i) = cmp i j) :
    withinBounds v g l = cmpMatch cmp [n] (some v) := by
  rw [withinBounds_eq, cmpMatch_of_atoi cmp n v j hj]
  cases atoi v with
  | none => exact hb
  | some i => exact hc i

theorem has_range_cmp {cmp : Int → Int → Bool} {k : String} {g l m : Option Int} {n v : Val} {j : Int}
    (hj : atoi n = some j) (hb : (g.isNone && l.isNone) = false) (hc : ∀ i, (geOk g i && leOk l i) = cmp i j) :
    ({ key := k, complement := true, values := [], gte := g, lte := l, minValues := m } : Req).has v =
      cmpMatch cmp [n] (some v) := by
  rw [has_eq]; exact withinBounds_cmp v hj hb hc

theorem cmpMatch_eq_false {cmp : Int → Int → Bool} {n v : Val} {j : Int} (hj : atoi n = some j)
    (hc : ∀ i, minInt ≤ i → i ≤ maxInt → cmp i j = false) : cmpMatch cmp [n] (some v) = false := by
  rw [cmpMatch_of_atoi cmp n v j hj]
  cases hv : atoi v with
  | none => rfl
  | some i => exact hc i (atoi_range v i hv).1 (atoi_range v i hv).2

theorem valid_cmp {op : Op} {vals : List Val} (h : validOperands op vals = true)
    (hop : op = .gt ∨ op = .lt ∨ op = .gte ∨ op = .lte) : ∃ n j, vals = [n] ∧ atoi n = some j := by
  have key : (match (generalizing := false) vals with | [n] => (atoi n).isSome | _ => false) = true := by
    rcases hop with rfl | rfl | rfl | rfl <;> exact h
  split at key
  · exact ⟨_, _, rfl, Option.eq_some_of_isSome key⟩
  · cases key

theorem new_valid (key : String) (op : Op) (mv : Option Int) (vals : List Val) (hvalid : validOperands op vals = true) :
    ∃ r, Req.new key op mv vals = .ok r ∧ ∀ v, r.has v = k8sMatch op vals (some v) := by
  cases op with
  | in_ | notIn =>
    refine ⟨_, rfl, fun v => ?_⟩
    simp only [has_eq, map_normalizeValue, withinBounds_none, Bool.and_true, Bool.false_xor, Bool.true_xor]; rfl
  | exists_ | doesNotExist => exact ⟨_, rfl, fun _ => rfl⟩
  | other => cases hvalid
  | gt =>
    obtain ⟨n, j, rfl, hj⟩ := valid_cmp hvalid (.inl rfl)
    rw [new_gt, atoiRaw_of_atoi n j hj]
    split
    · exact ⟨_, rfl, fun _ => (cmpMatch_eq_false hj fun i _ hi => decide_eq_false (by omega)).symm⟩
    · exact ⟨_, rfl, fun _ => has_range_cmp hj rfl fun i => Bool.and_true _⟩
  | lt =>
    obtain ⟨n, j, rfl, hj⟩ := valid_cmp hvalid (.inr (.inl rfl))
    rw [new_lt, atoiRaw_of_atoi n j hj]
    split
    · exact ⟨_, rfl, fun _ => (cmpMatch_eq_false hj fun i hi _ => decide_eq_false (by omega)).symm⟩
    · exact ⟨_, rfl, fun _ => has_range_cmp hj rfl fun i => (Bool.true_and _).trans (decide_eq_decide.mpr (by omega))⟩
  | gte =>
    obtain ⟨n, j, rfl, hj⟩ := valid_cmp hvalid (.inr (.inr (.inl rfl)))
    rw [new_gte, atoiRaw_of_atoi n j hj]
    exact ⟨_, rfl, fun _ => has_range_cmp hj rfl fun i => Bool.and_true _⟩
  | lte =>
    obtain ⟨n, j, rfl, hj⟩ := valid_cmp hvalid (.inr (.inr (.inr rfl)))
    rw [new_lte, atoiRaw_of_atoi n j hj]
    exact ⟨_, rfl, fun _ => has_range_cmp hj rfl fun i => Bool.true_and _⟩

theorem new_ok_of_valid (key : String) (op : Op) (mv : Option Int) (vals : List Val)
    (h : validOperands op vals = true) : ∃ r, Req.new key op mv vals = .ok r :=
  (new_valid key op mv vals h).imp fun _ => And.left

theorem has_new (key : String) (op : Op) (mv : Option Int) (vals : List Val) (r : Req) (v : Val)
    (hvalid : validOperands op vals = true) (h : Req.new key op mv vals = .ok r) :
    r.has v = k8sMatch op vals (some v) := by
  obtain ⟨r', hr', hhas⟩ := new_valid key op mv vals hvalid
  obtain rfl := Except.ok.inj (hr'.symm.trans h)
  exact hhas v

/-- well-formed requirement: what every constructor and `Intersection` produce -/
structure Req.WF (r : Req) : Prop where
  inRange : r.boundsInRange
  nonEmptyBounds : boundsEmpty r.gte r.lte = false
  concreteNoBounds : r.complement = false → r.gte = none ∧ r.lte = none

theorem wf_noBounds (k : String) (c : Bool) (vs : List Val) (m : Option Int) :
    ({ key := k, complement := c, values := vs, minValues := m } : Req).WF :=
  ⟨⟨nofun, nofun⟩, rfl, fun _ => ⟨rfl, rfl⟩⟩

theorem wf_complement {k : String} {vs : List Val} {g l m : Option Int}
    (hg : ∀ x, g = some x → minInt ≤ x ∧ x ≤ maxInt) (hl : ∀ x, l = some x → minInt ≤ x ∧ x ≤ maxInt)
    (hne : boundsEmpty g l = false) :
    ({ key := k, complement := true, values := vs, gte := g, lte := l, minValues := m } : Req).WF :=
  ⟨⟨hg, hl⟩, hne, nofun⟩

theorem wf_lower {k : String} {m : Option Int} {b : Int} (h : minInt ≤ b ∧ b ≤ maxInt) :
    ({ key := k, complement := true, values := [], gte := some b, minValues := m } : Req).WF :=
  wf_complement (fun _ hx => Option.some.inj hx ▸ h) nofun rfl
theorem wf_upper {k : String} {m : Option Int} {b : Int} (h : minInt ≤ b ∧ b ≤ maxInt) :
    ({ key := k, complement := true, values := [], lte := some b, minValues := m } : Req).WF :=
  wf_complement nofun (fun _ hx => Option.some.inj hx ▸ h) rfl

theorem new_spec (key : String) (op : Op) (mv : Option Int) (vals : List Val) (r : Req)
    (h : Req.new key op mv vals = .ok r) :
    r.WF ∧ r.key = normalizeKey key ∧ (op ≠ .gt → op ≠ .lt → r.minValues = mv) := by
  cases op with
  | in_ | notIn | exists_ | doesNotExist | other =>
    obtain rfl := Except.ok.inj h; exact ⟨wf_noBounds .., rfl, fun _ _ => rfl⟩
  | gte =>
    cases vals with
    | nil => cases h
    | cons n rest =>
      rw [new_gte] at h; obtain rfl := Except.ok.inj h
      exact ⟨wf_lower (atoiRaw_range n), rfl, fun _ _ => rfl⟩
  | lte =>
    cases vals with
    | nil => cases h
    | cons n rest =>
      rw [new_lte] at h; obtain rfl := Except.ok.inj h
      exact ⟨wf_upper (atoiRaw_range n), rfl, fun _ _ => rfl⟩
  | gt =>
    cases vals with
    | nil => cases h
    | cons n rest =>
      have ⟨lo, hi⟩ := atoiRaw_range n
      rw [new_gt] at h
      split at h <;> obtain rfl := Except.ok.inj h
      · exact ⟨wf_noBounds .., rfl, fun hgt => absurd rfl hgt⟩
      · exact ⟨wf_lower ⟨by omega, by omega⟩, rfl, fun hgt => absurd rfl hgt⟩
  | lt =>
    cases vals with
    | nil => cases h
    | cons n rest =>
      have ⟨lo, hi⟩ := atoiRaw_range n
      rw [new_lt] at h
      split at h <;> obtain rfl := Except.ok.inj h
      · exact ⟨wf_noBounds .., rfl, fun _ hlt => absurd rfl hlt⟩
      · exact ⟨wf_upper ⟨by omega, by omega⟩, rfl, fun _ hlt => absurd rfl hlt⟩

theorem wf_new (key : String) (op : Op) (mv : Option Int) (vals : List Val) (r : Req)
    (h : Req.new key op mv vals = .ok r) : r.WF := (new_spec key op mv vals r h).1

theorem key_new (key : String) (op : Op) (mv : Option Int) (vals : List Val) (r : Req)
    (h : Req.new key op mv vals = .ok r) : r.key = normalizeKey key := (new_spec key op mv vals r h).2.1

theorem wf_inter (r q : Req) (hr : r.WF) (hq : q.WF) : (r.inter q).WF :=
  inter_cases (P := Req.WF) r q (fun _ => wf_noBounds ..) fun he _ =>
    wf_complement (maxOpt_forall hr.inRange.1 hq.inRange.1) (minOpt_forall hr.inRange.2 hq.inRange.2) he

theorem card_eq_zero (l : List Val) : card l = 0 ↔ l = [] := by
  cases l with
  | nil => exact ⟨fun _ => rfl, fun _ => rfl⟩
  | cons x xs => simp [card, List.eraseDups_cons]

theorem absentOk_eq (r : Req) : r.absentOk = (r.complement != r.values.isEmpty) := by
  unfold Req.absentOk Req.operator Req.len
  cases hv : r.values with
  | nil => cases r.complement <;> rfl
  | cons x xs =>
    have hpos : 0 < card (x :: xs) := Nat.pos_of_ne_zero (mt (card_eq_zero _).mp (List.cons_ne_nil x xs))
    cases r.complement
    · simp [hpos]
    · have : maxInt - (card (x :: xs) : Int) < maxInt := by omega
      simp [this]

/-- The constructed requirement treats an absent label as the Kubernetes operator does, except for: `In` / `NotIn`
    without values (stored as `DoesNotExist` / `Exists`) and `Gt MaxInt` / `Lt MinInt` ("match nothing", stored as
    `DoesNotExist`). -/
theorem absentOk_new (key : String) (op : Op) (mv : Option Int) (vals : List Val) (r : Req)
    (hvalid : validOperands op vals = true) (h : Req.new key op mv vals = .ok r)
    (hne : op = .in_ ∨ op = .notIn → vals ≠ [])
    (hgt : op = .gt → ∀ n, vals = [n] → atoi n ≠ some maxInt)
    (hlt : op = .lt → ∀ n, vals = [n] → atoi n ≠ some minInt) :
    r.absentOk = k8sMatch op vals none := by
  rw [absentOk_eq]
  cases op with
  | exists_ | doesNotExist => obtain rfl := Except.ok.inj h; rfl
  | other => cases hvalid
  | in_ =>
    obtain rfl := Except.ok.inj h
    cases vals with
    | nil => exact absurd rfl (hne (.inl rfl))
    | cons v vs => rfl
  | notIn =>
    obtain rfl := Except.ok.inj h
    cases vals with
    | nil => exact absurd rfl (hne (.inr rfl))
    | cons v vs => rfl
  | gte =>
    obtain ⟨n, j, rfl, -⟩ := valid_cmp hvalid (.inr (.inr (.inl rfl)))
    obtain rfl := Except.ok.inj h; rfl
  | lte =>
    obtain ⟨n, j, rfl, -⟩ := valid_cmp hvalid (.inr (.inr (.inr rfl)))
    obtain rfl := Except.ok.inj h; rfl
  | gt =>
    obtain ⟨n, j, rfl, hj⟩ := valid_cmp hvalid (.inl rfl)
    have hj' : j ≠ maxInt := fun e => hgt rfl n rfl (e ▸ hj)
    rw [new_gt, atoiRaw_of_atoi n j hj, if_neg hj'] at h
    obtain rfl := Except.ok.inj h; rfl
  | lt =>
    obtain ⟨n, j, rfl, hj⟩ := valid_cmp hvalid (.inr (.inl rfl))
    have hj' : j ≠ minInt := fun e => hlt rfl n rfl (e ▸ hj)
    rw [new_lt, atoiRaw_of_atoi n j hj, if_neg hj'] at h
    obtain rfl := Except.ok.inj h; rfl

theorem exists_admits (b : Req) (h : b.WF) : ∃ x, b.admits x = true := by
  cases hc : b.complement with
  | true =>
    obtain ⟨v, hv, hw⟩ := exists_within b.values b.gte b.lte h.inRange.1 h.inRange.2 h.nonEmptyBounds
    exact ⟨some v, by simp only [Req.admits, Req.has, hc, hv, hw]; rfl⟩
  | false =>
    obtain ⟨hg, hl⟩ := h.concreteNoBounds hc
    cases hv : b.values with
    | nil =>
      refine ⟨none, ?_⟩
      rw [Req.admits, absentOk_eq, hc, hv]; rfl
    | cons v vs =>
      refine ⟨some v, ?_⟩
      simp [Req.admits, Req.has, hc, hv, hg, hl]

theorem lookup_set (R : Reqs) (k : String) (r : Req) (k' : String) :
    (R.set k r).lookup k' = if k' = k then some r else R.lookup k' := by
  fun_induction Reqs.set R k r with
  | case1 => exact lookup_cons_ite k r [] k'
  | case2 r0 rest =>
    rw [lookup_cons_ite, lookup_cons_ite]
    by_cases h : k' = k
    · rw [if_pos h, if_pos h]
    · rw [if_neg h, if_neg h, if_neg h]
  | case3 k0 r0 rest h0 ih =>
    rw [lookup_cons_ite, lookup_cons_ite, ih]
    by_cases h : k' = k0
    · rw [if_pos h, if_neg (h ▸ h0), if_pos h]
    · rw [if_neg h, if_neg h]

theorem mem_set (R : Reqs) (k : String) (r : Req) (p : String × Req) (h : p ∈ R.set k r) : p = (k, r) ∨ p ∈ R := by
  revert h
  fun_induction Reqs.set R k r with
  | case1 => simp
  | case2 r0 rest => simp only [List.mem_cons]; exact Or.imp_right Or.inr
  | case3 k0 r0 rest h ih =>
    simp only [List.mem_cons]
    rintro (h | h)
    · exact Or.inr (Or.inl h)
    · exact (ih h).imp_right Or.inr

theorem add1_eq (R : Reqs) (r : Req) :
    R.add1 r = R.set r.key (match R.lookup r.key with | some e => r.inter e | none => r) := by
  unfold Reqs.add1; cases R.lookup r.key <;> rfl

theorem lookup_add1 (R : Reqs) (r : Req) (k' : String) :
    (R.add1 r).lookup k' =
      if k' = r.key then some (match R.lookup r.key with | some e => r.inter e | none => r) else R.lookup k' := by
  rw [add1_eq, lookup_set]

theorem get_eq (R : Reqs) (k : String) :
    R.get k = match R.lookup k with | some r => r | none => { key := k, complement := true, values := [] } := rfl

theorem has_exists (k : String) (v : Val) : ({ key := k, complement := true, values := [] } : Req).has v = true :=
  (has_eq _ v).trans rfl

theorem get_set (R : Reqs) (k k2 : String) (r : Req) : (R.set k r).get k2 = if k2 = k then r else R.get k2 := by
  rw [get_eq, lookup_set, get_eq]
  by_cases h : k2 = k
  · rw [if_pos h, if_pos h]
  · rw [if_neg h, if_neg h]

theorem has_add1 (R : Reqs) (r : Req) (v : Val) : ((R.add1 r).get r.key).has v = (r.has v && (R.get r.key).has v) := by
  rw [get_eq, lookup_add1, if_pos rfl, get_eq]
  cases R.lookup r.key with
  | none => rw [has_exists, Bool.and_true]
  | some e => exact has_inter r e v

theorem get_add1_ne (R : Reqs) (r : Req) (k : String) (h : k ≠ r.key) : (R.add1 r).get k = R.get k := by
  rw [get_eq, lookup_add1, if_neg h, get_eq]

theorem lookup_isSome (A : Reqs) (k : String) : A.hasKey k = (A.lookup k).isSome := rfl

theorem compatible_key (A : Reqs) (U : List String) (k : String) (inc : Req)
    (hA : ∀ a, A.lookup k = some a → a.boundsInRange) (hinc : inc.WF) :
    ((U.contains k || A.hasKey k || inc.absentOk) = true ∧
      (match A.lookup k with
        | none => true
        | some ex => ex.hasIntersection inc || (inc.absentOk && ex.absentOk)) = true) ↔
      ∃ x : Option Val, nodeAllows A U k x = true ∧ inc.admits x = true := by
  unfold nodeAllows Reqs.hasKey
  cases hlk : A.lookup k with
  | some ex =>
    simp only [Option.isSome_some, Bool.or_true, Bool.true_or, true_and, Bool.or_eq_true, Bool.and_eq_true,
      hasIntersection_iff ex inc (hA ex hlk) hinc.inRange, Option.exists, Req.admits]
    exact Or.comm.trans (or_congr_left And.comm)
  | none =>
    simp only [Option.isSome_none, Bool.or_false, and_true, Bool.or_eq_true]
    constructor
    · rintro (hu | ha)
      · obtain ⟨x, hx⟩ := exists_admits inc hinc
        exact ⟨x, .inl hu, hx⟩
      · exact ⟨none, .inr rfl, ha⟩
    · rintro ⟨x, hu | hn, hx⟩
      · exact .inl hu
      · cases x with
        | none => exact .inr hx
        | some v => cases hn

theorem compatible_iff (A B : Reqs) (U : List String)
    (hA : ∀ k a, A.lookup k = some a → a.boundsInRange) (hB : ∀ p ∈ B, p.2.WF) :
    A.compatible B U = true ↔
      ∀ p ∈ B, ∃ x : Option Val, nodeAllows A U p.1 x = true ∧ p.2.admits x = true := by
  unfold Reqs.compatible Reqs.intersects
  rw [Bool.and_eq_true, List.all_eq_true, List.all_eq_true, ← forall_and]
  simp only [← imp_and]
  exact forall₂_congr fun p hp => compatible_key A U p.1 p.2 (hA p.1) (hB p hp)
end Karp.Req
