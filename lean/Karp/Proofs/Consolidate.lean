/-
Lemmas for C06 about `Karp/Model/Consolidate.lean`: `WorstLaunchPrice`, the spot pin and the price filter, every
outcome of `computeConsolidation` and of the multi-node step, the price bound of a replacement (`replace_price`);
the scheduler's reserved pin, `minValues` and the launch cap (`truncateTypes`).  Core Lean only.
-/
import Karp.Model.Consolidate
import Karp.Proofs.ReqLemmas

namespace Karp.Consolidate
open Karp.Req

variable {ridKey : String} {gate : Bool} {cands : List Cand} {sim : Sim} {c : Claim} {R R' : Reqs}
  {its kept : List IType} {it : IType} {o : Offering} {n m p : Nat} {d : Decision}

theorem dearest_eq (l : List Offering) : dearest l = (l.map (·.price)).max? := by
  cases l with
  | nil => rfl
  | cons a l =>
    rw [dearest, List.map_cons, List.max?_cons', List.foldl_map]
    congr; funext m x; split
    · exact (Nat.max_eq_right (Nat.le_of_lt ‹_›)).symm
    · exact (Nat.max_eq_left (Nat.not_lt.mp ‹_›)).symm

theorem cheapest_eq (l : List Offering) : cheapest l = (l.map (·.price)).min? := by
  cases l with
  | nil => rfl
  | cons a l =>
    rw [cheapest, List.map_cons, List.min?_cons', List.foldl_map]
    congr; funext m x; split
    · exact (Nat.min_eq_right (Nat.le_of_lt ‹_›)).symm
    · exact (Nat.min_eq_left (Nat.not_lt.mp ‹_›)).symm

theorem dearest_ge {l : List Offering} (h : dearest l = some p) : ∀ o ∈ l, o.price ≤ p := by
  rw [dearest_eq] at h
  exact fun o ho => (List.max?_eq_some_iff.mp h).2 _ (List.mem_map_of_mem ho)

theorem cheapest_le (l : List Offering) (p : Nat) (h : cheapest l = some p) : ∀ o ∈ l, p ≤ o.price := by
  rw [cheapest_eq] at h
  exact fun o ho => (List.min?_eq_some_iff.mp h).2 _ (List.mem_map_of_mem ho)

theorem worstLoop_prec (ofs : List Offering) :
    worstLoop ofs Karp.Gen.C06Facts.worstLaunchPrecedence =
      if (ofs.filter (·.ct == reserved)).isEmpty then
        if (ofs.filter (·.ct == spot)).isEmpty then
          if (ofs.filter (·.ct == onDemand)).isEmpty then none else dearest (ofs.filter (·.ct == onDemand))
        else dearest (ofs.filter (·.ct == spot))
      else dearest (ofs.filter (·.ct == reserved)) := by
  rfl

theorem worstLoop_covers {ofs : List Offering} (ho : o ∈ ofs) {post : List String} :
    ∀ {pre : List String}, worstLoop ofs (pre ++ o.ct :: post) = some p → (∀ x ∈ ofs, x.ct ∉ pre) → o.price ≤ p := by
  intro pre
  induction pre with
  | nil =>
    intro h _
    have hne : (ofs.filter (·.ct == o.ct)).isEmpty = false :=
      List.isEmpty_eq_false_iff.mpr (List.ne_nil_of_mem (List.mem_filter.mpr ⟨ho, beq_self_eq_true _⟩))
    simp only [List.nil_append, worstLoop, hne] at h
    exact dearest_ge h o (List.mem_filter.mpr ⟨ho, beq_self_eq_true _⟩)
  | cons ct pre ih =>
    intro h hpre
    have he : ofs.filter (·.ct == ct) = [] :=
      List.filter_eq_nil_iff.mpr fun x hx hxc => hpre x hx (by rw [beq_iff_eq.mp hxc]; exact List.mem_cons_self)
    simp only [List.cons_append, worstLoop, he, List.isEmpty_nil, if_true] at h
    exact ih h fun x hx hm => hpre x hx (List.mem_cons_of_mem _ hm)

theorem admitsIn_get (R : Reqs) (k v : String) : admitsIn R k v = (R.get k).has v := by
  unfold admitsIn Reqs.get
  cases R.lookup k <;> rfl

theorem spotReq_has (v : String) : spotReq.has v = (v == spot) := by
  simp [spotReq, Req.has, List.contains, List.elem]
  cases v == spot <;> rfl

theorem admitsIn_add1_key (R : Reqs) (q : Req) (v : String) :
    admitsIn (R.add1 q) q.key v = (q.has v && admitsIn R q.key v) := by
  rw [admitsIn_get, admitsIn_get, has_add1]

theorem admitsIn_add1_other (R : Reqs) (q : Req) {k : String} (v : String) (hk : k ≠ q.key) :
    admitsIn (R.add1 q) k v = admitsIn R k v := by
  rw [admitsIn_get, admitsIn_get, get_add1_ne R q k hk]

theorem admitsAbsent_add1_other (R : Reqs) (q : Req) {k : String} (hk : k ≠ q.key) :
    admitsAbsent (R.add1 q) k = admitsAbsent R k := by
  unfold admitsAbsent
  rw [lookup_add1, if_neg hk]

theorem admitsIn_add1_spot (R : Reqs) (v : String) :
    admitsIn (R.add1 spotReq) ctKey v = (spotReq.has v && admitsIn R ctKey v) :=
  admitsIn_add1_key R spotReq v

theorem zone_ne_ct : zoneKey ≠ ctKey := by
  simp [zoneKey, ctKey, Karp.Gen.C06Facts.capacityTypeKey]

theorem compat_add1_spot (hrid : ridKey ≠ ctKey) (R : Reqs) (o : Offering) :
    offeringCompat ridKey (R.add1 spotReq) o = (offeringCompat ridKey R o && (o.ct == spot)) := by
  unfold offeringCompat
  rw [admitsIn_add1_spot, admitsIn_add1_other R spotReq _ zone_ne_ct, admitsIn_add1_other R spotReq _ hrid,
    admitsAbsent_add1_other R spotReq hrid, spotReq_has, Bool.and_comm (o.ct == spot), ← Bool.and_assoc, Bool.and_right_comm]

theorem compat_add1_spot_iff (hrid : ridKey ≠ ctKey) :
    offeringCompat ridKey (R.add1 spotReq) o = true ↔ offeringCompat ridKey R o = true ∧ o.ct = spot := by
  rw [compat_add1_spot hrid, Bool.and_eq_true, beq_iff_eq]

theorem compat_ct (h : offeringCompat ridKey R o = true) :
    (R.get ctKey).has o.ct = true := by
  unfold offeringCompat at h
  rw [Bool.and_eq_true, Bool.and_eq_true, admitsIn_get R ctKey] at h
  exact h.1.2

/-- the requirements `computeConsolidation` leaves on the replacement outside spot-to-spot: pinned to spot when the
    simulated claim could launch both spot and on-demand -/
def spotPinned (R : Reqs) : Reqs :=
  if (R.get ctKey).has spot && (R.get ctKey).has onDemand then R.add1 spotReq else R

/-- what the pin does to the launches a request permits -/
theorem compat_spotPinned_iff (hrid : ridKey ≠ ctKey) :
    offeringCompat ridKey (spotPinned R) o = true ↔ offeringCompat ridKey R o = true ∧
      ((R.get ctKey).has spot = true → (R.get ctKey).has onDemand = true → o.ct = spot) := by
  unfold spotPinned
  split
  · rename_i hb
    rw [Bool.and_eq_true] at hb
    rw [compat_add1_spot_iff hrid]
    exact and_congr_right fun _ => ⟨fun h _ _ => h, fun h => h hb.1 hb.2⟩
  · rename_i hb
    exact ⟨fun h => ⟨h, fun hs hd => absurd (by rw [hs, hd]; rfl) hb⟩, And.left⟩

theorem has_add1_spot {v : String} (h : ((R.add1 spotReq).get ctKey).has v = true) :
    (R.get ctKey).has v = true := by
  rw [← admitsIn_get, admitsIn_add1_spot, admitsIn_get, Bool.and_eq_true] at h
  exact h.2

theorem has_spotPinned {v : String} (h : ((spotPinned R).get ctKey).has v = true) :
    (R.get ctKey).has v = true := by
  unfold spotPinned at h
  split at h
  · exact has_add1_spot h
  · exact h

theorem priceLt_some {x : Option Nat} (h : priceLt x (some m) = true) : ∃ p, x = some p ∧ p < m := by
  cases x with
  | none => cases h
  | some p => exact ⟨p, rfl, of_decide_eq_true h⟩

theorem removeByPrice_eq {maxP : Option Nat}
    (h : removeByPrice ridKey R maxP its = some kept) :
    kept = its.filter (fun it => priceLt (launchPrice ridKey R it) maxP) ∧
    (satisfiesMinValues R kept).2 = false := by
  unfold removeByPrice at h
  simp only at h
  split at h
  · cases h
  · cases h
    exact ⟨rfl, Bool.eq_false_iff.mpr ‹_›⟩

theorem removeByPrice_mem (h : removeByPrice ridKey R (some m) its = some kept) (hit : it ∈ kept) :
    it ∈ its ∧ ∃ p, launchPrice ridKey R it = some p ∧ p < m := by
  rw [(removeByPrice_eq h).1] at hit
  have := List.mem_filter.mp hit
  exact ⟨this.1, priceLt_some this.2⟩

/-- `hpre`: no launchable offering has a capacity type that comes before `o.ct` in the precedence of `WorstLaunchPrice` -/
theorem launch_bound (h : launchPrice ridKey R it = some p)
    (ho : o ∈ it.offerings) (hav : o.available = true) (hcomp : offeringCompat ridKey R o = true)
    (pre post : List String) (hprec : Karp.Gen.C06Facts.worstLaunchPrecedence = pre ++ o.ct :: post)
    (hpre : ∀ x ∈ it.offerings, x.available = true → offeringCompat ridKey R x = true → x.ct ∉ pre) :
    o.price ≤ p := by
  unfold launchPrice worstLaunchPrice at h
  rw [hprec] at h
  have mem : ∀ x, x ∈ compatible ridKey R (available it.offerings) ↔
      (x ∈ it.offerings ∧ x.available = true) ∧ offeringCompat ridKey R x = true := by
    intro x; simp only [compatible, available, List.mem_filter]
  exact worstLoop_covers ((mem o).mpr ⟨⟨ho, hav⟩, hcomp⟩) h
    fun x hx => hpre x ((mem x).mp hx).1.1 ((mem x).mp hx).1.2 ((mem x).mp hx).2

/-- what is assumed of the claim the scheduler hands over (provider contract + the reserved pin of
    `FinalizeScheduling`, see `finalize_pins`) -/
structure ClaimHyps (ridKey : String) (c : Claim) : Prop where
  /-- every launchable offering is reserved, spot or on-demand -/
  cts : ∀ it ∈ c.its, ∀ o ∈ it.offerings, o.available = true → offeringCompat ridKey c.reqs o = true →
    o.ct = reserved ∨ o.ct = spot ∨ o.ct = onDemand
  /-- a claim that can still launch into a reservation has been pinned to `reserved` by the scheduler -/
  pinned : ∀ it ∈ c.its, ∀ o ∈ it.offerings, o.available = true → offeringCompat ridKey c.reqs o = true → o.ct = reserved →
    (c.reqs.get ctKey).has spot = false ∧ (c.reqs.get ctKey).has onDemand = false

/-- the general (not spot-to-spot) branch: filter with the simulation's requirements, then pin to spot when both
    spot and on-demand were possible -/
theorem general_branch_price (hrid : ridKey ≠ ctKey) (hyp : ClaimHyps ridKey c)
    (h : removeByPrice ridKey c.reqs (some m) c.its = some kept)
    (hit : it ∈ kept) (ho : o ∈ it.offerings) (hav : o.available = true)
    (hcomp : offeringCompat ridKey (spotPinned c.reqs) o = true) :
    o.price < m := by
  obtain ⟨hin, p, hp, hlt⟩ := removeByPrice_mem h hit
  obtain ⟨hc0, hpin⟩ := (compat_spotPinned_iff hrid).mp hcomp
  have hhas := compat_ct hc0
  -- a claim that admits the capacity type of `o` (spot or on-demand) has no launchable reserved offering
  have noRes : o.ct = spot ∨ o.ct = onDemand →
      ∀ x ∈ it.offerings, x.available = true → offeringCompat ridKey c.reqs x = true → x.ct ≠ reserved := by
    intro hs x hx hxa hxc hxr
    have := hyp.pinned it hin x hx hxa hxc hxr
    rcases hs with hs | hs <;> rw [hs] at hhas
    · exact Bool.false_ne_true (this.1.symm.trans hhas)
    · exact Bool.false_ne_true (this.2.symm.trans hhas)
  refine Nat.lt_of_le_of_lt ?_ hlt
  rcases hyp.cts it hin o ho hav hc0 with hr | hs | hd
  · exact launch_bound hp ho hav hc0 [] [spot, onDemand] (by rw [hr]; rfl)
      fun _ _ _ _ hm => nomatch hm
  · exact launch_bound hp ho hav hc0 [reserved] [onDemand] (by rw [hs]; rfl)
      fun x hx hxa hxc hm => noRes (Or.inl hs) x hx hxa hxc (List.mem_singleton.mp hm)
  · refine launch_bound hp ho hav hc0 [reserved, spot] [] (by rw [hd]; rfl) ?_
    intro x hx hxa hxc hm
    rcases List.mem_cons.mp hm with hxr | hm
    · exact noRes (Or.inr hd) x hx hxa hxc hxr
    · -- a launchable spot offering: the claim admitted both, so the request was pinned to spot and excludes `o`
      have hxs := compat_ct hxc
      rw [List.mem_singleton.mp hm] at hxs
      rw [hd] at hhas
      have : onDemand = spot := hd.symm.trans (hpin hxs hhas)
      exact absurd this (by decide)

/-- the spot-to-spot branch: the requirements are pinned to spot BEFORE the filter, so every launch it permits is a
    spot launch and `WorstLaunchPrice` is the dearest of them -/
theorem spot_branch_price (hrid : ridKey ≠ ctKey)
    (h : removeByPrice ridKey (R.add1 spotReq) (some m) its = some kept)
    (hit : it ∈ kept) (ho : o ∈ it.offerings) (hav : o.available = true)
    (hcomp : offeringCompat ridKey (R.add1 spotReq) o = true) :
    o.price < m := by
  obtain ⟨_, p, hp, hlt⟩ := removeByPrice_mem h hit
  have isSpot := fun x hx => ((compat_add1_spot_iff (R := R) (o := x) hrid).mp hx).2
  refine Nat.lt_of_le_of_lt ?_ hlt
  refine launch_bound hp ho hav hcomp [reserved] [onDemand] (by rw [isSpot o hcomp]; rfl) ?_
  intro x _ _ hxc hm
  have : spot = reserved := (isSpot x hxc).symm.trans (List.mem_singleton.mp hm)
  exact absurd this (by decide)

theorem ne_nil_of_isEmpty {α} {l : List α} (h : ¬ l.isEmpty = true) : l ≠ [] :=
  fun e => h (e ▸ rfl)

theorem spotToSpot_cases {nC price : Nat}
    (h : spotToSpot ridKey gate nC c price = d) :
    d = .noop ∨
    ∃ kept n, d = .replace (c.reqs.add1 spotReq) kept n ∧ gate = true ∧
      removeByPrice ridKey (c.reqs.add1 spotReq) (some price)
        (compatibleTypes ridKey (c.reqs.add1 spotReq) c.its) = some kept ∧ kept ≠ [] ∧
      ((1 < nC ∧ n = kept.length) ∨ (nC ≤ 1 ∧ minSpot ≤ kept.length ∧ minSpot ≤ n)) := by
  subst h
  fun_cases spotToSpot ridKey gate nC c price with
  | case1 | case2 | case3 | case5 => exact .inl rfl
  | case4 hg _ _ k hk he hn => -- several candidates
    exact .inr ⟨k, _, rfl, by simpa using hg, hk, ne_nil_of_isEmpty he, .inl ⟨hn, rfl⟩⟩
  | case6 hg _ _ k hk he hn hl => -- one candidate, with minValues
    exact .inr ⟨k, _, rfl, by simpa using hg, hk, ne_nil_of_isEmpty he,
      .inr ⟨Nat.not_lt.mp hn, Nat.not_lt.mp hl, Nat.le_max_left _ _⟩⟩
  | case7 hg _ _ k hk he hn hl => -- one candidate, without
    exact .inr ⟨k, _, rfl, by simpa using hg, hk, ne_nil_of_isEmpty he,
      .inr ⟨Nat.not_lt.mp hn, Nat.not_lt.mp hl, Nat.le_refl _⟩⟩

/-- the two ways `computeConsolidation` arrives at a replacement of the claim `c` -/
inductive Branch (ridKey : String) (gate : Bool) (cands : List Cand) (c : Claim) : Reqs → List IType → Nat → Prop
  | spot {kept : List IType} {n : Nat}
      (hs : (cands.all (fun cn => cn.ct == spot) && (c.reqs.get ctKey).has spot) = true) (hg : gate = true)
      (hk : removeByPrice ridKey (c.reqs.add1 spotReq) (some (sumPrices cands))
        (compatibleTypes ridKey (c.reqs.add1 spotReq) c.its) = some kept)
      (hne : kept ≠ [])
      (hn : (1 < cands.length ∧ n = kept.length) ∨ (cands.length ≤ 1 ∧ minSpot ≤ kept.length ∧ minSpot ≤ n)) :
      Branch ridKey gate cands c (c.reqs.add1 spotReq) kept n
  | general {kept : List IType}
      (hs : (cands.all (fun cn => cn.ct == spot) && (c.reqs.get ctKey).has spot) = false)
      (hk : removeByPrice ridKey c.reqs (some (sumPrices cands)) c.its = some kept)
      (hne : kept ≠ []) :
      Branch ridKey gate cands c (spotPinned c.reqs) kept kept.length

theorem Branch.has_of_final (hb : Branch ridKey gate cands c R' kept n) {v : String} (h : (R'.get ctKey).has v = true) :
    (c.reqs.get ctKey).has v = true := by
  cases hb with
  | spot => exact has_add1_spot h
  | general => exact has_spotPinned h

theorem compute_cases
    (h : compute ridKey gate cands sim = d) :
    d = .noop ∨ (d = .delete ∧ sim.allScheduled = true ∧ sim.claims = []) ∨
    ∃ c R' kept n, d = .replace R' kept n ∧ sim.allScheduled = true ∧ sim.claims = [c] ∧
      Branch ridKey gate cands c R' kept n := by
  subst h
  fun_cases compute ridKey gate cands sim with
  | case1 | case4 | case5 | case7 => exact .inl rfl
  | case2 ha hc => exact .inr (.inl ⟨rfl, by simpa using ha, hc⟩)
  | case3 ha c hc _ _ _ hs => -- spot-to-spot
    rcases spotToSpot_cases (c := c) rfl with h | ⟨kept, n, h, hg, hk, hne, hn⟩
    · exact .inl h
    · exact .inr (.inr ⟨c, _, kept, n, h, by simpa using ha, hc, .spot hs hg hk hne hn⟩)
  | case6 ha c hc _ _ _ hs k hk he => -- the general branch
    exact .inr (.inr ⟨c, _, k, _, rfl, by simpa using ha, hc,
      .general (Bool.eq_false_iff.mpr hs) hk (ne_nil_of_isEmpty he)⟩)

theorem compute_replace_inv
    (h : compute ridKey gate cands sim = .replace R' kept n) :
    sim.allScheduled = true ∧ ∃ c, sim.claims = [c] ∧ Branch ridKey gate cands c R' kept n := by
  rcases compute_cases h with h0 | ⟨h0, _⟩ | ⟨c, R0, k0, n0, h0, ha, hc, hb⟩
  · cases h0
  · cases h0
  · cases h0; exact ⟨ha, c, hc, hb⟩

theorem compute_replace_branch (h : compute ridKey gate cands sim = .replace R' kept n) (hc : sim.claims = [c]) :
    Branch ridKey gate cands c R' kept n := by
  obtain ⟨_, c', hc', hb⟩ := compute_replace_inv h
  cases hc.symm.trans hc'
  exact hb

theorem replace_price (hrid : ridKey ≠ ctKey) (h : compute ridKey gate cands sim = .replace R' kept n)
    (hc : sim.claims = [c]) (hyp : ClaimHyps ridKey c) :
    ∀ it ∈ kept, ∀ o ∈ it.offerings, o.available = true → offeringCompat ridKey R' o = true →
      o.price < sumPrices cands := by
  intro it hit o ho hav hcomp
  cases compute_replace_branch h hc with
  | spot _ _ hk _ _ => exact spot_branch_price hrid hk hit ho hav hcomp
  | general _ hk _ => exact general_branch_price hrid hyp hk hit ho hav hcomp

theorem compute_delete_inv
    (h : compute ridKey gate cands sim = .delete) : sim.allScheduled = true ∧ sim.claims = [] := by
  rcases compute_cases h with h0 | ⟨_, h0⟩ | ⟨_, _, _, _, h0, _⟩
  · cases h0
  · exact h0
  · cases h0

theorem compatibleTypes_mem (h : it ∈ compatibleTypes ridKey R its) :
    it ∈ its ∧ ∃ o ∈ it.offerings, o.available = true ∧ offeringCompat ridKey R o = true := by
  have := List.mem_filter.mp h
  refine ⟨this.1, ?_⟩
  obtain ⟨o, ho, hc⟩ := List.any_eq_true.mp this.2
  have := List.mem_filter.mp ho
  exact ⟨o, this.1, this.2, hc⟩

def sameTypeStep (cands : List Cand) (m : Option Nat) (it : IType) : Option Nat :=
  if cands.any (fun c => c.itName == it.name) then
    let p := (typePrice cands it.name).getD 0
    if priceLt (some p) m then some p else m
  else m

theorem sameTypeMax_eq (cands : List Cand) (its : List IType) :
    sameTypeMax cands its = its.foldl (sameTypeStep cands) none := rfl

/-- the prices the `maxPrice` loop of `filterOutSameInstanceType` reads: one per option that is a candidate's type -/
def sameTypePrices (cands : List Cand) (its : List IType) : List Nat :=
  (its.filter fun it => cands.any (fun c => c.itName == it.name)).map fun it => (typePrice cands it.name).getD 0

theorem foldl_sameTypeStep (cands : List Cand) (its : List IType) (acc : Option Nat) :
    its.foldl (sameTypeStep cands) acc = (acc.toList ++ sameTypePrices cands its).min? := by
  induction its generalizing acc with
  | nil => cases acc <;> rfl
  | cons it its ih =>
    rw [List.foldl_cons, ih]
    unfold sameTypePrices sameTypeStep
    rw [List.filter_cons]
    split
    · cases acc with
      | none => rfl
      | some a =>
        simp only [priceLt, Option.toList_some, List.map_cons, List.singleton_append, List.min?_cons', List.foldl_cons]
        by_cases hlt : (typePrice cands it.name).getD 0 < a
        · simp only [hlt, decide_true, if_true, Nat.min_eq_right (Nat.le_of_lt hlt)]; rfl
        · simp only [hlt, decide_false, Bool.false_eq_true, if_false, Nat.min_eq_left (Nat.not_lt.mp hlt)]; rfl
    · rfl

theorem sameTypeMax_min? (cands : List Cand) (its : List IType) :
    sameTypeMax cands its = (sameTypePrices cands its).min? :=
  foldl_sameTypeStep cands its none

theorem sameTypeMax_le {it' : IType} (hin : it' ∈ its)
    (hc : cands.any (fun c => c.itName == it'.name) = true) :
    ∃ r, sameTypeMax cands its = some r ∧ r ≤ (typePrice cands it'.name).getD 0 := by
  have hm : (typePrice cands it'.name).getD 0 ∈ sameTypePrices cands its :=
    List.mem_map.mpr ⟨it', List.mem_filter.mpr ⟨hin, hc⟩, rfl⟩
  rw [sameTypeMax_min?]
  cases h : (sameTypePrices cands its).min? with
  | none => rw [List.min?_eq_none_iff.mp h] at hm; cases hm
  | some r => exact ⟨r, rfl, (List.min?_eq_some_iff.mp h).2 _ hm⟩

theorem multiStep_cases
    (h : multiStep ridKey gate cands sim = d) :
    d = .noop ∨ (d = .delete ∧ compute ridKey gate cands sim = .delete) ∨
    ∃ R kept0 n0 kept, d = .replace R kept kept.length ∧ compute ridKey gate cands sim = .replace R kept0 n0 ∧
      removeByPrice ridKey R (sameTypeMax cands (kept0.take n0)) (kept0.take n0) = some kept ∧ kept ≠ [] := by
  subst h
  fun_cases multiStep ridKey gate cands sim with
  | case1 | case3 | case4 => exact .inl rfl
  | case2 hc => exact .inr (.inl ⟨rfl, hc⟩)
  | case5 R0 kept0 n0 hc _ k hk he => exact .inr (.inr ⟨R0, kept0, n0, k, rfl, hc, hk, ne_nil_of_isEmpty he⟩)

theorem reservedReq_has (v : String) : reservedReq.has v = (v == reserved) := by
  simp [reservedReq, Req.has, List.contains, List.elem]
  cases v == reserved <;> rfl

theorem get_finalize_ct (hrid : ridKey ≠ ctKey) (R : Reqs) {ofs : List Offering} (hne : ofs ≠ []) :
    (finalize ridKey R ofs).get ctKey = reservedReq := by
  unfold finalize
  rw [if_neg (by simpa using hne)]
  unfold Reqs.get
  rw [lookup_add1, if_neg (Ne.symm hrid), lookup_set, if_pos rfl]

/-- with the `ReservedCapacity` gate on (and reservations that still have capacity), a claim that can launch into a
    reservation leaves the scheduler pinned to `reserved`: the `pinned` hypothesis of `ClaimHyps` -/
theorem finalize_pins (hrid : ridKey ≠ ctKey) {R0 : Reqs}
    (hit : it ∈ its) (ho : o ∈ it.offerings) (hav : o.available = true)
    (hcomp : offeringCompat ridKey (finalize ridKey R0 (offeringsToReserve ridKey true R0 its)) o = true)
    (hres : o.ct = reserved) :
    ((finalize ridKey R0 (offeringsToReserve ridKey true R0 its)).get ctKey).has spot = false ∧
    ((finalize ridKey R0 (offeringsToReserve ridKey true R0 its)).get ctKey).has onDemand = false := by
  by_cases hne : offeringsToReserve ridKey true R0 its = []
  · exfalso
    rw [hne] at hcomp
    have hc0 : offeringCompat ridKey R0 o = true := hcomp
    have : o ∈ offeringsToReserve ridKey true R0 its :=
      List.mem_flatMap.mpr ⟨it, hit, List.mem_filter.mpr ⟨ho, by simp [hres, hav, hc0]⟩⟩
    rw [hne] at this; cases this
  · rw [get_finalize_ct hrid R0 hne, reservedReq_has, reservedReq_has]
    exact ⟨by decide, by decide⟩

theorem firstSatisfying_spec {mk : List (String × Int)} {fuel i r : Nat}
    (h : firstSatisfying mk its fuel i = some r) : i ≤ r ∧ r < i + fuel ∧ minSatisfied mk (its.take r) = true := by
  fun_induction firstSatisfying mk its fuel i with
  | case1 => cases h
  | case2 fuel i hs => cases h; exact ⟨Nat.le_refl _, by omega, hs⟩
  | case3 fuel i hs ih => have := ih h; exact ⟨by omega, by omega, this.2.2⟩

theorem satisfiesMinValues_ok (h : (satisfiesMinValues R its).2 = false)
    (hmk : hasMinValues R = true) (hne : its ≠ []) :
    1 ≤ (satisfiesMinValues R its).1 ∧ (satisfiesMinValues R its).1 ≤ its.length ∧
    minSatisfied (minKeys R) (its.take (satisfiesMinValues R its).1) = true := by
  revert h
  fun_cases satisfiesMinValues R its with
  | case1 _ he => rw [hasMinValues, he] at hmk; cases hmk
  | case2 _ _ i hf =>
    have := firstSatisfying_spec hf
    exact fun _ => ⟨this.1, by omega, this.2.2⟩
  | case3 => exact fun h => absurd (List.isEmpty_iff.mp ((Bool.not_eq_false' (b := its.isEmpty)).mp h)) hne

theorem satisfiesMinValues_noFloor (its : List IType) (h : hasMinValues R = false) :
    (satisfiesMinValues R its).2 = false := by
  unfold hasMinValues at h
  unfold satisfiesMinValues
  rw [if_pos (by simpa using h)]

theorem truncateTypes_some {strict : Bool} {cap : Nat} {t : List IType}
    (h : truncateTypes strict cap R its = some t) :
    t = its.take cap ∧ (strict = true → (satisfiesMinValues R t).2 = false) := by
  unfold truncateTypes at h
  simp only at h
  split at h
  · cases h
  · rename_i hc
    cases h
    refine ⟨rfl, fun hs => ?_⟩
    cases hm : hasMinValues R with
    | false => exact satisfiesMinValues_noFloor _ hm
    | true => simpa [hm, hs] using hc

end Karp.Consolidate
