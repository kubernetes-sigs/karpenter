/- Lemmas about the TopologyGroup model: association-list map, the emptyDomains index invariant. -/
import Karp.Model.Topo
import Karp.Proofs.ListLemmas

namespace Karp.Topo
open Karp.Req

/-- the Go map read is the association-list lookup, `delete` a filter: the map lemmas below are the list library's -/
theorem cnt?_eq_lookup (m : DMap) (d : Val) : m.cnt? d = m.lookup d := by
  fun_induction DMap.cnt? m d with
  | case1 => rfl
  | case2 c m d => rw [lookup_cons_ite, if_pos rfl]
  | case3 k c m d hk ih => rw [lookup_cons_ite, if_neg (Ne.symm hk), ih]

theorem del_eq_filter (m : DMap) (d : Val) : m.del d = m.filter (·.1 ≠ d) := by
  fun_induction DMap.del m d <;> simp [*]

theorem setDel_eq_filter (s : List Val) (d : Val) : setDel s d = s.filter (· ≠ d) := by
  fun_induction setDel s d <;> simp [*]

theorem cnt?_del (m : DMap) (d x : Val) : (m.del d).cnt? x = if x = d then none else m.cnt? x := by
  rw [cnt?_eq_lookup, cnt?_eq_lookup, del_eq_filter]
  exact lookup_erase m d x _ fun _ => decide_eq_true_iff

theorem cnt?_put (m : DMap) (d x : Val) (c : Nat) :
    (m.put d c).cnt? x = if x = d then some c else m.cnt? x := by
  rw [cnt?_eq_lookup, cnt?_eq_lookup, DMap.put, del_eq_filter]
  exact lookup_put m d x c _ fun _ => decide_eq_true_iff

theorem mem_keys (m : DMap) (d : Val) : d ∈ m.keys ↔ (m.cnt? d).isSome = true := by
  rw [cnt?_eq_lookup]
  exact mem_keys_iff_lookup m d

theorem mem_setDel (s : List Val) (d x : Val) : x ∈ setDel s d ↔ x ∈ s ∧ x ≠ d := by
  simp [setDel_eq_filter]

theorem nodup_setDel (s : List Val) (d : Val) (h : s.Nodup) : (setDel s d).Nodup := by
  rw [setDel_eq_filter]
  exact h.filter _

theorem mem_setIns (s : List Val) (d x : Val) : x ∈ setIns s d ↔ x ∈ s ∨ x = d := by
  unfold setIns
  split
  next h => exact ⟨Or.inl, fun h1 => h1.elim id (· ▸ h)⟩
  · rw [List.mem_cons, or_comm]

theorem nodup_setIns (s : List Val) (d : Val) (h : s.Nodup) : (setIns s d).Nodup := by
  unfold setIns
  split
  · exact h
  next hd => exact List.nodup_cons.2 ⟨hd, h⟩

theorem keys_del_sub (m : DMap) (d x : Val) : x ∈ (m.del d).keys ↔ x ∈ m.keys ∧ x ≠ d := by
  rw [mem_keys, mem_keys, cnt?_del]
  by_cases h : x = d <;> simp [h]

theorem nodup_del (m : DMap) (d : Val) (h : m.keys.Nodup) : (m.del d).keys.Nodup := by
  rw [del_eq_filter]
  exact nodup_keys_filter h _

theorem nodup_put (m : DMap) (d : Val) (c : Nat) (h : m.keys.Nodup) : (m.put d c).keys.Nodup := by
  rw [DMap.put, del_eq_filter]
  exact nodup_keys_put h d c _ fun _ => decide_eq_true_iff

/-- the `emptyDomains` index is exactly the set of registered domains whose count is zero -/
structure TG.Inv (t : TG) : Prop where
  keysNodup  : t.domains.keys.Nodup
  emptyNodup : t.empty.Nodup
  emptyIff   : ∀ d, d ∈ t.empty ↔ t.domains.cnt? d = some 0

theorem inv_record1 (t : TG) (d : Val) (h : t.Inv) : (t.record1 d).Inv := by
  refine ⟨nodup_put _ _ _ h.keysNodup, nodup_setDel _ _ h.emptyNodup, ?_⟩
  intro x
  simp only [TG.record1, mem_setDel, cnt?_put, h.emptyIff]
  by_cases hx : x = d <;> simp [hx]

theorem inv_register1 (t : TG) (d : Val) (h : t.Inv) : (t.register1 d).Inv := by
  fun_cases TG.register1 t d with
  | case1 => exact h
  | case2 =>
    refine ⟨nodup_put _ _ _ h.keysNodup, nodup_setIns _ _ h.emptyNodup, ?_⟩
    intro x
    simp only [mem_setIns, cnt?_put, h.emptyIff]
    by_cases hx : x = d <;> simp [hx]

theorem inv_unregister1 (t : TG) (d : Val) (h : t.Inv) : (t.unregister1 d).Inv := by
  refine ⟨nodup_del _ _ h.keysNodup, nodup_setDel _ _ h.emptyNodup, ?_⟩
  intro x
  simp only [TG.unregister1, mem_setDel, cnt?_del, h.emptyIff]
  by_cases hx : x = d <;> simp [hx]

theorem inv_foldl (f : TG → Val → TG) (hf : ∀ t d, t.Inv → (f t d).Inv) (ds : List Val) (t : TG) (h : t.Inv) :
    (ds.foldl f t).Inv :=
  List.foldlRecOn ds f h fun t ht d _ => hf t d ht

theorem inv_step (t : TG) (op : Op) (h : t.Inv) : (t.step op).Inv := by
  cases op with
  | record ds => exact inv_foldl _ inv_record1 ds t h
  | register ds => exact inv_foldl _ inv_register1 ds t h
  | unregister ds => exact inv_foldl _ inv_unregister1 ds t h

theorem inv_run (t : TG) (ops : List Op) (h : t.Inv) : (t.run ops).Inv :=
  List.foldlRecOn ops TG.step h fun t ht o _ => inv_step t o ht

theorem inv_new (kind : Kind) (isHost : Bool) (maxSkew : Int) (minDomains : Option Int) (ai : Bool) (ds : List Val) :
    (TG.new kind isHost maxSkew minDomains ai ds).Inv := by
  unfold TG.new TG.register
  apply inv_foldl _ inv_register1
  exact ⟨by simp [DMap.keys], by simp, by intro d; simp [DMap.cnt?]⟩

theorem cnt_of_cnt? (m : DMap) (d : Val) (c : Nat) (h : m.cnt? d = some c) : m.cnt d = c := by
  simp [DMap.cnt, h]

theorem mem_of_cnt? (m : DMap) (d : Val) (c : Nat) (h : m.cnt? d = some c) : (d, c) ∈ m :=
  lookup_mem m d c (cnt?_eq_lookup m d ▸ h)

theorem cnt?_of_mem (m : DMap) (hn : m.keys.Nodup) (d : Val) (c : Nat) (h : (d, c) ∈ m) : m.cnt? d = some c :=
  (cnt?_eq_lookup m d).trans (lookup_of_mem hn h)

theorem cnt_pos_iff (m : DMap) (d : Val) : 0 < m.cnt d ↔ ∃ c, m.cnt? d = some c ∧ 0 < c := by
  unfold DMap.cnt
  cases m.cnt? d <;> simp

/-- pigeonhole: when `len(domains) == len(emptyDomains)` every registered domain is empty -/
theorem all_zero_of_len (t : TG) (h : t.Inv) (hl : t.domains.length = t.empty.length) (d : Val) (c : Nat)
    (hc : t.domains.cnt? d = some c) : c = 0 := by
  have hsub : t.empty ⊆ t.domains.keys := fun x hx => by rw [mem_keys, (h.emptyIff x).1 hx]; rfl
  have hd : d ∈ t.domains.keys := by rw [mem_keys, hc]; rfl
  -- were `d` not in `emptyDomains`, `d :: emptyDomains` would be duplicate-free, within the keys, and longer than they are
  have hmem : d ∈ t.empty := Classical.byContradiction fun hn => by
    have := (List.nodup_cons.2 ⟨hn, h.emptyNodup⟩).length_le_of_subset (List.cons_subset.2 ⟨hd, hsub⟩)
    rw [List.length_cons, DMap.keys, List.length_map, hl] at this
    exact Nat.not_succ_le_self _ this
  exact Option.some.inj (hc ▸ (h.emptyIff d).1 hmem)

/-- no registered domain the pod may use holds a matching pod -/
def NoCompat (t : TG) (pod : Req) : Prop :=
  ∀ d c, t.domains.cnt? d = some c → pod.has d = true → c = 0

theorem noCompat_of_anyCompat (t : TG) (pod : Req) (h : t.anyCompat pod = false) : NoCompat t pod := by
  intro d c hc hp
  unfold TG.anyCompat at h
  rw [List.any_eq_false] at h
  have := h (d, c) (mem_of_cnt? _ _ _ hc)
  simp only [hp, Bool.true_and, decide_eq_true_eq] at this
  omega

theorem bootstrap_sound (t : TG) (h : t.Inv) (self : Bool) (pod : Req) (hb : t.bootstrapOK self pod = true) :
    self = true ∧ NoCompat t pod := by
  unfold TG.bootstrapOK at hb
  simp only [Bool.and_eq_true, Bool.or_eq_true, beq_iff_eq, Bool.not_eq_true'] at hb
  refine ⟨hb.1, ?_⟩
  rcases hb.2 with hl | ha
  · intro d c hc _; exact all_zero_of_len t h hl d c hc
  · exact noCompat_of_anyCompat t pod ha

theorem positive_iff (t : TG) (d : Val) : t.positive d = true ↔ 0 < t.domains.cnt d := by
  unfold TG.positive DMap.cnt
  cases t.domains.cnt? d <;> simp

/-! counters under `Record` -/

theorem cnt_record1 (t : TG) (d x : Val) :
    (t.record1 d).domains.cnt x = if x = d then t.domains.cnt d + 1 else t.domains.cnt x := by
  simp only [TG.record1, DMap.cnt, cnt?_put]
  by_cases hx : x = d <;> simp [hx]

theorem cnt_record (t : TG) (ds : List Val) (hn : ds.Nodup) (x : Val) :
    (t.record ds).domains.cnt x = t.domains.cnt x + (if x ∈ ds then 1 else 0) := by
  unfold TG.record
  induction ds generalizing t with
  | nil => simp
  | cons d ds ih =>
    rw [List.nodup_cons] at hn
    simp only [List.foldl_cons]
    rw [ih _ hn.2, cnt_record1]
    by_cases hx : x = d
    · subst hx; simp [hn.1]
    · simp [hx]

/-! the spread minimum -/

theorem le_foldl_min {α : Type} (f : α → Int) (l : List α) (a k : Int) :
    k ≤ l.foldl (fun m x => min m (f x)) a ↔ k ≤ a ∧ ∀ x ∈ l, k ≤ f x := by
  induction l generalizing a with
  | nil => simp
  | cons p l ih => simp only [List.foldl_cons, ih, List.mem_cons, forall_eq_or_imp, Int.le_min, and_assoc]

/-- the kube-scheduler "global minimum": the smallest count over the registered domains that count -/
def gmin (t : TG) (s : Val → Bool) : Int :=
  (t.domains.filter (fun p => s p.1)).foldl (fun m p => min m (p.2 : Int)) maxI32

theorem le_gmin_iff (t : TG) (hn : t.domains.keys.Nodup) (s : Val → Bool) (k : Int) :
    k ≤ gmin t s ↔ k ≤ maxI32 ∧ ∀ d c, t.domains.cnt? d = some c → s d = true → k ≤ (c : Int) := by
  unfold gmin
  rw [le_foldl_min]
  constructor
  · rintro ⟨h1, h2⟩
    refine ⟨h1, fun d c hc hs => ?_⟩
    exact h2 (d, c) (List.mem_filter.2 ⟨mem_of_cnt? _ _ _ hc, hs⟩)
  · rintro ⟨h1, h2⟩
    refine ⟨h1, fun p hp => ?_⟩
    rw [List.mem_filter] at hp
    exact h2 p.1 p.2 (cnt?_of_mem _ hn _ _ hp.1) hp.2

theorem gmin_nonneg (t : TG) (s : Val → Bool) : 0 ≤ gmin t s := by
  unfold gmin
  rw [le_foldl_min]
  exact ⟨by decide, fun p _ => by omega⟩

/-- the floor the code subtracts: zero for hostname, otherwise the global minimum -/
def floor (t : TG) (s : Val → Bool) : Int := if t.isHost then 0 else gmin t s

theorem minCount_le_floor (t : TG) (s : Val → Bool) : t.minCount s ≤ floor t s := by
  unfold floor
  fun_cases TG.minCount t s with
  | case1 hh => rw [if_pos hh]; exact Int.le_refl 0
  | case2 hh => rw [if_neg hh]; exact gmin_nonneg t s
  | case3 hh => rw [if_neg hh]; exact Int.le_refl _
  | case4 hh => rw [if_neg hh]; exact Int.le_refl _

theorem mem_least (t : TG) (s : Int) (valid : List Val) (d : Val) (hd : d ∈ t.least s valid) :
    d ∈ valid ∧ ∀ d' ∈ valid, t.domains.cnt d ≤ t.domains.cnt d' := by
  unfold TG.least at hd
  rw [List.mem_filter, beq_iff_eq] at hd
  refine ⟨hd.1, fun d' hd' => ?_⟩
  have := ((le_foldl_min (fun x => (t.domains.cnt x : Int) + s) valid maxI32 _).1 (Int.le_of_eq hd.2)).2 d' hd'
  omega

end Karp.Topo
