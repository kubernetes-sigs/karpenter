/-
C11 helper lemmas: what `soil`, `clean`, `prune` do to the specification's ghost (`Karp.Spec.ClusterAbs.Ghost`: observed
snapshot, marks, dirty set), and the object-layer invariant that ties the cache to the API and the ghost.
-/
import Karp.Proofs.ClusterStateStruct
import Karp.Proofs.ListLemmas

namespace Karp.ClusterState
open Karp.Spec.ClusterAbs

theorem tracked_iff {w : Owners} {o : OC} {g : Ghost} (h : Struct w o) (m1 : o.nn = g.obsNodes) (m2 : o.cn = g.obsClaims)
    (n1 : Map.NoDup o.nn) (n2 : Map.NoDup o.cn) (id : String) :
    g.tracked id = true ↔ (Map.get o.nodes id).isSome = true := by
  unfold Ghost.tracked
  rw [← m1, ← m2]
  simp only [Bool.and_eq_true, Bool.or_eq_true, decide_eq_true_eq]
  rw [Map.any_val_iff n1, Map.any_val_iff n2]
  constructor
  · intro ⟨hid, hx⟩
    rcases hx with ⟨name, hg⟩ | ⟨name, hg⟩
    · obtain ⟨s, _, hs, _, _⟩ := h.nf name id hg
      rw [hs]; rfl
    · obtain ⟨s, _, hs, _, _⟩ := (h.cf name id hg).2 hid
      rw [hs]; rfl
  · intro hs
    cases hg : Map.get o.nodes id with
    | none => rw [hg] at hs; simp at hs
    | some s =>
      have hid : id ≠ "" := by intro e; rw [e, h.k0] at hg; simp at hg
      refine ⟨hid, ?_⟩
      rcases h.ne id s hg with hn | hc
      · cases hv : s.node with
        | none => rw [hv] at hn; simp at hn
        | some v => exact Or.inl ⟨v.name, (h.nb id s v hg hv).1⟩
      · cases hv : s.claim with
        | none => rw [hv] at hc; simp at hc
        | some cl => exact Or.inr ⟨cl.name, (h.cb id s cl hg hv).1⟩

theorem mem_soil (g : Ghost) (k n : String) (x : String × String) : x ∈ (g.soil k n).dirty ↔ x = (k, n) ∨ x ∈ g.dirty := by
  unfold Ghost.soil
  split
  · rename_i h
    have hx : (k, n) ∈ g.dirty := by simpa using h
    exact ⟨Or.inr, fun a => a.elim (fun e => e ▸ hx) id⟩
  · simp

theorem soil_fields (g : Ghost) (k n : String) :
    (g.soil k n).obsNodes = g.obsNodes ∧ (g.soil k n).obsClaims = g.obsClaims ∧ (g.soil k n).marked = g.marked ∧
    (g.soil k n).nominated = g.nominated := by
  unfold Ghost.soil; split <;> exact ⟨rfl, rfl, rfl, rfl⟩

theorem mem_clean (g : Ghost) (k n : String) (x : String × String) : x ∈ (g.clean k n).dirty ↔ x ∈ g.dirty ∧ x ≠ (k, n) := by
  unfold Ghost.clean
  simp [List.mem_filter]

theorem prune_dirty (g : Ghost) : g.prune.dirty = g.dirty := rfl
theorem prune_obsNodes (g : Ghost) : g.prune.obsNodes = g.obsNodes := rfl
theorem prune_obsClaims (g : Ghost) : g.prune.obsClaims = g.obsClaims := rfl

theorem contains_sInsert (l : List String) (x y : String) : (sInsert x l).contains y = (decide (y = x) || l.contains y) := by
  rw [Bool.eq_iff_iff]; simp [mem_sInsert]

theorem contains_sErase (l : List String) (x y : String) : (sErase x l).contains y = (!decide (y = x) && l.contains y) := by
  rw [Bool.eq_iff_iff]; simp [mem_sErase]

structure ApiOK (w : Owners) (api : Api) : Prop where
  nodes : ∀ name v, Map.get api.nodes name = some v → v.name = name ∧ w.okNode v
  claims : ∀ name cl, Map.get api.claims name = some cl → cl.name = name ∧ w.okClaim cl

def Owners.okEvent (w : Owners) : Event → Prop
  | .setNode n => w.okNode n
  | .setClaim c => w.okClaim c
  | _ => True

theorem apiOK_empty (w : Owners) : ApiOK w {} := ⟨by intro n v h; simp at h, by intro n v h; simp at h⟩

theorem apiOK_step {w : Owners} {api : Api} (h : ApiOK w api) (e : Event) (he : w.okEvent e) : ApiOK w (api.step e) := by
  cases e with
  | setNode n => exact ⟨Map.forall_put h.nodes ⟨rfl, he⟩, h.claims⟩
  | delNode k => exact ⟨Map.forall_erase h.nodes k, h.claims⟩
  | setClaim c => exact ⟨h.nodes, Map.forall_put h.claims ⟨rfl, he⟩⟩
  | delClaim k => exact ⟨h.nodes, Map.forall_erase h.claims k⟩
  | setPod p => exact ⟨h.nodes, h.claims⟩
  | delPod k => exact ⟨h.nodes, h.claims⟩
  | recNode _ | recClaim _ | recPod _ | mark _ | unmark _ | nominate _ => exact h

/-- the cache knows the latest version of Node `name` -/
def NodeCons (o : OC) (api : Api) (name : String) : Prop :=
  match Map.get api.nodes name with
  | some v =>
    (match nodeKey v with
     | some k => ∃ s, Map.get o.nodes k = some s ∧ s.node = some (nodeStored v)
     | none => Map.get o.nn name = none)
  | none => Map.get o.nn name = none

def ClaimCons (o : OC) (api : Api) (name : String) : Prop :=
  match Map.get api.claims name with
  | some cl =>
    if cl.managed then
      Map.get o.cn name = some cl.pid ∧ (cl.pid ≠ "" → ∃ s, Map.get o.nodes cl.pid = some s ∧ s.claim = some cl)
    else Map.get o.cn name = none
  | none => Map.get o.cn name = none

theorem NodeCons.tracked {o : OC} {api : Api} {name k : String} {v : NodeObj} (h : NodeCons o api name)
    (hv : Map.get api.nodes name = some v) (hk : nodeKey v = some k) :
    ∃ s, Map.get o.nodes k = some s ∧ s.node = some (nodeStored v) := by
  simp only [NodeCons, hv, hk] at h
  exact h

theorem NodeCons.known {o : OC} {api : Api} {name id : String} (h : NodeCons o api name) (hn : Map.get o.nn name = some id) :
    ∃ v k, Map.get api.nodes name = some v ∧ nodeKey v = some k := by
  unfold NodeCons at h
  split at h
  · rename_i v hv
    split at h
    · rename_i k hk; exact ⟨v, k, hv, hk⟩
    · rw [hn] at h; cases h
  · rw [hn] at h; cases h

theorem ClaimCons.tracked {o : OC} {api : Api} {name : String} {cl : ClaimObj} (h : ClaimCons o api name)
    (hv : Map.get api.claims name = some cl) (hm : cl.managed = true) :
    Map.get o.cn name = some cl.pid ∧ (cl.pid ≠ "" → ∃ s, Map.get o.nodes cl.pid = some s ∧ s.claim = some cl) := by
  simp only [ClaimCons, hv, hm, if_true] at h
  exact h

theorem ClaimCons.known {o : OC} {api : Api} {name id : String} (h : ClaimCons o api name) (hn : Map.get o.cn name = some id) :
    ∃ cl, Map.get api.claims name = some cl ∧ cl.managed = true ∧ cl.pid = id ∧
      (id ≠ "" → ∃ s, Map.get o.nodes id = some s ∧ s.claim = some cl) := by
  unfold ClaimCons at h
  split at h
  · rename_i cl hv
    split at h
    · rename_i hm
      rw [hn] at h
      obtain rfl := Option.some.inj h.1
      exact ⟨cl, hv, hm, rfl, h.2⟩
    · rw [hn] at h; cases h
  · rw [hn] at h; cases h

/-- `st`: the structural invariant; `m1` / `m2`: the node / claim name map is the ghost's observed snapshot; `n1` / `n2`:
    these maps have no duplicate keys; `cn` / `cc` (not `OC.cn`): a Node / NodeClaim name that is not dirty is consistent
    with the api; `mks`: the marks and nominations of a state node are the ghost's; `mt`: what the ghost marks or
    nominates has a state node. -/
structure OInv (w : Owners) (o : OC) (api : Api) (g : Ghost) : Prop where
  st : Struct w o
  m1 : o.nn = g.obsNodes
  m2 : o.cn = g.obsClaims
  n1 : Map.NoDup o.nn
  n2 : Map.NoDup o.cn
  cn : ∀ name, ("n", name) ∉ g.dirty → NodeCons o api name
  cc : ∀ name, ("c", name) ∉ g.dirty → ClaimCons o api name
  mks : ∀ id s, Map.get o.nodes id = some s → s.marked = g.marked.contains id ∧ s.nominated = g.nominated.contains id
  mt : ∀ id, (g.marked.contains id = true ∨ g.nominated.contains id = true) → (Map.get o.nodes id).isSome = true

theorem oinv_empty (w : Owners) : OInv w {} {} {} :=
  ⟨struct_empty w, rfl, rfl, Map.noDup_nil, Map.noDup_nil, fun _ _ => rfl, fun _ _ => rfl,
   by intro id s h; simp at h, by intro id h; simp at h⟩

theorem OInv.tracked {w : Owners} {o : OC} {api : Api} {g : Ghost} (h : OInv w o api g) (id : String) :
    g.tracked id = true ↔ (Map.get o.nodes id).isSome = true :=
  tracked_iff h.st h.m1 h.m2 h.n1 h.n2 id

theorem OInv.prune_eq {w : Owners} {o : OC} {api : Api} {g : Ghost} (h : OInv w o api g) : g.prune = g := by
  unfold Ghost.prune
  have h1 : g.marked.filter g.tracked = g.marked := by
    rw [List.filter_eq_self]
    intro a ha
    exact (h.tracked a).mpr (h.mt a (Or.inl (List.contains_iff_mem.mpr ha)))
  have h2 : g.nominated.filter g.tracked = g.nominated := by
    rw [List.filter_eq_self]
    intro a ha
    exact (h.tracked a).mpr (h.mt a (Or.inr (List.contains_iff_mem.mpr ha)))
  rw [h1, h2]

/-- whatever a reconcile did to the object layer, if it carried the marks over (`Carry`) they agree with the pruned ghost -/
theorem marks_after {w : Owners} {o o' : OC} {api : Api} {g g1 : Ghost} (h : OInv w o api g)
    (st' : Struct w o') (m1 : o'.nn = g1.obsNodes) (m2 : o'.cn = g1.obsClaims) (n1 : Map.NoDup o'.nn) (n2 : Map.NoDup o'.cn)
    (hm : g1.marked = g.marked) (hn : g1.nominated = g.nominated)
    (carry : Carry o o') :
    (∀ id s, Map.get o'.nodes id = some s → s.marked = g1.prune.marked.contains id ∧ s.nominated = g1.prune.nominated.contains id) ∧
    (∀ id, (g1.prune.marked.contains id = true ∨ g1.prune.nominated.contains id = true) → (Map.get o'.nodes id).isSome = true) := by
  have htr := tracked_iff st' m1 m2 n1 n2
  have hpm : ∀ id, g1.prune.marked.contains id = (g.marked.contains id && g1.tracked id) := by
    intro id; unfold Ghost.prune; dsimp only; rw [contains_filter, hm]
  have hpn : ∀ id, g1.prune.nominated.contains id = (g.nominated.contains id && g1.tracked id) := by
    intro id; unfold Ghost.prune; dsimp only; rw [contains_filter, hn]
  have old : ∀ id, ((Map.get o.nodes id).getD {}).marked = g.marked.contains id ∧
      ((Map.get o.nodes id).getD {}).nominated = g.nominated.contains id := by
    intro id
    cases hg : Map.get o.nodes id with
    | some s => exact h.mks id s hg
    | none =>
      constructor
      · cases hc : g.marked.contains id with
        | false => rfl
        | true => have := h.mt id (Or.inl hc); rw [hg] at this; simp at this
      · cases hc : g.nominated.contains id with
        | false => rfl
        | true => have := h.mt id (Or.inr hc); rw [hg] at this; simp at this
  constructor
  · intro id s hs
    have ht : g1.tracked id = true := (htr id).mpr (by rw [hs]; rfl)
    rw [hpm, hpn, ht, Bool.and_true, Bool.and_true, (carry id s hs).1, (carry id s hs).2]
    exact old id
  · intro id hc
    rw [hpm, hpn] at hc
    apply (htr id).mp
    rcases hc with hc | hc
    · exact (Bool.and_eq_true _ _ ▸ hc).2
    · exact (Bool.and_eq_true _ _ ▸ hc).2

theorem nodeStored_name (v : NodeObj) : (nodeStored v).name = v.name := by unfold nodeStored; split <;> rfl

theorem nodeCons_of_kept {w : Owners} {o o' : OC} {api : Api} {T : String → Prop} {name : String}
    (hk : Kept NodeObj.name T (o.view Objs.node) (o'.view Objs.node) o.nn o'.nn) (hapi : ApiOK w api) (hT : ¬ T name)
    (hc : NodeCons o api name) : NodeCons o' api name := by
  unfold NodeCons at *
  cases hv : Map.get api.nodes name with
  | none => rw [hv] at hc; dsimp only at hc ⊢; rw [hk.name name hT]; exact hc
  | some v =>
    rw [hv] at hc
    dsimp only at hc ⊢
    cases hkey : nodeKey v with
    | none => rw [hkey] at hc; dsimp only at hc ⊢; rw [hk.name name hT]; exact hc
    | some k =>
      rw [hkey] at hc
      dsimp only at hc ⊢
      refine view_eq_some.mp (hk.obj k _ (view_eq_some.mpr hc) ?_)
      rw [nodeStored_name, (hapi.nodes name v hv).1]; exact hT

theorem claimCons_of_kept {w : Owners} {o o' : OC} {api : Api} {T : String → Prop} {name : String}
    (hk : Kept ClaimObj.name T (o.view Objs.claim) (o'.view Objs.claim) o.cn o'.cn) (hapi : ApiOK w api) (hT : ¬ T name)
    (hc : ClaimCons o api name) : ClaimCons o' api name := by
  unfold ClaimCons at *
  rw [hk.name name hT]
  cases hv : Map.get api.claims name with
  | none => rw [hv] at hc; exact hc
  | some cl =>
    rw [hv] at hc
    dsimp only at hc ⊢
    by_cases hm : cl.managed = true
    · rw [if_pos hm] at hc ⊢
      refine ⟨hc.1, fun hp => view_eq_some.mp (hk.obj cl.pid cl (view_eq_some.mpr (hc.2 hp)) ?_)⟩
      rw [(hapi.claims name cl hv).1]; exact hT
    · rw [if_neg hm] at hc ⊢; exact hc

/-- the invariant after the reconcile of the Node (`kind = "n"`) or NodeClaim (`"c"`) `name`; `g1`: the ghost after it,
    before pruning -/
theorem oinv_of_step {w : Owners} {o o' : OC} {api : Api} {g g1 : Ghost} (h : OInv w o api g) (hapi : ApiOK w api)
    {kind name : String} (st' : Struct w o') (hst : Step o o' (kind, name)) (hd : g1.dirty = (g.clean kind name).dirty)
    (hm : g1.marked = g.marked) (hn : g1.nominated = g.nominated) (m1 : o'.nn = g1.obsNodes) (m2 : o'.cn = g1.obsClaims)
    (n1 : Map.NoDup o'.nn) (n2 : Map.NoDup o'.cn)
    (hself : (kind = "n" → NodeCons o' api name) ∧ (kind = "c" → ClaimCons o' api name)) : OInv w o' api g1.prune := by
  have hmk := marks_after h st' m1 m2 n1 n2 hm hn hst.carry
  have hdirty : ∀ x, x ∉ g1.prune.dirty → x ≠ (kind, name) → x ∉ g.dirty := by
    intro x hx hne a
    have hx' : x ∉ g1.dirty := hx
    rw [hd, mem_clean] at hx'
    exact hx' ⟨a, hne⟩
  refine ⟨st', m1, m2, n1, n2, ?_, ?_, hmk.1, hmk.2⟩
  · intro name' hx
    by_cases hk : ("n", name') = (kind, name)
    · rw [(Prod.mk.inj hk).2]; exact hself.1 (Prod.mk.inj hk).1.symm
    · exact nodeCons_of_kept hst.nodes hapi hk (h.cn name' (hdirty _ hx hk))
  · intro name' hx
    by_cases hk : ("c", name') = (kind, name)
    · rw [(Prod.mk.inj hk).2]; exact hself.2 (Prod.mk.inj hk).1.symm
    · exact claimCons_of_kept hst.claims hapi hk (h.cc name' (hdirty _ hx hk))

theorem nodeCons_congr {o : OC} {api api' : Api} {name : String} (h : Map.get api'.nodes name = Map.get api.nodes name)
    (hc : NodeCons o api name) : NodeCons o api' name := by
  unfold NodeCons at *; rw [h]; exact hc

theorem claimCons_congr {o : OC} {api api' : Api} {name : String} (h : Map.get api'.claims name = Map.get api.claims name)
    (hc : ClaimCons o api name) : ClaimCons o api' name := by
  unfold ClaimCons at *; rw [h]; exact hc

theorem oinv_api {w : Owners} {o : OC} {api api' : Api} {g : Ghost} (h : OInv w o api g) (k n : String)
    (hn : ∀ name, (k = "n" → name ≠ n) → Map.get api'.nodes name = Map.get api.nodes name)
    (hc : ∀ name, (k = "c" → name ≠ n) → Map.get api'.claims name = Map.get api.claims name) :
    OInv w o api' (g.soil k n) := by
  have hd : ∀ x, x ∉ (g.soil k n).dirty → x ∉ g.dirty ∧ x ≠ (k, n) := by
    intro x hx
    rw [mem_soil] at hx
    exact ⟨fun a => hx (Or.inr a), fun a => hx (Or.inl a)⟩
  obtain ⟨e1, e2, e3, e4⟩ := soil_fields g k n
  refine ⟨h.st, by rw [e1]; exact h.m1, by rw [e2]; exact h.m2, h.n1, h.n2, ?_, ?_, by rw [e3, e4]; exact h.mks, by rw [e3, e4]; exact h.mt⟩
  · intro name hx
    have := hd _ hx
    apply nodeCons_congr (hn name ?_) (h.cn name this.1)
    intro hk e
    apply this.2
    rw [hk, e]
  · intro name hx
    have := hd _ hx
    apply claimCons_congr (hc name ?_) (h.cc name this.1)
    intro hk e
    apply this.2
    rw [hk, e]

theorem oinv_recPod {w : Owners} {o : OC} {api : Api} {g : Ghost} (h : OInv w o api g) (name : String) :
    OInv w o api (g.clean "p" name) := by
  have hd : ∀ k x, k ≠ "p" → ((k, x) ∉ (g.clean "p" name).dirty ↔ (k, x) ∉ g.dirty) := by
    intro k x hk
    rw [mem_clean]
    constructor
    · intro a b; apply a; refine ⟨b, ?_⟩; intro e; exact hk (Prod.mk.inj e).1
    · intro a b; exact a b.1
  refine ⟨h.st, h.m1, h.m2, h.n1, h.n2, ?_, ?_, h.mks, h.mt⟩
  · intro n hx; exact h.cn n ((hd "n" n (by decide)).mp hx)
  · intro n hx; exact h.cc n ((hd "c" n (by decide)).mp hx)

theorem nodeCons_of_views {o o' : OC} {api : Api} {name : String} (hN : ∀ k, o'.view Objs.node k = o.view Objs.node k) (hnn : o'.nn = o.nn)
    (hc : NodeCons o api name) : NodeCons o' api name := by
  unfold NodeCons at *
  simp only [← view_eq_some, hN, hnn] at hc ⊢
  exact hc

theorem claimCons_of_views {o o' : OC} {api : Api} {name : String} (hC : ∀ k, o'.view Objs.claim k = o.view Objs.claim k) (hcn : o'.cn = o.cn)
    (hc : ClaimCons o api name) : ClaimCons o' api name := by
  unfold ClaimCons at *
  simp only [← view_eq_some, hC, hcn] at hc ⊢
  exact hc

theorem oinv_mark {w : Owners} {o : OC} {api : Api} {g : Ghost} (h : OInv w o api g) (pid : String) :
    OInv w (o.setMark pid true) api (g.step api (.mark pid)) ∧ OInv w (o.setMark pid false) api (g.step api (.unmark pid)) ∧
    OInv w (o.nominate pid) api (g.step api (.nominate pid)) := by
  simp only [Ghost.step]
  unfold OC.setMark OC.nominate
  cases hs : Map.get o.nodes pid with
  | none =>
    have ht : g.tracked pid = false := by
      cases hc : g.tracked pid with
      | false => rfl
      | true => have := (h.tracked pid).mp hc; rw [hs] at this; simp at this
    -- an id without state node is not marked, so unmarking it changes nothing
    have hm : sErase pid g.marked = g.marked := by
      unfold sErase
      rw [List.filter_eq_self]
      intro a ha
      have := h.mt a (Or.inl (List.contains_iff_mem.mpr ha))
      simp only [ne_eq, decide_not, Bool.not_eq_eq_eq_not, Bool.not_true, decide_eq_false_iff_not]
      intro e; rw [e, hs] at this; cases this
    rw [ht, hm]
    exact ⟨h, h, h⟩
  | some s =>
    have ht : g.tracked pid = true := (h.tracked pid).mpr (by rw [hs]; rfl)
    rw [ht]
    dsimp only
    have key : ∀ (s' : Objs) (g' : Ghost), s'.node = s.node → s'.claim = s.claim →
        g'.obsNodes = g.obsNodes → g'.obsClaims = g.obsClaims → g'.dirty = g.dirty →
        (s'.marked = g'.marked.contains pid ∧ s'.nominated = g'.nominated.contains pid) →
        (∀ id, id ≠ pid → g'.marked.contains id = g.marked.contains id ∧ g'.nominated.contains id = g.nominated.contains id) →
        OInv w { o with nodes := Map.put o.nodes pid s' } api g' := by
      intro s' g' h1 h2 e1 e2 e3 hp hother
      refine ⟨struct_touch h.st pid s s' hs h1 h2, by rw [e1]; exact h.m1, by rw [e2]; exact h.m2, h.n1, h.n2, ?_, ?_, ?_, ?_⟩
      · intro n hx; rw [e3] at hx; exact nodeCons_of_views (touch_views pid s' hs h1 h2).1 rfl (h.cn n hx)
      · intro n hx; rw [e3] at hx; exact claimCons_of_views (touch_views pid s' hs h1 h2).2 rfl (h.cc n hx)
      · intro id x hx
        have hx' : Map.get (Map.put o.nodes pid s') id = some x := hx
        rw [Map.get_put] at hx'
        by_cases he : id = pid
        · rw [if_pos he] at hx'
          rw [← Option.some.inj hx', he]; exact hp
        · rw [if_neg he] at hx'
          rw [(hother id he).1, (hother id he).2]; exact h.mks id x hx'
      · intro id hx
        show (Map.get (Map.put o.nodes pid s') id).isSome = true
        rw [Map.get_put]
        by_cases he : id = pid
        · rw [if_pos he]; rfl
        · rw [if_neg he]
          rw [(hother id he).1, (hother id he).2] at hx; exact h.mt id hx
    refine ⟨?_, ?_, ?_⟩
    · apply key { s with marked := true } { g with marked := sInsert pid g.marked } rfl rfl rfl rfl rfl
      · exact ⟨by dsimp only; rw [contains_sInsert]; simp, (h.mks pid s hs).2⟩
      · intro id he; dsimp only; rw [contains_sInsert]; simp [he]
    · apply key { s with marked := false } { g with marked := sErase pid g.marked } rfl rfl rfl rfl rfl
      · exact ⟨by dsimp only; rw [contains_sErase]; simp, (h.mks pid s hs).2⟩
      · intro id he; dsimp only; rw [contains_sErase]; simp [he]
    · apply key { s with nominated := true } { g with nominated := sInsert pid g.nominated } rfl rfl rfl rfl rfl
      · exact ⟨(h.mks pid s hs).1, by dsimp only; rw [contains_sInsert]; simp⟩
      · intro id he; dsimp only; rw [contains_sInsert]; simp [he]

end Karp.ClusterState
