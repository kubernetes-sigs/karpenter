/-
C11 helper lemmas: the pod-layer invariant along whole histories, and what it says at quiescence.
-/
import Karp.Proofs.ClusterStatePodSteps

namespace Karp.ClusterState
open Cluster Karp.Spec.ClusterAbs

theorem dirty_recNode (g : Ghost) (api : Api) (name : String) : (g.step api (.recNode name)).dirty = (g.clean "n" name).dirty := by
  simp only [Ghost.step]
  cases Map.get api.nodes name with
  | none => rfl
  | some n => dsimp only; cases nodeKey n <;> rfl

theorem dirty_recClaim (g : Ghost) (api : Api) (name : String) : (g.step api (.recClaim name)).dirty = (g.clean "c" name).dirty := by
  simp only [Ghost.step]
  cases Map.get api.claims name with
  | none => rfl
  | some c => dsimp only; split <;> rfl

theorem step_ok_api {fx : Fixes} {c c' : Cluster} {api : Api} {e : Event} {r : RecResult} (he : e.isApi = true)
    (hr : c.step fx api e = .ok (c', r)) : c' = c := by
  cases e with
  | setNode _ | delNode _ | setClaim _ | delClaim _ | setPod _ | delPod _ => exact (Prod.mk.inj (Except.ok.inj hr)).1.symm
  | recNode _ | recClaim _ | recPod _ | mark _ | unmark _ | nominate _ => cases he

theorem podInv_objStep (fx : Fixes) {dsOf : String → Bool} {c c' : Cluster} {api : Api} {d : List (String × String)} {e : Event}
    {r : RecResult} (hf : PodFix fx) (hp : PodInv fx dsOf c api d) (h0 : NoEmptyKey c) (hpa : PodsOK dsOf api) (hN' : NameOK c')
    (hr : c.step fx api e = .ok (c', r)) (hne : ∀ name, e ≠ .recPod name) : PodInv fx dsOf c' api d := by
  rcases step_cases hr with rfl | ⟨⟨name, he⟩, _⟩ | ⟨name, hr⟩ | ⟨node, hr⟩ | ⟨name, hr⟩ | ⟨cl, hr⟩ | ⟨pid, b, rfl⟩ | ⟨pid, rfl⟩
  · exact hp
  · exact absurd he (hne name)
  · exact podInv_objOp hp hN' (objOp_cleanupNode hf hr)
  · exact podInv_newStateFromNode fx hf hp h0 hpa _ hr hN'
  · exact podInv_objOp hp hN' (objOp_cleanupNodeClaim hr)
  · exact podInv_objOp hp hN' (objOp_updateNodeClaim hf hr)
  · exact podInv_objOp hp hN' (objOp_setMark c pid b)
  · exact podInv_objOp hp hN' (objOp_nominate c pid)

theorem podInv_step (fx : Fixes) (hf : PodFix fx) (w : Owners) (dsOf : String → Bool) {c c' : Cluster} {o o' : OC} {api : Api}
    {g : Ghost} (he : (proj c).Eqv o) (hi : OInv w o api g) (hp : PodInv fx dsOf c api g.dirty) (hpa : PodsOK dsOf api) (e : Event)
    (hpe : podEventOK dsOf e) (r : RecResult) (hr : c.step fx (api.step e) e = .ok (c', r))
    (he' : (proj c').Eqv o') (hi' : OInv w o' (api.step e) (g.step (api.step e) e)) :
    PodInv fx dsOf c' (api.step e) (g.step (api.step e) e).dirty := by
  have hN' := (nameOK_of_struct he' hi'.st).1
  have h0 := (nameOK_of_struct he hi.st).2
  -- an API change marks its key dirty; a pod that is not dirty afterwards is another one, and the API holds it as before
  have soil : ∀ (kind n : String) (api' : Api), (∀ k, ("p", k) ≠ (kind, n) → Map.get api'.pods k = Map.get api.pods k) →
      PodInv fx dsOf c api' (g.soil kind n).dirty := by
    intro kind n api' hpods
    apply podInv_api _ hp
    intro k hx
    rw [mem_soil] at hx
    exact ⟨fun a => hx (Or.inr a), hpods k (fun e => hx (Or.inl e))⟩
  cases e with
  | setNode n => rw [step_ok_api rfl hr]; exact soil "n" n.name _ (fun _ _ => rfl)
  | delNode k => rw [step_ok_api rfl hr]; exact soil "n" k _ (fun _ _ => rfl)
  | setClaim cl => rw [step_ok_api rfl hr]; exact soil "c" cl.name _ (fun _ _ => rfl)
  | delClaim k => rw [step_ok_api rfl hr]; exact soil "c" k _ (fun _ _ => rfl)
  | setPod p =>
    rw [step_ok_api rfl hr]
    exact soil "p" p.name _ (fun k hk => by
      show Map.get (Map.put api.pods p.name p) k = _
      rw [Map.get_put, if_neg (fun e => hk (by rw [e]))])
  | delPod k0 =>
    rw [step_ok_api rfl hr]
    exact soil "p" k0 _ (fun k hk => by
      show Map.get (Map.erase api.pods k0) k = _
      rw [Map.get_erase, if_neg (fun e => hk (by rw [e]))])
  | recNode name =>
    rw [dirty_recNode]
    exact podInv_api (fun k hk => ⟨mem_p_clean g "n" name k (by decide) hk, rfl⟩) (podInv_objStep fx hf hp h0 hpa hN' hr (fun _ => nofun))
  | recClaim name =>
    rw [dirty_recClaim]
    exact podInv_api (fun k hk => ⟨mem_p_clean g "c" name k (by decide) hk, rfl⟩) (podInv_objStep fx hf hp h0 hpa hN' hr (fun _ => nofun))
  | recPod name => exact podInv_recPod fx hf hp h0 hpa name c' r hr
  | mark pid =>
    have hd : (g.step api (.mark pid)).dirty = g.dirty := by simp only [Ghost.step]; split <;> rfl
    exact hd ▸ podInv_objStep fx hf hp h0 hpa hN' hr (fun _ => nofun)
  | unmark pid => exact podInv_objStep fx hf hp h0 hpa hN' hr (fun _ => nofun)
  | nominate pid =>
    have hd : (g.step api (.nominate pid)).dirty = g.dirty := by simp only [Ghost.step]; split <;> rfl
    exact hd ▸ podInv_objStep fx hf hp h0 hpa hN' hr (fun _ => nofun)

theorem run_all (fx : Fixes) (hf : PodFix fx) (w : Owners) (dsOf : String → Bool) (es : List Event) :
    ∀ (c : Cluster) (o : OC) (api : Api) (g : Ghost), (proj c).Eqv o → OInv w o api g → ApiOK w api →
      PodInv fx dsOf c api g.dirty → PodsOK dsOf api →
      (∀ e ∈ es, w.okEvent e ∧ podEventOK dsOf e) → wRun g api es = true →
      ∃ c' o', run fx c api es = .ok (c', apiRun api es) ∧ (proj c').Eqv o' ∧ OInv w o' (apiRun api es) (ghostRun g api es) ∧
        ApiOK w (apiRun api es) ∧ PodInv fx dsOf c' (apiRun api es) (ghostRun g api es).dirty ∧ PodsOK dsOf (apiRun api es) := by
  intro c o api g he hi ha hp hpa hok hw
  have hstep : ∀ (c : Cluster) (api : Api) (g : Ghost) (e : Event),
      (∃ o, (proj c).Eqv o ∧ OInv w o api g ∧ ApiOK w api ∧ PodInv fx dsOf c api g.dirty ∧ PodsOK dsOf api) →
      w.okEvent e ∧ podEventOK dsOf e → wStep g (api.step e) e = true →
      ∃ c' r, c.step fx (api.step e) e = .ok (c', r) ∧
        ∃ o', (proj c').Eqv o' ∧ OInv w o' (api.step e) (g.step (api.step e) e) ∧ ApiOK w (api.step e) ∧
          PodInv fx dsOf c' (api.step e) (g.step (api.step e) e).dirty ∧ PodsOK dsOf (api.step e) := by
    intro c api g e ⟨o, he, hi, ha, hp, hpa⟩ hok hw
    obtain ⟨c1, r, hc, o1, he1, hi1, ha1⟩ := step_oinv fx w c api g e ⟨o, he, hi, ha⟩ hok.1 hw
    exact ⟨c1, r, hc, o1, he1, hi1, ha1, podInv_step fx hf w dsOf he hi hp hpa e hok.2 r hc he1 hi1, podsOK_step hpa e hok.2⟩
  obtain ⟨c', hr, o', h'⟩ := run_inv hstep es c api g ⟨o, he, hi, ha, hp, hpa⟩ hok hw
  exact ⟨c', o', hr, h'⟩

theorem run_fold (fx : Fixes) (api : Api) (ev : String → Event) (f : Cluster → String → Cluster)
    (hapi : ∀ x, api.step (ev x) = api) (hstep : ∀ (c : Cluster) (x : String), c.step fx api (ev x) = .ok (f c x, .none))
    (xs : List String) :
    ∀ c : Cluster, run fx c api (xs.map ev) = .ok (xs.foldl f c, api) := by
  induction xs with
  | nil => intro c; rfl
  | cons x xs ih =>
    intro c
    simp only [List.map_cons, run, hapi, hstep]
    exact ih (f c x)

/-- at quiescence the table of a state node and the pods of the from-scratch node select from the API's pods by one
    predicate -/
theorem quiescent_table {fx : Fixes} {dsOf : String → Bool} {b : Map String} {api : Api} {s : SNode} {R : Map PodObj} {a : AbsNode}
    (h : Good fx dsOf b api [] s R) (ho : s.objs = absObjs a)
    (hp : a.pods = match a.node? with | some n => api.pods.vals.filter (onNode n.name) | none => []) :
    ∃ q : PodObj → Bool, (∀ k, Map.get R k = (Map.get api.pods k).filter q) ∧ a.pods = api.pods.vals.filter q := by
  rw [← show s.node = a.node? from congrArg Objs.node ho] at hp
  cases hv : s.node with
  | none =>
    rw [hv] at hp
    refine ⟨fun _ => false, fun k => ?_, by rw [hp]; simp⟩
    rw [h.t1 hv]
    cases Map.get api.pods k <;> rfl
  | some v =>
    rw [hv] at hp
    refine ⟨onNode v.name, fun k => ?_, hp⟩
    cases hg : Map.get R k with
    | some p =>
      symm
      rw [Option.filter_eq_some_iff]
      obtain ⟨ht, v', hv', hn, _⟩ := h.t2 k p hg
      rw [hv] at hv'
      rw [← Option.some.inj hv'] at hn
      exact ⟨h.t3 k p hg (by simp), (onNode_iff _ _).mpr ⟨hn, ht⟩⟩
    | none =>
      symm
      cases hf : (Map.get api.pods k).filter (onNode v.name) with
      | none => rfl
      | some p =>
        rw [Option.filter_eq_some_iff] at hf
        have hon := (onNode_iff _ _).mp hf.2
        have := h.t4 k p v hv hf.1 (by simp) hon.2 hon.1
        rw [hg] at this
        simp at this

theorem sumOver_vals (m : Map PodObj) (f : PodObj → Res) : sumOver (Map.vals m) f = sumOver m (fun e => f e.2) := by
  induction m with
  | nil => rfl
  | cons e m ih =>
    show sumOver (e.2 :: Map.vals m) f = _
    rw [sumOver_cons, sumOver_cons, ih]

theorem sum_table_eq (api : Api) (R : Map PodObj) (q : PodObj → Bool) (hR : Map.NoDup R) (hnd : Map.NoDup api.pods)
    (hget : ∀ k, Map.get R k = (Map.get api.pods k).filter q) (f : PodObj → Res) :
    sumOver R (fun e => f e.2) = sumOver (api.pods.vals.filter q) f := by
  rw [sumOver_filter, sumOver_vals, sum_image R api.pods (fun p => if q p then some p else none) f hR hnd
    (fun k => by rw [hget k]; cases Map.get api.pods k <;> rfl)]
  apply sumOver_congr
  intro e _
  cases q e.2 <;> rfl

theorem get_map_named (l : List PodObj) (f : PodObj → List HostPort) (k : String) :
    Map.get (l.map (fun p => (p.name, f p))) k = (l.find? (fun p => p.name = k)).map f := by
  induction l with
  | nil => rfl
  | cons a l ih =>
    rw [List.map_cons, Map.get_cons]
    by_cases ha : a.name = k
    · rw [if_pos ha, List.find?_cons_of_pos (by simpa using ha)]; rfl
    · rw [if_neg ha, List.find?_cons_of_neg (by simpa using ha), ih]

theorem absNodeAt_pods {api : Api} {g : Ghost} {pid : String} {a : AbsNode} (h : absNodeAt api g pid = some a) :
    a.pods = match a.node? with | some n => api.pods.vals.filter (onNode n.name) | none => [] := by
  unfold absNodeAt at h
  dsimp only at h
  split at h
  · cases h; rfl
  · cases h; rfl
  · cases h; rfl
  · cases h

theorem foldr_filter_int (l : List PodObj) (q : PodObj → Bool) (f : PodObj → Int) :
    ((l.filter q).map f).foldr (· + ·) 0 = (l.map (fun p => if q p then f p else 0)).foldr (· + ·) 0 := by
  induction l with
  | nil => rfl
  | cons a l ih =>
    by_cases hq : q a = true
    · rw [List.filter_cons_of_pos hq]; simp only [List.map_cons, List.foldr_cons, ih, hq, if_true]
    · rw [List.filter_cons_of_neg hq]; simp only [List.map_cons, List.foldr_cons, ih, hq]; simp

/-- the per-pod aggregates of a state node at quiescence are the from-scratch values -/
theorem quiescent_pods {fx : Fixes} {dsOf : String → Bool} {b : Map String} {api : Api} {s : SNode} {R : Map PodObj} {a : AbsNode}
    (hG : Good fx dsOf b api [] s R) (hapi : PodsOK dsOf api) (ho : s.objs = absObjs a)
    (hp : a.pods = match a.node? with | some n => api.pods.vals.filter (onNode n.name) | none => []) :
    sumOver s.podReq (fun e => e.2) = a.requests ∧ sumOver s.podLim (fun e => e.2) = a.limits ∧
    sumOver s.dsReq (fun e => e.2) = a.dsRequests ∧ sumOver s.dsLim (fun e => e.2) = a.dsLimits ∧
    costUnit + (s.costs.map (·.2)).foldr (· + ·) 0 = a.cost ∧
    (∀ k, Map.get s.ports k = Map.get a.ports k) ∧ s.limits = a.volLimits ∧ (∀ x, x ∈ a.volumes → x ∈ s.volumes) := by
  have hnamed : ∀ k p, Map.get api.pods k = some p → p.name = k := fun k p hg => (hapi.named k p hg).1
  have hsums := agg_sums s R hG.agg hG.tab.nd
  obtain ⟨q, htab, hpq⟩ := quiescent_table hG ho hp
  have tbl := sum_table_eq api R q hG.tab.nd hapi.nd htab
  unfold AbsNode.requests AbsNode.limits AbsNode.dsRequests AbsNode.dsLimits AbsNode.cost AbsNode.ports AbsNode.volLimits AbsNode.volumes
  rw [hpq]
  refine ⟨?_, ?_, ?_, ?_, ?_, ?_, ?_, ?_⟩
  · rw [hsums.1, sumRes_eq_sumOver]; exact tbl (·.req)
  · rw [hsums.2.1, sumRes_eq_sumOver]; exact tbl (·.lim)
  · rw [hsums.2.2.1, sumRes_eq_sumOver, sumOver_filter]; exact tbl (fun p => if p.ds then p.req else Res.zero)
  · rw [hsums.2.2.2.1, sumRes_eq_sumOver, sumOver_filter]; exact tbl (fun p => if p.ds then p.lim else Res.zero)
  · rw [hsums.2.2.2.2, foldr_filter_int]
    -- the integer costs, wrapped as `{ cpu := c }` and projected back (`sumOver_cpu`)
    have := tbl (fun p => ({ cpu := if !p.ds && decide (p.cost > 0) then p.cost else 0 } : Res))
    have h2 := congrArg Res.cpu this
    rw [sumOver_cpu, sumOver_cpu] at h2
    have e1 : (R.map fun (a : String × PodObj) => (({ cpu := if !a.2.ds && decide (a.2.cost > 0) then a.2.cost else 0 } : Res)).cpu) =
        R.map (fun e => if !e.2.ds && decide (e.2.cost > 0) then e.2.cost else 0) := rfl
    rw [e1] at h2
    rw [h2]
  · intro k
    rw [hG.agg.ports k, htab k, get_map_named, find_named hapi.nd hnamed]
  · rw [hG.lim, show s.node = a.node? from congrArg Objs.node ho]
    cases a.node? <;> rfl
  · intro x hx
    rw [(volUnionAll_aux _ [] List.nodup_nil).2 x] at hx
    rcases hx with hx | ⟨l, hl, hxl⟩
    · simp at hx
    · rw [List.mem_map] at hl
      obtain ⟨p, hpm, hpl⟩ := hl
      rw [List.mem_filter] at hpm
      obtain ⟨k, hk⟩ := mem_vals_get hapi.nd hpm.1
      have hR : Map.get R k = some p := by rw [htab k, Option.filter_eq_some_iff]; exact ⟨hk, hpm.2⟩
      exact hG.agg.volSup x k p hR (by rw [hpl]; exact hxl)

end Karp.ClusterState
