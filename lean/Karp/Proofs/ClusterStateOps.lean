/-
C11 helper lemmas: what each operation of the cache does. Every Node / NodeClaim / mark operation is one `Cluster.write`
(the entry and the pool totals together) plus changes to the name maps and the NodePool state; a pod operation replaces
entries by `updateForPod` / `cleanupForPod` of themselves.
-/
import Karp.Proofs.ClusterStatePool
import Karp.Spec.ClusterAbs

namespace Karp.ClusterState
open Cluster Karp.Spec.ClusterAbs

theorem map_ok {ε α β : Type} {f : α → β} {m : Except ε α} {b : β} (h : Except.map f m = .ok b) : ∃ a, m = .ok a ∧ f a = b := by
  cases m with
  | error e => simp [Except.map] at h
  | ok a => exact ⟨a, rfl, by simpa [Except.map] using h⟩

theorem withResult_ok {r : RecResult} {m : M Cluster} {c' : Cluster} {r' : RecResult}
    (h : withResult r m = .ok (c', r')) : m = .ok c' := by
  cases m with
  | error e => simp [withResult] at h
  | ok c => simp [withResult] at h; rw [h.1]

theorem rekeyed_true {m : Map String} {name pid : String} (h : rekeyed m name pid = true) : Map.get m name ≠ some pid := by
  unfold rekeyed at h
  intro e
  rw [e] at h
  simp at h

/-- what `cleanupNode` leaves of a state node (`none`: the entry goes) -/
def SNode.dropNode (fx : Fixes) (sn : SNode) : Option SNode :=
  if sn.claim.isNone then none
  else some (if fx.nodeGoneResets then { claim := sn.claim, marked := sn.marked, nominated := sn.nominated }
             else { sn with node := none })

def SNode.dropClaim (sn : SNode) : Option SNode := if sn.node.isNone then none else some { sn with claim := none }

theorem detachNode_eq (fx : Fixes) (c : Cluster) (name id : String) (sn : SNode) :
    c.detachNode fx name id sn =
      c.write id (some sn) (sn.dropNode fx) (Map.erase c.nodeNameToPid name) c.claimNameToPid c.np := by
  by_cases h : sn.claim.isNone = true <;>
    simp only [Cluster.detachNode, SNode.dropNode, Cluster.write, Cluster.updateNodePoolResources, h, Bool.false_eq_true, if_true, if_false]

theorem detachClaim_eq (c : Cluster) (name id : String) (sn : SNode) :
    (c.detachClaim id sn).forgetClaim name =
      c.write id (some sn) sn.dropClaim c.nodeNameToPid (Map.erase c.claimNameToPid name) (c.np.cleanup name) := by
  by_cases h : sn.node.isNone = true <;>
    simp only [Cluster.detachClaim, Cluster.forgetClaim, SNode.dropClaim, Cluster.write, Cluster.updateNodePoolResources, h,
      Bool.false_eq_true, if_true, if_false]

theorem cleanupNode_ok {fx : Fixes} {c c' : Cluster} {name : String} (hr : c.cleanupNode fx name = .ok c') :
    c' = c ∨ ∃ id sn, Map.get c.nodeNameToPid name = some id ∧ Map.get c.nodes id = some sn ∧ c' = c.detachNode fx name id sn := by
  revert hr
  fun_cases Cluster.cleanupNode fx c name <;> intro hr
  · cases hr
  · exact Or.inr ⟨_, _, ‹_›, ‹_›, (Except.ok.inj hr).symm⟩
  · exact Or.inl (Except.ok.inj hr).symm
  · exact Or.inl (Except.ok.inj hr).symm

theorem cleanupNodeClaim_ok {c c' : Cluster} {name : String} (hr : c.cleanupNodeClaim name = .ok c') :
    c' = c.forgetClaim name ∨
    ∃ id sn, Map.get c.claimNameToPid name = some id ∧ Map.get c.nodes id = some sn ∧ c' = (c.detachClaim id sn).forgetClaim name := by
  revert hr
  fun_cases Cluster.cleanupNodeClaim c name <;> intro hr
  · cases hr
  · exact Or.inr ⟨_, _, ‹_›, ‹_›, (Except.ok.inj hr).symm⟩
  · exact Or.inl (Except.ok.inj hr).symm
  · exact Or.inl (Except.ok.inj hr).symm

/-- the cleanup before an install under `pid` runs only when the name is known under another id -/
theorem rekeyed_cleanupNode_ok {fx : Fixes} {c c2 : Cluster} {name pid : String}
    (hr : (if rekeyed c.nodeNameToPid name pid then c.cleanupNode fx name else .ok c) = .ok c2) :
    c2 = c ∨ ∃ id sn, id ≠ pid ∧ Map.get c.nodes id = some sn ∧ c2 = c.detachNode fx name id sn := by
  split at hr
  · rename_i hrk
    rcases cleanupNode_ok hr with h | ⟨id, sn, hid, hsn, h⟩
    · exact Or.inl h
    · exact Or.inr ⟨id, sn, fun e => rekeyed_true hrk (e ▸ hid), hsn, h⟩
  · exact Or.inl (Except.ok.inj hr).symm

theorem rekeyed_cleanupNodeClaim_ok {c c2 : Cluster} {name pid : String}
    (hr : (if rekeyed c.claimNameToPid name pid then c.cleanupNodeClaim name else .ok c) = .ok c2) :
    c2 = c ∨ c2 = c.forgetClaim name ∨
      ∃ id sn, id ≠ pid ∧ Map.get c.nodes id = some sn ∧ c2 = (c.detachClaim id sn).forgetClaim name := by
  split at hr
  · rename_i hrk
    rcases cleanupNodeClaim_ok hr with h | ⟨id, sn, hid, hsn, h⟩
    · exact Or.inr (Or.inl h)
    · exact Or.inr (Or.inr ⟨id, sn, fun e => rekeyed_true hrk (e ▸ hid), hsn, h⟩)
  · exact Or.inl (Except.ok.inj hr).symm

theorem installNode_eq (c : Cluster) (node : NodeObj) (old n : SNode) :
    c.installNode node old n =
      c.write node.pid (some old) (some n) (Map.put c.nodeNameToPid node.name node.pid) c.claimNameToPid c.np := by
  simp only [Cluster.installNode, Cluster.write, Cluster.updateNodePoolResources]

theorem newStateFromNode_eq (fx : Fixes) (c : Cluster) (api : Api) (node : NodeObj) :
    c.newStateFromNode fx api node =
      let old := (Map.get c.nodes node.pid).getD SNode.new
      let cn := c.populate fx (nodeLiteral node old) node.name api.pods.vals
      (if rekeyed cn.1.nodeNameToPid node.name node.pid then cn.1.cleanupNode fx node.name else .ok cn.1).map
        (fun c2 => c2.installNode node old cn.2) := by
  unfold Cluster.newStateFromNode
  dsimp only
  generalize (if rekeyed _ node.name node.pid = true then _ else _ : M Cluster) = m
  cases m <;> rfl

theorem updateNode_eq (fx : Fixes) (c : Cluster) (api : Api) (node : NodeObj) :
    c.updateNode fx api node = if (nodeKey node).isSome then c.newStateFromNode fx api (nodeStored node) else .ok c := by
  by_cases h1 : (node.pid = "" && node.pool ≠ "") = true
  · simp only [Cluster.updateNode, nodeKey, h1, if_true, Option.isSome_none, Bool.false_eq_true, if_false]
  · by_cases h2 : (node.pool ≠ "" && !node.it && !node.init) = true
    · simp only [Cluster.updateNode, nodeKey, h1, h2, if_true, Option.isSome_none, Bool.false_eq_true, if_false]
    · simp only [Cluster.updateNode, nodeKey, nodeStored, h1, h2, Option.isSome_some, Bool.false_eq_true, if_true, if_false]

theorem installClaim_eq (fx : Fixes) (c : Cluster) (claim : ClaimObj) :
    c.installClaim fx claim =
      let old := (Map.get c.nodes claim.pid).getD SNode.new
      (if rekeyed c.claimNameToPid claim.name claim.pid then c.cleanupNodeClaim claim.name else .ok c).map
        (fun c2 => c2.write claim.pid (some old) (some (claimLiteral fx claim old)) c2.nodeNameToPid c2.claimNameToPid c2.np) := by
  unfold Cluster.installClaim
  dsimp only
  generalize (if rekeyed _ claim.name claim.pid = true then _ else _ : M Cluster) = m
  cases m <;> simp only [Except.map, Cluster.write, Cluster.updateNodePoolResources]

theorem updateNodeClaim_eq (fx : Fixes) (c : Cluster) (claim : ClaimObj) :
    c.updateNodeClaim fx claim =
      (if claim.pid ≠ "" then c.installClaim fx claim else .ok c).map (fun c2 => c2.recordClaim claim) := by
  unfold Cluster.updateNodeClaim
  generalize (if claim.pid ≠ "" then _ else _ : M Cluster) = m
  cases m <;> rfl

/-- `MarkForDeletion` (`true`) / `UnmarkForDeletion` (`false`) -/
def Cluster.setMark (c : Cluster) (pid : String) : Bool → Cluster
  | true => c.markForDeletion pid
  | false => c.unmarkForDeletion pid

theorem setMark_cases (c : Cluster) (pid : String) (b : Bool) :
    (Map.get c.nodes pid = none ∧ c.setMark pid b = c) ∨ ∃ sn np', Map.get c.nodes pid = some sn ∧
      c.setMark pid b = c.write pid (some sn) (some { sn with marked := b }) c.nodeNameToPid c.claimNameToPid np' := by
  cases hs : Map.get c.nodes pid with
  | none => cases b <;> simp only [Cluster.setMark, Cluster.markForDeletion, Cluster.unmarkForDeletion, hs, true_and, true_or]
  | some sn =>
    right
    cases b with
    | true =>
      refine ⟨sn, match sn.claim with | some cl => c.np.markDeleting cl.pool cl.name | none => c.np, rfl, ?_⟩
      cases hc : sn.claim <;>
        simp only [Cluster.setMark, Cluster.markForDeletion, hs, hc, Cluster.write, Cluster.updateNodePoolResources]
    | false =>
      refine ⟨sn, match sn.claim with | some cl => if !cl.del then c.np.markActive cl.pool cl.name else c.np | none => c.np,
        rfl, ?_⟩
      cases hc : sn.claim with
      | none => simp only [Cluster.setMark, Cluster.unmarkForDeletion, hs, hc, Cluster.write, Cluster.updateNodePoolResources]
      | some cl =>
        by_cases hd : cl.del = true <;>
          simp only [Cluster.setMark, Cluster.unmarkForDeletion, hs, hc, hd, Cluster.write, Cluster.updateNodePoolResources, Bool.false_eq_true,
            Bool.not_true, Bool.not_false, if_true, if_false]

theorem contrib_congr (a b : SNode) (h1 : a.node = b.node) (h2 : a.claim = b.claim) (h3 : a.marked = b.marked) :
    a.contrib = b.contrib := by
  cases a; cases b
  simp only at h1 h2 h3
  subst h1 h2 h3
  rfl

inductive PodUpd (fx : Fixes) (s : SNode) : SNode → Prop
  | refl : PodUpd fx s s
  | upd {s' : SNode} (p : PodObj) : PodUpd fx s s' → PodUpd fx s (s'.updateForPod fx p)
  | del {s' : SNode} (k : String) : PodUpd fx s s' → PodUpd fx s (s'.cleanupForPod k)

theorem PodUpd.trans {fx : Fixes} {a b c : SNode} (h1 : PodUpd fx a b) (h2 : PodUpd fx b c) : PodUpd fx a c := by
  induction h2 with
  | refl => exact h1
  | upd p _ ih => exact .upd p ih
  | del k _ ih => exact .del k ih

theorem PodUpd.fields {fx : Fixes} {s s' : SNode} (h : PodUpd fx s s') :
    s'.node = s.node ∧ s'.claim = s.claim ∧ s'.marked = s.marked ∧ s'.nominated = s.nominated := by
  induction h with
  | refl => exact ⟨rfl, rfl, rfl, rfl⟩
  | upd p _ ih => exact ih
  | del k _ ih => exact ih

theorem updateForPod_fields (fx : Fixes) (s : SNode) (p : PodObj) :
    (s.updateForPod fx p).node = s.node ∧ (s.updateForPod fx p).claim = s.claim ∧ (s.updateForPod fx p).marked = s.marked ∧
    (s.updateForPod fx p).nominated = s.nominated := (PodUpd.upd p .refl).fields

theorem cleanupForPod_fields (s : SNode) (k : String) :
    (s.cleanupForPod k).node = s.node ∧ (s.cleanupForPod k).claim = s.claim ∧ (s.cleanupForPod k).marked = s.marked ∧
    (s.cleanupForPod k).nominated = s.nominated := (PodUpd.del (fx := {}) k .refl).fields

theorem PodUpd.contrib {fx : Fixes} {s s' : SNode} (h : PodUpd fx s s') : s'.contrib = s.contrib :=
  contrib_congr _ _ h.fields.1 h.fields.2.1 h.fields.2.2.1

theorem nodeByName_some {c : Cluster} {n id : String} {sn : SNode} (h : c.nodeByName n = some (id, sn)) :
    Map.get c.nodes id = some sn := by
  unfold Cluster.nodeByName at h
  cases hg : Map.get c.nodes (Map.getD c.nodeNameToPid n "") with
  | none => simp [hg] at h
  | some s =>
    simp [hg] at h
    rw [← h.1, ← h.2]; exact hg

structure PodOnly (fx : Fixes) (c c' : Cluster) : Prop where
  nodes : ∀ id, (Map.get c.nodes id = none ∧ Map.get c'.nodes id = none) ∨
    ∃ s s', Map.get c.nodes id = some s ∧ Map.get c'.nodes id = some s' ∧ PodUpd fx s s'
  nn : c'.nodeNameToPid = c.nodeNameToPid
  cn : c'.claimNameToPid = c.claimNameToPid
  np : c'.np = c.np
  pr : c'.poolRes = c.poolRes
  pool : PoolInv c → PoolInv c'

theorem PodOnly.refl (fx : Fixes) (c : Cluster) : PodOnly fx c c := by
  refine ⟨fun id => ?_, rfl, rfl, rfl, rfl, id⟩
  cases h : Map.get c.nodes id with
  | none => exact Or.inl ⟨rfl, rfl⟩
  | some s => exact Or.inr ⟨s, s, rfl, rfl, .refl⟩

theorem PodOnly.trans {fx : Fixes} {a b c : Cluster} (h1 : PodOnly fx a b) (h2 : PodOnly fx b c) : PodOnly fx a c := by
  refine ⟨fun id => ?_, h2.nn.trans h1.nn, h2.cn.trans h1.cn, h2.np.trans h1.np, h2.pr.trans h1.pr, fun h => h2.pool (h1.pool h)⟩
  rcases h1.nodes id with ⟨ha, hb⟩ | ⟨s, s', ha, hb, hu⟩
  · rcases h2.nodes id with ⟨_, hc⟩ | ⟨t, _, hb', _, _⟩
    · exact Or.inl ⟨ha, hc⟩
    · rw [hb] at hb'; simp at hb'
  · rcases h2.nodes id with ⟨hb', _⟩ | ⟨t, t', hb', hc, hu'⟩
    · rw [hb] at hb'; simp at hb'
    · rw [hb] at hb'
      exact Or.inr ⟨s, t', ha, hc, hu.trans (Option.some.inj hb' ▸ hu')⟩

theorem PodOnly.bindings {fx : Fixes} {c c' : Cluster} (h : PodOnly fx c c') (b : Map String) :
    PodOnly fx c { c' with bindings := b } :=
  ⟨h.nodes, h.nn, h.cn, h.np, h.pr, fun hp => (h.pool hp).frame _ _ _ _⟩

theorem podOnly_touch {fx : Fixes} {c c' : Cluster} {id : String} {sn sn' : SNode} (hg : Map.get c.nodes id = some sn)
    (hu : PodUpd fx sn sn') (hn : c'.nodes = Map.put c.nodes id sn') (h1 : c'.nodeNameToPid = c.nodeNameToPid)
    (h2 : c'.claimNameToPid = c.claimNameToPid) (h3 : c'.np = c.np) (h4 : c'.poolRes = c.poolRes) : PodOnly fx c c' := by
  refine ⟨fun id' => ?_, h1, h2, h3, h4, fun h => poolInv_touch h hg hu.contrib hn h4⟩
  rw [hn, Map.get_put]
  by_cases h : id' = id
  · rw [if_pos h, h]; exact Or.inr ⟨sn, sn', hg, rfl, hu⟩
  · rw [if_neg h]; exact (PodOnly.refl fx c).nodes id'

theorem cleanupOldBindings_podOnly (fx : Fixes) (c : Cluster) (p : PodObj) : PodOnly fx c (c.cleanupOldBindings p) := by
  unfold Cluster.cleanupOldBindings
  split
  · split
    · exact PodOnly.refl fx c
    · split
      · rename_i id sn hb
        exact podOnly_touch (nodeByName_some hb) (.del p.name .refl) rfl rfl rfl rfl rfl
      · exact PodOnly.refl fx c
  · exact PodOnly.refl fx c

theorem podCompletion_podOnly (fx : Fixes) (c : Cluster) (k : String) : PodOnly fx c (c.podCompletion k) := by
  unfold Cluster.podCompletion
  split
  · exact PodOnly.refl fx c
  · dsimp only
    split
    · exact (PodOnly.refl fx c).bindings _
    · rename_i id sn hb
      exact podOnly_touch (nodeByName_some (c := { c with bindings := Map.erase c.bindings k }) hb) (.del k .refl) rfl rfl rfl rfl rfl

theorem podOnly_ite {fx : Fixes} (b : Bool) {c x y : Cluster} (hx : PodOnly fx c x) (hy : PodOnly fx c y) :
    PodOnly fx c (if b = true then x else y) := by
  cases b <;> simp [hx, hy]

theorem podUsage_podOnly (fx : Fixes) (c : Cluster) (p : PodObj) : PodOnly fx c (c.podUsage fx p).1 := by
  unfold Cluster.podUsage
  split
  · exact podOnly_ite _ (podCompletion_podOnly fx c p.name) (PodOnly.refl fx c)
  · split
    · exact podOnly_ite _ (podCompletion_podOnly fx c p.name) (PodOnly.refl fx c)
    · rename_i id sn hb
      have h1 : PodOnly fx c { c with nodes := Map.put c.nodes id (sn.updateForPod fx p) } :=
        podOnly_touch (nodeByName_some hb) (.upd p .refl) rfl rfl rfl rfl rfl
      exact (h1.trans (cleanupOldBindings_podOnly fx _ p)).bindings _

theorem updatePod_podOnly (fx : Fixes) (c : Cluster) (p : PodObj) : PodOnly fx c (c.updatePod fx p).1 := by
  unfold Cluster.updatePod
  split
  · exact podCompletion_podOnly fx c p.name
  · exact podUsage_podOnly fx c p

theorem populate_podOnly (fx : Fixes) (nodeName : String) (pods : List PodObj) :
    ∀ (c : Cluster) (n : SNode), PodOnly fx c (c.populate fx n nodeName pods).1 ∧ PodUpd fx n (c.populate fx n nodeName pods).2 := by
  induction pods with
  | nil => intro c n; exact ⟨PodOnly.refl fx c, .refl⟩
  | cons p ps ih =>
    intro c n
    unfold Cluster.populate
    split
    · have h1 : PodOnly fx c { (c.cleanupOldBindings p) with bindings := Map.put (c.cleanupOldBindings p).bindings p.name p.node } :=
        (cleanupOldBindings_podOnly fx c p).bindings _
      have := ih { (c.cleanupOldBindings p) with bindings := Map.put (c.cleanupOldBindings p).bindings p.name p.node } (n.updateForPod fx p)
      exact ⟨h1.trans this.1, (PodUpd.upd p .refl).trans this.2⟩
    · exact ih c n

/-- the case split every invariant's step lemma starts from -/
theorem step_cases {fx : Fixes} {c c' : Cluster} {api : Api} {e : Event} {r : RecResult} (hr : c.step fx api e = .ok (c', r)) :
    c' = c ∨ ((∃ name, e = .recPod name) ∧ PodOnly fx c c') ∨ (∃ name, c.cleanupNode fx name = .ok c') ∨ (∃ node, c.newStateFromNode fx api node = .ok c') ∨
    (∃ name, c.cleanupNodeClaim name = .ok c') ∨ (∃ cl, c.updateNodeClaim fx cl = .ok c') ∨
    (∃ pid b, c' = c.setMark pid b) ∨ ∃ pid, c' = c.nominate pid := by
  cases e with
  | recNode name =>
    simp only [Cluster.step] at hr
    split at hr
    · exact Or.inr (Or.inr (Or.inl ⟨name, withResult_ok hr⟩))
    · have hr := withResult_ok hr
      rw [updateNode_eq] at hr
      split at hr
      · exact Or.inr (Or.inr (Or.inr (Or.inl ⟨_, hr⟩)))
      · exact Or.inl (Except.ok.inj hr).symm
  | recClaim name =>
    simp only [Cluster.step] at hr
    split at hr
    · exact Or.inr (Or.inr (Or.inr (Or.inr (Or.inl ⟨name, withResult_ok hr⟩))))
    · split at hr
      · exact Or.inl (Prod.mk.inj (Except.ok.inj hr)).1.symm
      · exact Or.inr (Or.inr (Or.inr (Or.inr (Or.inr (Or.inl ⟨_, withResult_ok hr⟩)))))
  | recPod name =>
    simp only [Cluster.step] at hr
    split at hr
    · exact Or.inr (Or.inl ⟨⟨name, rfl⟩, (Prod.mk.inj (Except.ok.inj hr)).1 ▸ podCompletion_podOnly fx c name⟩)
    · exact Or.inr (Or.inl ⟨⟨name, rfl⟩, (Prod.mk.inj (Except.ok.inj hr)).1 ▸ updatePod_podOnly fx c _⟩)
  | mark pid => exact Or.inr (Or.inr (Or.inr (Or.inr (Or.inr (Or.inr (Or.inl ⟨pid, true, (Prod.mk.inj (Except.ok.inj hr)).1.symm⟩))))))
  | unmark pid => exact Or.inr (Or.inr (Or.inr (Or.inr (Or.inr (Or.inr (Or.inl ⟨pid, false, (Prod.mk.inj (Except.ok.inj hr)).1.symm⟩))))))
  | nominate pid => exact Or.inr (Or.inr (Or.inr (Or.inr (Or.inr (Or.inr (Or.inr ⟨pid, (Prod.mk.inj (Except.ok.inj hr)).1.symm⟩))))))
  | setNode _ | delNode _ | setClaim _ | delClaim _ | setPod _ | delPod _ => exact Or.inl (Prod.mk.inj (Except.ok.inj hr)).1.symm

theorem run_keeps {fx : Fixes} {I : Cluster → Prop}
    (hstep : ∀ {c c' : Cluster} {api : Api} {e : Event} {r : RecResult}, I c → c.step fx api e = .ok (c', r) → I c')
    (es : List Event) : ∀ (c c' : Cluster) (api api' : Api), I c → run fx c api es = .ok (c', api') → I c' := by
  induction es with
  | nil =>
    intro c c' api api' h hr
    exact (Prod.mk.inj (Except.ok.inj hr)).1 ▸ h
  | cons e es ih =>
    intro c c' api api' h hr
    simp only [run] at hr
    split at hr
    · simp at hr
    · rename_i c1 r hs
      exact ih c1 c' _ api' (hstep h hs) hr

end Karp.ClusterState
