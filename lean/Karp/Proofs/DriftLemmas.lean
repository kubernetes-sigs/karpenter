/-
Lemmas for the drift model (C15): what `areRequirementsDrifted` computes in terms of the NodePool's requirement
expressions and the NodeClaim's labels (on top of `ReqLemmas` and the `Requirements.Add` lemmas of `Proofs/Sched`), then
the controllers along histories of steps.
-/
import Karp.Model.Drift
import Karp.Spec.DriftSpec
import Karp.Proofs.Sched

namespace Karp.Drift
open Karp.Req Karp.Spec.K8s Karp.Sched

/-! ### Requirement expressions -/

/-- the requirement `NewRequirementWithFlexibility` builds for one expression (any `Exists` when it would panic) -/
def selReq (s : Sel) : Req :=
  match Req.new s.key s.op s.minValues s.values with
  | .ok r => r
  | .error _ => { key := normalizeKey s.key, complement := true, values := [] }

/-- a validated expression: comparison operators carry one integer literal, `In` / `NotIn` at least one value
    (the Kubernetes API rule for `NodeSelectorRequirement`) -/
def validSel (s : Sel) : Bool :=
  validOperands s.op s.values && !((s.op == .in_ || s.op == .notIn) && s.values.isEmpty)

theorem validOperands_of_validSel (s : Sel) (h : validSel s = true) : validOperands s.op s.values = true :=
  ((Bool.and_eq_true _ _).mp h).1

theorem new_ok (s : Sel) (h : validOperands s.op s.values = true) :
    Req.new s.key s.op s.minValues s.values = .ok (selReq s) := by
  obtain ⟨r, hr⟩ := new_ok_of_valid s.key s.op s.minValues s.values h
  unfold selReq; rw [hr]

theorem selReq_key (s : Sel) : (selReq s).key = normalizeKey s.key := by
  unfold selReq
  cases h : Req.new s.key s.op s.minValues s.values with
  | ok r => exact Req.key_new _ _ _ _ r h
  | error => rfl

theorem selReq_spec (s : Sel) (h : validOperands s.op s.values = true) :
    (selReq s).WF ∧ ∀ v, (selReq s).has v = k8sMatch s.op s.values (some v) :=
  have hn := new_ok s h
  ⟨wf_new _ _ _ _ _ hn, fun v => has_new _ _ _ _ _ v h hn⟩

theorem buildReqs_ok (sels : List Sel) (h : ∀ s ∈ sels, validOperands s.op s.values = true) :
    buildReqs sels = .ok (Reqs.add [] (sels.map selReq)) := by
  unfold buildReqs
  suffices H : ∀ (R : Reqs), List.foldlM addSel R sels = .ok (Reqs.add R (sels.map selReq)) from H []
  induction sels with
  | nil => intro R; rfl
  | cons s rest ih =>
    intro R
    have hs : addSel R s = .ok (R.add1 (selReq s)) := by
      unfold addSel; rw [new_ok s (h s List.mem_cons_self)]
    rw [List.foldlM_cons, hs]
    exact ih (fun x hx => h x (List.mem_cons_of_mem _ hx)) (R.add1 (selReq s))

/-- `Gt MaxInt` / `Lt MinInt` "match nothing" and are stored as `DoesNotExist` -/
def noExtreme (s : Sel) : Bool :=
  match s.op, s.values with
  | .gt, [n] => atoi n != some maxInt
  | .lt, [n] => atoi n != some minInt
  | _, _ => true

theorem absentOk_selReq (s : Sel) (hv : validSel s = true) (hx : noExtreme s = true) :
    (selReq s).absentOk = k8sMatch s.op s.values none := by
  have hvo := validOperands_of_validSel s hv
  obtain ⟨key, op, vals, mv⟩ := s
  refine absentOk_new key op mv vals _ hvo (new_ok _ hvo) ?_ ?_ ?_
  · -- validation rejects an empty value list
    rintro (rfl | rfl) rfl <;> cases hv
  · rintro rfl n rfl; simpa [noExtreme] using hx
  · rintro rfl n rfl; simpa [noExtreme] using hx

/-! ### `Requirements.Add` key by key -/

theorem lookup_add_other (k : String) (rs : List Req) : ∀ (R : Reqs), (∀ r ∈ rs, r.key ≠ k) →
    (R.add rs).lookup k = R.lookup k := by
  induction rs with
  | nil => intro R _; rfl
  | cons x xs ih =>
    intro R h
    rw [add_cons, ih (R.add1 x) (fun r hr => h r (List.mem_cons_of_mem _ hr)), lookup_add1,
      if_neg (fun e => h x List.mem_cons_self e.symm)]

theorem lookup_add_unique (rs : List Req) (R : Reqs) (r0 : Req) (hr0 : r0 ∈ rs) (hR : R.lookup r0.key = none)
    (hnd : (rs.map (·.key)).Nodup) : (R.add rs).lookup r0.key = some r0 := by
  obtain ⟨l₁, l₂, rfl⟩ := List.append_of_mem hr0
  rw [List.map_append, List.map_cons, List.nodup_append, List.nodup_cons] at hnd
  obtain ⟨-, ⟨h2, -⟩, h12⟩ := hnd
  have e : R.add (l₁ ++ r0 :: l₂) = ((R.add l₁).add1 r0).add l₂ := by
    simp only [Reqs.add, List.foldl_append, List.foldl_cons]
  have h1 : ∀ r ∈ l₁, r.key ≠ r0.key := fun r hr => h12 _ (List.mem_map_of_mem hr) _ List.mem_cons_self
  have h2 : ∀ r ∈ l₂, r.key ≠ r0.key := fun r hr e => h2 (e ▸ List.mem_map_of_mem hr)
  rw [e, lookup_add_other _ l₂ _ h2, lookup_add1, if_pos rfl, lookup_add_other _ l₁ R h1, hR]

/-! ### Label requirements -/

theorem set_append (R : Reqs) (k : String) (r : Req) (h : R.lookup k = none) : Reqs.set R k r = R ++ [(k, r)] := by
  induction R with
  | nil => rfl
  | cons p ps ih =>
    obtain ⟨k0, r0⟩ := p
    rw [lookup_cons_ite] at h
    split at h
    · cases h
    · next hne => simp only [Reqs.set, if_neg (Ne.symm hne), ih h, List.cons_append]

theorem labelReqs_eq (ls : Labels) (hnorm : ∀ kv ∈ ls, normalizeKey kv.1 = kv.1) (hnd : (ls.map (·.1)).Nodup) :
    labelReqs ls = Karp.Sched.labelReqs ls := by
  suffices H : ∀ (R : Reqs), (∀ kv ∈ ls, R.lookup kv.1 = none) →
      ls.foldl (fun R kv => R.add1 (labelReq kv.1 kv.2)) R = R ++ Karp.Sched.labelReqs ls from H [] (fun _ _ => rfl)
  induction ls with
  | nil => intro R _; exact (List.append_nil R).symm
  | cons kv rest ih =>
    intro R hR
    rw [List.map_cons, List.nodup_cons] at hnd
    have hk := hR kv List.mem_cons_self
    have h1 : R.add1 (labelReq kv.1 kv.2) = R ++ [(kv.1, { key := kv.1, complement := false, values := [kv.2] })] := by
      rw [add1_eq, labelReq, hnorm kv List.mem_cons_self, hk]; exact set_append R _ _ hk
    rw [List.foldl_cons, h1, ih (fun x hx => hnorm x (List.mem_cons_of_mem _ hx)) hnd.2]
    · exact List.append_assoc R _ _
    · intro x hx
      rw [List.lookup_append, hR x (List.mem_cons_of_mem _ hx), Option.none_or, lookup_cons_ite,
        if_neg (fun (e : x.1 = kv.1) => hnd.1 (e ▸ List.mem_map_of_mem hx))]
      rfl

/-! ### Requirements that accept a label value, or the label's absence -/

/-- the two representations whose `Operator()` is `NotIn` / `DoesNotExist` that `NotIn [v…]` and `DoesNotExist`
    expressions (and their intersections) produce -/
def TolShape (r : Req) : Prop :=
  (r.complement = true ∧ r.values ≠ [] ∧ r.gte = none ∧ r.lte = none) ∨ (r.complement = false ∧ r.values = [])

theorem tol_absentOk (r : Req) (h : TolShape r) : r.absentOk = true := by
  rw [absentOk_eq]
  rcases h with ⟨hc, hv, -, -⟩ | ⟨hc, hv⟩
  · rw [hc, List.isEmpty_eq_false_iff.mpr hv]; rfl
  · rw [hc, hv]; rfl

theorem inter_nil (r q : Req) (h : (r.complement = false ∧ r.values = []) ∨ (q.complement = false ∧ q.values = [])) :
    (r.inter q).complement = false ∧ (r.inter q).values = [] := by
  unfold Req.inter
  by_cases hb : boundsEmpty (maxOpt r.gte q.gte) (minOpt r.lte q.lte) = true <;> rcases h with ⟨hc, hv⟩ | ⟨hc, hv⟩ <;>
    simp [hb, hc, hv, doesNotExist]

theorem tol_inter (r q : Req) (hr : TolShape r) (hq : TolShape q) : TolShape (r.inter q) := by
  rcases hr with ⟨hrc, hrv, hrg, hrl⟩ | ⟨hrc, hrv⟩
  · rcases hq with ⟨hqc, hqv, hqg, hql⟩ | ⟨hqc, hqv⟩
    · left
      simp only [Req.inter, hrc, hqc, hrg, hrl, hqg, hql, maxOpt, minOpt, boundsEmpty, Bool.and_self, if_true,
        Bool.false_eq_true, if_false, filter_withinBounds_none]
      exact ⟨trivial, fun h => hrv (List.append_eq_nil_iff.mp h).1, trivial, trivial⟩
    · exact Or.inr (inter_nil r q (Or.inr ⟨hqc, hqv⟩))
  · exact Or.inr (inter_nil r q (Or.inl ⟨hrc, hrv⟩))

/-- `r` accepts the (possibly absent) label value `x`, in a form `Intersection` preserves: `absentOk` alone is not
    (the excluded values of a `NotIn` are filtered by the other side's bounds; when none is left the result reads `Exists`) -/
def Accepts (r : Req) : Option Val → Prop
  | some v => r.has v = true
  | none => TolShape r

theorem accepts_admits {r : Req} {x : Option Val} (h : Accepts r x) : r.admits x = true := by
  cases x with
  | some v => exact h
  | none => exact tol_absentOk r h

theorem accepts_inter {r q : Req} {x : Option Val} (hr : Accepts r x) (hq : Accepts q x) : Accepts (r.inter q) x := by
  cases x with
  | some v => exact (has_inter r q v).trans ((Bool.and_eq_true _ _).mpr ⟨hr, hq⟩)
  | none => exact tol_inter r q hr hq

theorem accepts_add (f : String → Option Val) (rs : List Req) (p : String × Req) (hp : p ∈ Reqs.add [] rs)
    (h : ∀ r ∈ rs, r.key = p.1 → Accepts r (f p.1)) : Accepts p.2 (f p.1) := by
  refine add_induction (fun k q => (∀ r ∈ rs, r.key = k → Accepts r (f k)) → Accepts q (f k)) rs [] ?_ ?_ p hp h
  · intro q hq; cases hq
  · intro r hr
    exact ⟨fun h => h r hr rfl, fun _ he h => accepts_inter (h r hr rfl) (he h)⟩

theorem accepts_selReq (s : Sel) (x : Option Val) (hv : validSel s = true) (hm : k8sMatch s.op s.values x = true) :
    Accepts (selReq s) x := by
  cases x with
  | some v => exact ((selReq_spec s (validOperands_of_validSel s hv)).2 v).trans hm
  | none =>
    -- only `NotIn` and `DoesNotExist` are satisfied by an absent label
    obtain ⟨key, op, vals, mv⟩ := s
    cases op
    case notIn =>
      refine Or.inl ⟨rfl, fun (e : vals.map _ = []) => ?_, rfl, rfl⟩
      rw [List.map_eq_nil_iff.mp e] at hv; cases hv
    case doesNotExist => exact Or.inr ⟨rfl, rfl⟩
    all_goals simp [k8sMatch, cmpMatch] at hm

/-! ### `areRequirementsDrifted` against the Kubernetes reading -/

/-- the hypotheses under which the Kubernetes reading is stated -/
structure Readable (sels : List Sel) (labels : Labels) : Prop where
  valid : ∀ s ∈ sels, validSel s = true
  selKeys : ∀ s ∈ sels, normalizeKey s.key = s.key
  labelKeys : ∀ kv ∈ labels, normalizeKey kv.1 = kv.1
  nodup : (labels.map (·.1)).Nodup

theorem normalizeKey_of_not_alias (k : String) (h : Karp.Spec.DriftSpec.aliasKey k = false) : normalizeKey k = k := by
  unfold Karp.Spec.DriftSpec.aliasKey at h
  unfold normalizeKey
  cases hl : Karp.Gen.Labels.normalizedLabels.lookup k with
  | none => rfl
  | some x => rw [hl] at h; simp at h

theorem pool_wf (sels : List Sel) (hv : ∀ s ∈ sels, validOperands s.op s.values = true) :
    ∀ p ∈ Reqs.add [] (sels.map selReq), p.2.WF := by
  apply wf_add _ [] (by intro q hq; cases hq)
  intro r hr
  obtain ⟨s, hs, rfl⟩ := List.mem_map.mp hr
  exact (selReq_spec s (hv s hs)).1

theorem requirementsDrifted_eq (sels : List Sel) (labels : Labels)
    (hvo : ∀ s ∈ sels, validOperands s.op s.values = true) :
    requirementsDrifted sels labels = .ok (!(labelReqs labels).compatible (Reqs.add [] (sels.map selReq)) []) := by
  unfold requirementsDrifted
  rw [buildReqs_ok sels hvo]
  rfl

/-- what `areRequirementsDrifted` computes, in the terms of the representation: no drift exactly when the requirement
    stored under every key admits the actual label, or its absence (a missed drift is a stored requirement that admits an
    absence some expression on its key does not: `Faithful`) -/
theorem requirementsDrifted_iff (sels : List Sel) (labels : Labels) (hr : Readable sels labels) :
    requirementsDrifted sels labels = .ok false ↔
      ∀ p ∈ Reqs.add [] (sels.map selReq), p.2.admits (labels.lookup p.1) = true := by
  have hvo : ∀ s ∈ sels, validOperands s.op s.values = true := fun s hs => validOperands_of_validSel s (hr.valid s hs)
  rw [requirementsDrifted_eq sels labels hvo, labelReqs_eq labels hr.labelKeys hr.nodup,
    ← compatible_labels_iff labels _ (pool_wf sels hvo)]
  simp only [Except.ok.injEq, Bool.not_eq_false']

/-- the requirement Karpenter derives for a key tolerates the label's absence only if every expression on that key
    does (cf. `Karp.C01.Faithful`): what the requirement REPRESENTATION cannot guarantee -/
def Faithful (sels : List Sel) : Prop :=
  ∀ k r, (Reqs.add [] (sels.map selReq)).lookup k = some r → r.absentOk = true →
    ∀ s ∈ sels, normalizeKey s.key = k → k8sMatch s.op s.values none = true

theorem satisfy_of_not_drifted (sels : List Sel) (labels : Labels) (hr : Readable sels labels)
    (h : requirementsDrifted sels labels = .ok false) :
    ∀ s ∈ sels, ((labels.lookup s.key).isSome ∨ Faithful sels) → k8sMatch s.op s.values (labels.lookup s.key) = true := by
  have hvo : ∀ s ∈ sels, validOperands s.op s.values = true := fun s hs => validOperands_of_validSel s (hr.valid s hs)
  rw [requirementsDrifted_eq sels labels hvo, labelReqs_eq labels hr.labelKeys hr.nodup] at h
  simp only [Except.ok.injEq, Bool.not_eq_false'] at h
  intro s hs hcase
  have hkey : (selReq s).key = s.key := (selReq_key s).trans (hr.selKeys s hs)
  have := compatible_add_labels labels (sels.map selReq)
    (List.forall_mem_map.mpr fun s hs => (selReq_spec s (hvo s hs)).1) h (selReq s) (List.mem_map_of_mem hs)
    (k8sMatch s.op s.values) (selReq_spec s (hvo s hs)).2 fun hlab q hq ha =>
      hcase.elim (fun hp => by rw [← hkey, hlab] at hp; cases hp) fun hf => hf _ q (hkey ▸ hq) ha s hs (hr.selKeys s hs)
  rwa [hkey] at this

theorem faithful_of_distinct (sels : List Sel) (hv : ∀ s ∈ sels, validSel s = true ∧ noExtreme s = true)
    (hnd : (sels.map (fun s => normalizeKey s.key)).Nodup) : Faithful sels := by
  intro k r hl habs s hs hk
  have hkeys : (sels.map selReq).map (·.key) = sels.map (fun s => normalizeKey s.key) := by
    rw [List.map_map]; exact List.map_congr_left fun x _ => selReq_key x
  have hkey : (selReq s).key = k := (selReq_key s).trans hk
  -- what is stored under the key is the requirement of the one expression on it
  have hlk := lookup_add_unique (sels.map selReq) [] (selReq s) (List.mem_map_of_mem hs) rfl (hkeys ▸ hnd)
  rw [hkey, hl] at hlk
  obtain rfl := Option.some.inj hlk
  exact (absentOk_selReq s (hv s hs).1 (hv s hs).2).symm.trans habs

/-! ### Histories without edits: a settled NodeClaim stays un-drifted -/

/-- the NodePool's current hash and the current hash version: the same annotation as `stampOf s.pool.pool` -/
def freshAnn (s : St) : Ann := { hash := some s.pool.pool.hashString, version := some currentVersion }

/-- a NodeClaim that gives no cause for drift -/
def Good (s : St) (c : Claim) : Prop :=
  c.ann = freshAnn s ∧ c.drifted = none ∧
  requirementsDrifted (s.pool.pool.template.requirements.getD []) c.labels = .ok false ∧
  instanceTypeNotFound s.prov.its c.labels s.wellKnown s.reservedLabels = false

structure Settled (s : St) : Prop where
  poolAnn : s.pool.ann = freshAnn s
  noProviderDrift : s.prov.drift = ""
  claims : ∀ c ∈ s.claims, Good s c

/-- steps that edit neither the NodePool, nor a NodeClaim, nor the provider's answers -/
def quiet : Step → Bool
  | .hashctl => true
  | .reconcile _ => true
  | .advance _ => true
  | _ => false

theorem good_congr (s s' : St) (c : Claim) (hp : s'.pool = s.pool) (hv : s'.prov = s.prov)
    (hw : s'.wellKnown = s.wellKnown) (hr : s'.reservedLabels = s.reservedLabels) (h : Good s c) : Good s' c := by
  unfold Good freshAnn at *
  rw [hp, hv, hw, hr]; exact h

theorem hashReconcile_fresh (s : St) (h : s.pool.ann = freshAnn s) : hashReconcile s = s := by
  fun_cases hashReconcile s
  case case1 => rfl
  case case2 _ _ claims =>
    have hne : (s.pool.ann.version != some currentVersion) = false := by rw [h]; simp [freshAnn]
    have : claims = s.claims := if_neg (by rw [hne]; exact Bool.false_ne_true)
    rw [this]
    show { s with pool := { s.pool with ann := freshAnn s } } = s
    rw [← h]

theorem staticDrifted_self (a : Ann) : staticDrifted a a = false := by
  unfold staticDrifted
  cases a.hash <;> cases a.version <;> simp

theorem driftReconcile_good (s : St) (c : Claim) (hs : Settled s) (hc : Good s c) :
    ∃ e k, driftReconcile s c = .ok (c, e, k) := by
  obtain ⟨hann, hdr, hreq, hit⟩ := hc
  obtain ⟨nm, lb, an, la, dr, dl, mg, cr⟩ := c
  obtain rfl : dr = none := hdr
  cases la with
  | false => exact ⟨false, false, rfl⟩
  | true =>
    have hstat : staticDrifted s.pool.ann an = false := by
      rw [hs.poolAnn, show an = freshAnn s from hann]; unfold staticDrifted freshAnn; simp
    unfold driftReconcile isDrifted
    simp only [hreq, hstat, hit, hs.noProviderDrift, bind, Except.bind, pure, Except.pure, Bool.false_eq_true, if_false,
      Bool.and_false, Bool.not_true]
    -- no cause of drift is left: an error of one of the two provider calls, or the provider's answer "not drifted"
    by_cases h1 : (!s.checked.contains nm && decide (s.now - cr > hourNs) && s.prov.itErr) = true
    · simp only [h1, if_true]; exact ⟨true, false, rfl⟩
    · simp only [h1]
      by_cases h2 : s.prov.driftErr = true
      · simp only [h2, if_true]; exact ⟨true, _, rfl⟩
      · simp only [h2]; exact ⟨false, _, rfl⟩

theorem reconcileClaim_cases (s : St) (n : String) :
    reconcileClaim s n = .ok (s, false) ∨ ∃ c ∈ s.claims, reconcileClaim s n = (do
      let (c', err, cached) ← driftReconcile s c
      return ({ s with claims := s.claims.map (fun x => if x.name == n then c' else x),
                       checked := if cached then n :: s.checked else s.checked }, err)) := by
  fun_cases reconcileClaim s n
  -- the last branch is the one past all guards
  case case5 c hf _ _ _ _ => exact Or.inr ⟨c, List.mem_of_find?_eq_some hf, rfl⟩
  all_goals exact Or.inl rfl

/-- what a successful `disruption.Controller.Reconcile` does to the state -/
theorem reconcileClaim_ok (s s' : St) (n : String) (e : Bool) (h : reconcileClaim s n = .ok (s', e)) :
    s' = s ∨ ∃ c ∈ s.claims, ∃ c' k, driftReconcile s c = .ok (c', e, k) ∧
      s' = { s with claims := s.claims.map (fun x => if x.name == n then c' else x),
                    checked := if k then n :: s.checked else s.checked } := by
  rcases reconcileClaim_cases s n with h0 | ⟨c, hcm, h1⟩
  · rw [h0] at h; cases h; exact Or.inl rfl
  · rw [h1] at h
    cases hd : driftReconcile s c with
    | error x => rw [hd] at h; cases h
    | ok v => obtain ⟨c', e', k⟩ := v; rw [hd] at h; cases h; exact Or.inr ⟨c, hcm, c', k, hd, rfl⟩

theorem settled_reconcile (s : St) (n : String) (h : Settled s) :
    ∃ s' e, reconcileClaim s n = .ok (s', e) ∧ Settled s' := by
  rcases reconcileClaim_cases s n with h0 | ⟨c, hcm, h1⟩
  · exact ⟨s, false, h0, h⟩
  · obtain ⟨e, k, hd⟩ := driftReconcile_good s c h (h.claims c hcm)
    rw [h1, hd]
    refine ⟨_, e, rfl, h.poolAnn, h.noProviderDrift, fun x hx => ?_⟩
    obtain ⟨y, hy, rfl⟩ := List.mem_map.mp hx
    refine good_congr s _ _ rfl rfl rfl rfl ?_
    split
    · exact h.claims c hcm
    · exact h.claims y hy

theorem settled_step (s : St) (st : Step) (hq : quiet st = true) (h : Settled s) :
    ∃ s' e, step s st = .ok (s', e) ∧ Settled s' := by
  cases st <;> simp [quiet] at hq
  · exact ⟨_, false, rfl, (hashReconcile_fresh s h.poolAnn).symm ▸ h⟩
  · exact ⟨_, false, rfl, h.poolAnn, h.noProviderDrift, fun c hc => good_congr s _ c rfl rfl rfl rfl (h.claims c hc)⟩
  · exact settled_reconcile s _ h

/-- The one induction over `run`.  The invariant may mention the steps still to come, so that a guard on every step —
    also one that depends on the state the step is taken in — is part of it.  Every state of a successful run satisfies
    it, and a run that fails does so at a step taken under it. -/
theorem run_ind (I : St → List Step → Prop)
    (hstep : ∀ s st rest s' e, I s (st :: rest) → step s st = .ok (s', e) → I s' rest) :
    ∀ steps s, I s steps →
      (∀ out, run s steps = .ok out → ∀ p ∈ out, ∃ rest, I p.1 rest) ∧
      (∀ x, run s steps = .error x → ∃ s' st rest, I s' (st :: rest) ∧ step s' st = .error x) := by
  intro steps
  induction steps with
  | nil => intro s _; exact ⟨(fun out h p hp => by cases h; cases hp), nofun⟩
  | cons st rest ih =>
    intro s hi
    cases hs : step s st with
    | error x =>
      have hr : run s (st :: rest) = .error x := by simp only [run, hs, bind, Except.bind]
      rw [hr]
      exact ⟨nofun, fun y h => by cases h; exact ⟨s, st, rest, hi, hs⟩⟩
    | ok v =>
      obtain ⟨s', e⟩ := v
      have hi' := hstep s st rest s' e hi hs
      obtain ⟨ih1, ih2⟩ := ih s' hi'
      cases hr : run s' rest with
      | error x =>
        have : run s (st :: rest) = .error x := by simp only [run, hs, hr, bind, Except.bind]
        rw [this]
        exact ⟨nofun, fun y h => by cases h; exact ih2 x hr⟩
      | ok tl =>
        have : run s (st :: rest) = .ok ((s', e) :: tl) := by simp only [run, hs, hr, bind, Except.bind, pure, Except.pure]
        rw [this]
        refine ⟨fun out h p hp => ?_, nofun⟩
        cases h
        rcases List.mem_cons.mp hp with rfl | hp'
        · exact ⟨rest, hi'⟩
        · exact ih1 tl hr p hp'

/-- `run_ind` for an invariant of the state alone, kept by the steps of a class -/
theorem run_inv (I : St → Prop) (P : Step → Bool)
    (hstep : ∀ s st s' e, P st = true → I s → step s st = .ok (s', e) → I s') (steps : List Step) :
    ∀ s out, I s → (∀ st ∈ steps, P st = true) → run s steps = .ok out → ∀ p ∈ out, I p.1 := by
  intro s out hi hq h p hp
  obtain ⟨_, h', _⟩ := (run_ind (fun s steps => I s ∧ ∀ st ∈ steps, P st = true)
    (fun s st rest s' e hi hs => ⟨hstep s st s' e (hi.2 st List.mem_cons_self) hi.1 hs,
      fun x hx => hi.2 x (List.mem_cons_of_mem _ hx)⟩) steps s ⟨hi, hq⟩).1 out h p hp
  exact h'

theorem settled_run (steps : List Step) (s : St) (hs : Settled s) (hq : ∀ st ∈ steps, quiet st = true) :
    ∃ out, run s steps = .ok out ∧ ∀ p ∈ out, Settled p.1 := by
  obtain ⟨hok, herr⟩ := run_ind (fun s steps => Settled s ∧ ∀ st ∈ steps, quiet st = true)
    (fun s st rest s' e hi h => by
      obtain ⟨_, _, h', hs'⟩ := settled_step s st (hi.2 st List.mem_cons_self) hi.1
      cases h'.symm.trans h
      exact ⟨hs', fun x hx => hi.2 x (List.mem_cons_of_mem _ hx)⟩) steps s ⟨hs, hq⟩
  cases hr : run s steps with
  | ok out => exact ⟨out, rfl, fun p hp => let ⟨_, h, _⟩ := hok out hr p hp; h⟩
  | error x =>
    -- a quiet step from a settled state does not fail
    obtain ⟨s', st, rest, hi, hx⟩ := herr x hr
    obtain ⟨_, _, h', _⟩ := settled_step s' st (hi.2 st List.mem_cons_self) hi.1
    cases h'.symm.trans hx

/-! ### NodeClaims created in mid-history -/

/-- the drift reason `NodePoolDrifted` -/
def NPD : String := Karp.Gen.C15Drift.reasonNodePoolDrifted

theorem isDrifted_NPD (s : St) (c : Claim) (k : Bool) (h : isDrifted s c = .ok (.reason NPD, k)) :
    staticDrifted s.pool.ann c.ann = true ∨ s.prov.drift = NPD := by
  have key : ∀ r b, (pure (Verdict.reason r, b) : Except NewErr (Verdict × Bool)) = .ok (.reason NPD, k) → r = NPD :=
    fun r b e => by cases e; rfl
  unfold isDrifted at h
  cases hq : requirementsDrifted (s.pool.pool.template.requirements.getD []) c.labels with
  | error x => rw [hq] at h; cases h
  | ok b =>
    rw [hq] at h
    dsimp only [bind, Except.bind] at h
    by_cases hs : staticDrifted s.pool.ann c.ann = true
    · exact Or.inl hs
    · right
      rw [if_neg hs] at h
      -- the remaining answers in order: RequirementsDrifted, an error, InstanceTypeNotFound, an error, the provider's
      split at h
      · exact absurd (key _ _ h) (by decide)
      · split at h
        · cases h
        · split at h
          · exact absurd (key _ _ h) (by decide)
          · split at h
            · cases h
            · exact key _ _ h

/-- what one step may do to the Drifted condition of a NodeClaim: keep it, clear it, set another reason — or set
    `NodePoolDrifted`, which only a reconcile does, and only if `areStaticFieldsDrifted` says so (or the provider answers
    with that very reason) -/
def DriftedBy (s : St) (isReconcile : Bool) (c c' : Claim) : Prop :=
  c'.drifted = c.drifted ∨ c'.drifted = none ∨
  (c'.drifted = some NPD ∧ isReconcile = true ∧ (staticDrifted s.pool.ann c.ann = true ∨ s.prov.drift = NPD)) ∨
  (∃ r, c'.drifted = some r ∧ r ≠ NPD)

theorem driftReconcile_cases (s : St) (c c' : Claim) (e k : Bool) (h : driftReconcile s c = .ok (c', e, k)) :
    c'.name = c.name ∧ c'.ann = c.ann ∧ c'.labels = c.labels ∧ DriftedBy s true c c' := by
  unfold driftReconcile at h
  split at h
  · cases h; exact ⟨rfl, rfl, rfl, Or.inr (Or.inl rfl)⟩
  · cases hi : isDrifted s c with
    | error x => rw [hi] at h; cases h
    | ok v =>
      obtain ⟨vd, cached⟩ := v
      rw [hi] at h
      cases vd with
      | error => cases h; exact ⟨rfl, rfl, rfl, Or.inl rfl⟩
      | reason r =>
        simp only [bind, Except.bind] at h
        split at h
        · cases h; exact ⟨rfl, rfl, rfl, Or.inr (Or.inl rfl)⟩
        · cases h
          refine ⟨rfl, rfl, rfl, ?_⟩
          by_cases hn : r = NPD
          · subst hn; exact Or.inr (Or.inr (Or.inl ⟨rfl, rfl, isDrifted_NPD s c _ hi⟩))
          · exact Or.inr (Or.inr (Or.inr ⟨r, rfl, hn⟩))

/-- steps that neither edit the NodePool's spec nor overwrite a NodeClaim's annotations (creations, hash-controller runs,
    reconciles, label / Launched / provider / clock changes, deletion of the NodePool, tampering with the NodePool's own
    annotations) -/
def keepsStamp : Step → Bool
  | .editPool _ => false
  | .setAnn (some _) _ _ => false
  | _ => true

/-- how one step that keeps the stamps relates the NodeClaims after it to those before it -/
def Effect (s : St) (isReconcile : Bool) (c' : Claim) : Prop :=
  (c'.ann = stampOf s.pool.pool ∧ c'.drifted = none) ∨
  ∃ c ∈ s.claims, c'.name = c.name ∧ (c.ann = stampOf s.pool.pool → c'.ann = c.ann) ∧ DriftedBy s isReconcile c c'

def isReconcile : Step → Bool
  | .reconcile _ => true
  | _ => false

theorem effect_same (s : St) (b : Bool) : ∀ c ∈ s.claims, Effect s b c :=
  fun c hc => Or.inr ⟨c, hc, rfl, fun _ => rfl, Or.inl rfl⟩

theorem effect_upd (s : St) (n : String) (f : Claim → Claim) (hn : ∀ c, (f c).name = c.name) (ha : ∀ c, (f c).ann = c.ann)
    (hd : ∀ c, (f c).drifted = c.drifted) (b : Bool) : ∀ c' ∈ (updClaim s n f).claims, Effect s b c' := by
  intro c' hc'
  obtain ⟨c, hc, rfl⟩ := List.mem_map.mp hc'
  split
  · exact Or.inr ⟨c, hc, hn c, fun _ => ha c, Or.inl (hd c)⟩
  · exact effect_same s b c hc

theorem migrateClaim_current (h : String) (c : Claim) (hv : c.ann.version = some currentVersion) : migrateClaim h c = c := by
  unfold migrateClaim
  simp [hv]

theorem hashReconcile_effect (s : St) :
    (hashReconcile s).pool.pool = s.pool.pool ∧ ∀ c' ∈ (hashReconcile s).claims, Effect s false c' := by
  unfold hashReconcile
  split
  · exact ⟨rfl, effect_same s _⟩
  · refine ⟨rfl, fun c' hc' => ?_⟩
    dsimp only at hc'
    split at hc'
    · obtain ⟨c, hc, rfl⟩ := List.mem_map.mp hc'
      split
      · refine Or.inr ⟨c, hc, ?_, fun ht => by rw [migrateClaim_current _ c (by rw [ht]; rfl)], Or.inl ?_⟩ <;>
          (unfold migrateClaim; split <;> rfl)
      · exact effect_same s _ c hc
    · exact effect_same s _ c' hc'

theorem createClaim_ok (s s' : St) (n : String) (r p : Labels) (l : Bool) (h : createClaim s n r p l = .ok s') :
    if (!s.pool.present || s.claims.any (·.name == n)) = true then s' = s
    else ∃ c : Claim, s' = { s with claims := s.claims ++ [c] } ∧ c.name = n ∧ c.ann = stampOf s.pool.pool ∧
      c.drifted = none := by
  revert h
  fun_cases createClaim s n r p l
  case case1 hg => intro h; cases h; exact (if_pos hg).mpr rfl
  case case2 => intro h; cases h
  case case3 hg _ _ =>
    intro h
    rw [if_neg hg]
    cases hb : buildReqs (s.pool.pool.template.requirements.getD []) with
    | error x => rw [hb] at h; cases h
    | ok R => rw [hb] at h; cases h; exact ⟨_, rfl, rfl, rfl, rfl⟩

theorem step_create_ok (s s' : St) (n : String) (r p : Labels) (l e : Bool)
    (h : step s (.create n r p l) = .ok (s', e)) : createClaim s n r p l = .ok s' := by
  simp only [step, bind, Except.bind] at h
  cases hc : createClaim s n r p l with
  | error x => rw [hc] at h; cases h
  | ok s1 => rw [hc] at h; cases h; rfl

theorem step_effect (s s' : St) (st : Step) (e : Bool) (h : step s st = .ok (s', e)) (hk : keepsStamp st = true) :
    s'.pool.pool = s.pool.pool ∧ ∀ c' ∈ s'.claims, Effect s (isReconcile st) c' := by
  cases st with
  | editPool p => cases hk
  | deletePool => cases h; exact ⟨rfl, effect_same s _⟩
  | hashctl => cases h; exact hashReconcile_effect s
  | setLabel n k v =>
    cases h
    exact ⟨rfl, effect_upd s n (fun c => { c with labels := setKV c.labels k v }) (fun _ => rfl) (fun _ => rfl) (fun _ => rfl) _⟩
  | setAnn t isHash v =>
    cases t with
    | some n => cases hk
    | none => cases h; split <;> exact ⟨rfl, effect_same s _⟩
  | setLaunched n v =>
    cases h
    exact ⟨rfl, effect_upd s n (fun c => { c with launched := v }) (fun _ => rfl) (fun _ => rfl) (fun _ => rfl) _⟩
  | setProv p => cases h; exact ⟨rfl, effect_same s _⟩
  | advance ns => cases h; exact ⟨rfl, effect_same s _⟩
  | reconcile n =>
    rcases reconcileClaim_ok s s' n e h with rfl | ⟨c, hcm, c1, cached, hd, rfl⟩
    · exact ⟨rfl, effect_same _ _⟩
    · obtain ⟨g1, g2, _, g4⟩ := driftReconcile_cases s c c1 e cached hd
      refine ⟨rfl, fun x' hx' => ?_⟩
      obtain ⟨x, hx, rfl⟩ := List.mem_map.mp hx'
      by_cases hxn : (x.name == n) = true
      · rw [if_pos hxn]
        exact Or.inr ⟨c, hcm, g1, fun _ => g2, g4⟩
      · rw [if_neg hxn]; exact effect_same s _ x hx
  | create n res pl l =>
    have hc := createClaim_ok s s' n res pl l (step_create_ok s s' n res pl l e h)
    split at hc
    · rw [hc]; exact ⟨rfl, effect_same s _⟩
    · obtain ⟨c, rfl, _, ha, hd⟩ := hc
      refine ⟨rfl, fun c' hc' => ?_⟩
      rcases List.mem_append.mp hc' with hc' | hc'
      · exact effect_same s _ c' hc'
      · rw [List.mem_singleton.mp hc']; exact Or.inl ⟨ha, hd⟩

/-- the NodeClaim named `n`, if there is one, carries the stamp of the NodePool's present template -/
def Tracks (s : St) (n : String) : Prop := ∀ c ∈ s.claims, c.name = n → c.ann = stampOf s.pool.pool

theorem tracks_step (s s' : St) (st : Step) (e : Bool) (n : String) (h : step s st = .ok (s', e))
    (hk : keepsStamp st = true) (ht : Tracks s n) : Tracks s' n := by
  obtain ⟨hp, he⟩ := step_effect s s' st e h hk
  intro c' hc' hn
  rw [hp]
  rcases he c' hc' with ⟨ha, _⟩ | ⟨c, hc, hname, hann, _⟩
  · exact ha
  · have hcn : c.name = n := by rw [← hname]; exact hn
    have := ht c hc hcn
    rw [hann this]; exact this

theorem tracks_run (n : String) (steps : List Step) (s : St) (ht : Tracks s n) (hq : ∀ st ∈ steps, keepsStamp st = true)
    (out : List (St × Bool)) (h : run s steps = .ok out) : ∀ p ∈ out, Tracks p.1 n :=
  run_inv (Tracks · n) keepsStamp (fun s st s' e hk ht h => tracks_step s s' st e n h hk ht) steps s out ht hq h

/-! ### Several NodeClaims built from one NodePool object (`static.provisioning`, `StaticDrift`, repeated
`NewNodeClaimTemplate`): creations leave the NodePool alone -/

/-- one creation of a batch: the way, the name, the outcome of the `Any()` calls, the provider's labels, Launched -/
abbrev Creation := Via × String × Labels × Labels × Bool

def batchSteps (s : St) (b : List Creation) : List Step :=
  b.map (fun c => createStep s c.1 c.2.1 c.2.2.1 c.2.2.2.1 c.2.2.2.2)

def creationStep : Step → Bool
  | .create _ _ _ _ => true
  | .advance ns => ns == 0
  | _ => false

theorem createClaim_leaves_nodepool (s s' : St) (n : String) (r p : Labels) (l : Bool)
    (h : createClaim s n r p l = .ok s') : s'.pool = s.pool ∧ s'.nodeClass = s.nodeClass := by
  have hc := createClaim_ok s s' n r p l h
  split at hc
  · rw [hc]; exact ⟨rfl, rfl⟩
  · obtain ⟨c, rfl, _⟩ := hc; exact ⟨rfl, rfl⟩

theorem creationStep_leaves_nodepool (s s' : St) (st : Step) (e : Bool) (hc : creationStep st = true)
    (h : step s st = .ok (s', e)) : s'.pool = s.pool ∧ s'.nodeClass = s.nodeClass := by
  cases st with
  | create n r p l => exact createClaim_leaves_nodepool s s' n r p l (step_create_ok s s' n r p l e h)
  | advance ns => cases h; exact ⟨rfl, rfl⟩
  | _ => cases hc

theorem creationStep_createStep (s : St) (c : Creation) :
    creationStep (createStep s c.1 c.2.1 c.2.2.1 c.2.2.2.1 c.2.2.2.2) = true := by
  unfold createStep
  split <;> simp [creationStep]

theorem creationStep_keepsStamp (st : Step) (h : creationStep st = true) : keepsStamp st = true := by
  cases st <;> simp_all [creationStep, keepsStamp]

/-! ### Timely histories

Once the hash controller has run, the NodePool's annotation stays up to date with its template until the NodePool is
edited or its annotations are tampered with. -/

/-- `Tracks s n`, and the NodeClaim named `n` is not reported `NodePoolDrifted` -/
def Calm (s : St) (n : String) : Prop :=
  ∀ c ∈ s.claims, c.name = n → c.ann = stampOf s.pool.pool ∧ c.drifted ≠ some NPD

/-- the disruption controller looks at NodeClaims only while the NodePool's annotation is up to date with its template
    (the hash controller has run since the last edit), and the provider does not answer with the reason `NodePoolDrifted` -/
def timely (s : St) : Step → Bool
  | .reconcile _ => decide (s.pool.ann = stampOf s.pool.pool) && s.prov.drift != NPD
  | _ => true

theorem calm_step (s s' : St) (st : Step) (e : Bool) (n : String) (h : step s st = .ok (s', e))
    (hk : keepsStamp st = true) (htm : timely s st = true) (hc : Calm s n) : Calm s' n := by
  obtain ⟨hp, he⟩ := step_effect s s' st e h hk
  intro c' hc' hn
  rw [hp]
  rcases he c' hc' with ⟨ha, hd⟩ | ⟨c, hcm, hname, hann, hdr⟩
  · exact ⟨ha, by rw [hd]; simp⟩
  · have hcn : c.name = n := by rw [← hname]; exact hn
    obtain ⟨g1, g2⟩ := hc c hcm hcn
    refine ⟨by rw [hann g1]; exact g1, ?_⟩
    rcases hdr with g | g | ⟨_, hrec, hcause⟩ | ⟨r, g, hr⟩
    · rw [g]; exact g2
    · rw [g]; simp
    · cases st <;> simp only [isReconcile, Bool.false_eq_true] at hrec
      simp only [timely, Bool.and_eq_true, decide_eq_true_eq, bne_iff_ne, ne_eq] at htm
      obtain ⟨hann', hprov⟩ := htm
      rcases hcause with hs | hs
      · rw [hann', g1, staticDrifted_self] at hs; cases hs
      · exact absurd hs hprov
    · rw [g]; intro hx; injection hx with hx; exact hr hx

/-- a history of stamp-keeping steps in which every reconcile is timely -/
def timelyRun : St → List Step → Bool
  | _, [] => true
  | s, st :: rest => keepsStamp st && timely s st &&
      (match step s st with
       | .ok (s', _) => timelyRun s' rest
       | .error _ => true)

theorem timelyRun_cons (s : St) (st : Step) (rest : List Step) (hk : keepsStamp st = true) (ht : timely s st = true)
    (h : ∀ s' e, step s st = .ok (s', e) → timelyRun s' rest = true) : timelyRun s (st :: rest) = true := by
  simp only [timelyRun, hk, ht, Bool.and_self, Bool.true_and]
  cases hs : step s st with
  | error x => rfl
  | ok v => exact h v.1 v.2 hs

theorem calm_run (n : String) (steps : List Step) (s : St) (hc : Calm s n) (hq : timelyRun s steps = true)
    (out : List (St × Bool)) (h : run s steps = .ok out) : ∀ p ∈ out, Calm p.1 n := by
  intro p hp
  obtain ⟨_, h', _⟩ := (run_ind (fun s steps => Calm s n ∧ timelyRun s steps = true)
    (fun s st rest s' e hi hs => by
      have hq := hi.2
      simp only [timelyRun, hs, Bool.and_eq_true] at hq
      exact ⟨calm_step s s' st e n hs hq.1.1 hq.1.2 hi.1, hq.2⟩) steps s ⟨hc, hq⟩).1 out h p hp
  exact h'

/-- what `timely` asks of the state in which a NodeClaim is reconciled -/
def UpToDate (s : St) : Prop := s.pool.ann = stampOf s.pool.pool ∧ s.prov.drift ≠ NPD

/-- steps that edit neither the NodePool's spec, nor an annotation, nor the provider's answers -/
def leavesPool : Step → Bool
  | .editPool _ | .setAnn _ _ _ | .setProv _ => false
  | _ => true

theorem upToDate_step (s s' : St) (st : Step) (e : Bool) (h : step s st = .ok (s', e)) (hl : leavesPool st = true)
    (hu : UpToDate s) : UpToDate s' := by
  cases st with
  | editPool | setAnn | setProv => cases hl
  | deletePool | setLabel | setLaunched | advance => cases h; exact hu
  | hashctl =>
    cases h
    unfold hashReconcile
    split
    · exact hu
    · exact ⟨rfl, hu.2⟩
  | reconcile n => rcases reconcileClaim_ok s s' n e h with rfl | ⟨_, _, _, _, _, rfl⟩ <;> exact hu
  | create n r p l =>
    have hc := createClaim_ok s s' n r p l (step_create_ok s s' n r p l e h)
    split at hc
    · rw [hc]; exact hu
    · obtain ⟨c, rfl, _⟩ := hc; exact hu

/-- the hash controller has run since the last edit: whatever else happens, every later reconcile is timely -/
theorem timelyRun_of_upToDate (steps : List Step) : ∀ s, UpToDate s → (∀ st ∈ steps, leavesPool st = true) →
    timelyRun s steps = true := by
  induction steps with
  | nil => intros; rfl
  | cons st rest ih =>
    intro s hu hl
    have hst := hl st List.mem_cons_self
    refine timelyRun_cons s st rest ?_ ?_ fun s' e hs =>
      ih s' (upToDate_step s s' st e hs hst hu) fun x hx => hl x (List.mem_cons_of_mem _ hx)
    · cases st <;> first | rfl | cases hst
    · cases st <;> simp [timely, hu.1, hu.2]

end Karp.Drift
