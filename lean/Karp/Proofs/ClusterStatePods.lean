/-
C11 helper lemmas: the invariant of the pod layer (every state node accounts exactly the pods it has to, `PodInv`) and its
preservation by the pod operations of the cache (with the repairs `PodFix`).
-/
import Karp.Proofs.ClusterStateRebuild

namespace Karp.ClusterState
open Cluster Karp.Spec.ClusterAbs

/-- the repairs the pod layer needs; the field letters are those of the defect witnesses in `Props/C11`:
    `d`: `cleanupNode` drops the pod aggregates of a state node that keeps only its NodeClaim (else they outlive the Node);
    `e`: `updateNodeUsageFromPod` forgets the old binding of a pod that is now unbound (else the old node keeps its usage);
    `a`: `newStateFromNodeClaim` carries `podDisruptionCosts` (else a NodeClaim reconcile loses the costs). -/
structure PodFix (fx : Fixes) : Prop where
  d : fx.nodeGoneResets = true
  e : fx.rebindForgets = true
  a : carriedC fx "podDisruptionCosts" = true

theorem podFix_all : PodFix Fixes.all := ⟨rfl, rfl, by simp [carriedC, Fixes.all]⟩

structure Good (fx : Fixes) (dsOf : String → Bool) (bindings : Map String) (api : Api) (dirty : List (String × String)) (s : SNode)
    (R : Map PodObj) : Prop where
  agg : Agg s R
  tab : TableOK dsOf R
  /-- a state node without Node accounts no pods -/
  t1 : s.node = none → R = []
  /-- an accounted pod is bound to this node -/
  t2 : ∀ k p, Map.get R k = some p → p.terminal = false ∧ ∃ v, s.node = some v ∧ p.node = v.name ∧ Map.get bindings k = some v.name
  /-- an accounted pod whose latest version has been observed is that version -/
  t3 : ∀ k p, Map.get R k = some p → ("p", k) ∉ dirty → Map.get api.pods k = some p
  /-- every live pod of the API bound to this node and observed in its latest version is accounted -/
  t4 : ∀ k p v, s.node = some v → Map.get api.pods k = some p → ("p", k) ∉ dirty → p.terminal = false → p.node = v.name →
        Map.get R k = some p
  lim : s.limits = match s.node with | some v => limitsOf v [] | none => []
  /-- with the repaired `VolumeUsage.Add` the volume union holds nothing but the volumes of the accounted pods -/
  exact : fx.volRebuild = true → VolExact s R

/-- what the pod layer needs of the object layer -/
structure NameOK (c : Cluster) : Prop where
  fwd : ∀ id s v, Map.get c.nodes id = some s → s.node = some v → Map.get c.nodeNameToPid v.name = some id ∧ v.name ≠ ""
  bwd : ∀ name id, Map.get c.nodeNameToPid name = some id → ∃ s v, Map.get c.nodes id = some s ∧ s.node = some v ∧ v.name = name

structure PodInv (fx : Fixes) (dsOf : String → Bool) (c : Cluster) (api : Api) (dirty : List (String × String)) : Prop where
  names : NameOK c
  good : ∀ id s, Map.get c.nodes id = some s → ∃ R, Good fx dsOf c.bindings api dirty s R

theorem podInv_empty (fx : Fixes) (dsOf : String → Bool) : PodInv fx dsOf {} {} [] :=
  ⟨⟨by intro id s v h; simp at h, by intro n id h; simp at h⟩, by intro id s h; simp at h⟩

/-- `""` is the key `nodeByName` falls back to for an unknown name -/
def NoEmptyKey (c : Cluster) : Prop := Map.get c.nodes "" = none

theorem nodeByName_cases {c : Cluster} (h : NameOK c) (h0 : NoEmptyKey c) (name : String) :
    (c.nodeByName name = none ∧ Map.get c.nodeNameToPid name = none) ∨
    ∃ id s v, c.nodeByName name = some (id, s) ∧ Map.get c.nodes id = some s ∧ s.node = some v ∧ v.name = name := by
  unfold Cluster.nodeByName
  rw [Map.getD_eq]
  cases hg : Map.get c.nodeNameToPid name with
  | none => left; dsimp only [Option.getD_none]; rw [h0]; exact ⟨rfl, rfl⟩
  | some id =>
    obtain ⟨s, v, hs, hv, hvn⟩ := h.bwd name id hg
    right; dsimp only [Option.getD_some]; rw [hs]; exact ⟨id, s, v, rfl, hs, hv, hvn⟩

theorem good_mono {fx : Fixes} {dsOf : String → Bool} {b b' : Map String} {api api' : Api} {d d' : List (String × String)} {s : SNode}
    {R : Map PodObj} (h : Good fx dsOf b api d s R)
    (hb : ∀ k p, Map.get R k = some p → Map.get b' k = Map.get b k)
    (h3 : ∀ k, ("p", k) ∉ d' → ("p", k) ∉ d ∧ Map.get api'.pods k = Map.get api.pods k) : Good fx dsOf b' api' d' s R := by
  refine ⟨h.agg, h.tab, h.t1, ?_, ?_, ?_, h.lim, h.exact⟩
  · intro k p hg
    obtain ⟨ht, v, hv, hn, hbk⟩ := h.t2 k p hg
    exact ⟨ht, v, hv, hn, by rw [hb k p hg]; exact hbk⟩
  · intro k p hg hd
    rw [(h3 k hd).2]; exact h.t3 k p hg (h3 k hd).1
  · intro k p v hv hg hd ht hn
    rw [(h3 k hd).2] at hg
    exact h.t4 k p v hv hg (h3 k hd).1 ht hn

def CleansOnly (d d' : List (String × String)) (k : String) : Prop := ∀ k', ("p", k') ∉ d' → k' = k ∨ ("p", k') ∉ d

theorem cleansOnly_refl (d : List (String × String)) (k : String) : CleansOnly d d k := fun _ h => Or.inr h
theorem cleansOnly_filter (d : List (String × String)) (k : String) : CleansOnly d (d.filter (· ≠ ("p", k))) k := by
  intro k' h
  by_cases hk : k' = k
  · exact Or.inl hk
  · right
    intro hm; apply h
    rw [List.mem_filter]
    refine ⟨hm, ?_⟩
    simp only [ne_eq, decide_not, Bool.not_eq_eq_eq_not, Bool.not_true, decide_eq_false_iff_not]
    intro e; exact hk (Prod.mk.inj e).2

/-- when table, bindings and dirty set move at the key `k` only, the clauses of `Good` have to be checked at `k` alone -/
theorem good_at_key {fx : Fixes} {dsOf : String → Bool} {b b' : Map String} {api : Api} {d d' : List (String × String)} {s s' : SNode}
    {R R' : Map PodObj} (h : Good fx dsOf b api d s R) (k : String) (hagg : Agg s' R') (htab : TableOK dsOf R')
    (hnode : s'.node = s.node) (hlim : s'.limits = s.limits) (h1 : s.node = none → R' = [])
    (hR : ∀ k', k' ≠ k → Map.get R' k' = Map.get R k') (hb : ∀ k', k' ≠ k → Map.get b' k' = Map.get b k')
    (hd : CleansOnly d d' k)
    (k2 : ∀ p, Map.get R' k = some p → p.terminal = false ∧ ∃ v, s.node = some v ∧ p.node = v.name ∧ Map.get b' k = some v.name)
    (k3 : ∀ p, Map.get R' k = some p → ("p", k) ∉ d' → Map.get api.pods k = some p)
    (k4 : ∀ p v, s.node = some v → Map.get api.pods k = some p → ("p", k) ∉ d' → p.terminal = false → p.node = v.name →
            Map.get R' k = some p)
    (hex : fx.volRebuild = true → VolExact s' R') :
    Good fx dsOf b' api d' s' R' := by
  refine ⟨hagg, htab, by rw [hnode]; exact h1, ?_, ?_, ?_, by rw [hnode, hlim]; exact h.lim, hex⟩
  · intro k' p hg
    rw [hnode]
    by_cases hkk : k' = k
    · rw [hkk] at hg ⊢; exact k2 p hg
    · rw [hR k' hkk] at hg; rw [hb k' hkk]; exact h.t2 k' p hg
  · intro k' p hg hdd
    by_cases hkk : k' = k
    · rw [hkk] at hg hdd ⊢; exact k3 p hg hdd
    · rw [hR k' hkk] at hg; exact h.t3 k' p hg ((hd k' hdd).resolve_left hkk)
  · intro k' p v hv hg hdd ht hn
    rw [hnode] at hv
    by_cases hkk : k' = k
    · rw [hkk] at hg hdd ⊢; exact k4 p v hv hg hdd ht hn
    · rw [hR k' hkk]; exact h.t4 k' p v hv hg ((hd k' hdd).resolve_left hkk) ht hn

theorem good_cleanup {fx : Fixes} {dsOf : String → Bool} {b b' : Map String} {api : Api} {d d' : List (String × String)} {s : SNode}
    {R : Map PodObj} (h : Good fx dsOf b api d s R) (k : String) (hb : ∀ k', k' ≠ k → Map.get b' k' = Map.get b k')
    (hd : CleansOnly d d' k)
    (hk : ∀ v p, s.node = some v → Map.get api.pods k = some p → ("p", k) ∉ d' → p.terminal = false → p.node ≠ v.name) :
    Good fx dsOf b' api d' (s.cleanupForPod k) (Map.erase R k) :=
  have gone : ∀ p, Map.get (Map.erase R k) k ≠ some p := fun p hg => by rw [Map.get_erase_self] at hg; cases hg
  good_at_key h k (hb := hb) (hd := hd)
    (hagg := (agg_cleanupForPod s R k h.agg).1) (htab := ⟨Map.noDup_erase h.tab.nd _, Map.forall_erase h.tab.named k⟩)
    (hnode := (cleanupForPod_fields s k).1) (hlim := rfl) (h1 := fun hn => by rw [h.t1 hn]; rfl)
    (hR := fun k' hk' => by rw [Map.get_erase, if_neg hk'])
    (k2 := fun p hg => absurd hg (gone p)) (k3 := fun p hg => absurd hg (gone p))
    (k4 := fun p v hv hg hdd ht hn => absurd hn (hk v p hv hg hdd ht)) (hex := fun _ => (agg_cleanupForPod s R k h.agg).2)

theorem good_update (fx : Fixes) {dsOf : String → Bool} {b b' : Map String} {api : Api} {d d' : List (String × String)} {s : SNode}
    {R : Map PodObj} (h : Good fx dsOf b api d s R) (p : PodObj) (v : NodeObj) (hv : s.node = some v)
    (hpn : p.node = v.name) (hpt : p.terminal = false) (hpd : dsOf p.name = p.ds) (hapi : Map.get api.pods p.name = some p)
    (hbk : Map.get b' p.name = some v.name) (hb : ∀ k', k' ≠ p.name → Map.get b' k' = Map.get b k')
    (hd : CleansOnly d d' p.name) :
    Good fx dsOf b' api d' (s.updateForPod fx p) (Map.put R p.name p) :=
  have new : ∀ q, Map.get (Map.put R p.name p) p.name = some q → q = p := fun q hg => by
    rw [Map.get_put_self] at hg; exact (Option.some.inj hg).symm
  good_at_key h p.name (hb := hb) (hd := hd)
    (hagg := agg_updateForPod fx s R p h.agg (fun p0 hg => by rw [← (h.tab.named p.name p0 hg).2, hpd]))
    (htab := ⟨Map.noDup_put h.tab.nd _ _, Map.forall_put h.tab.named ⟨rfl, hpd⟩⟩)
    (hnode := (updateForPod_fields fx s p).1) (hlim := rfl) (h1 := fun hn => by rw [hv] at hn; cases hn)
    (hR := fun k' hk' => by rw [Map.get_put, if_neg hk'])
    (k2 := fun q hg => by rw [new q hg]; exact ⟨hpt, v, hv, hpn, hbk⟩) (k3 := fun q hg _ => by rw [new q hg]; exact hapi)
    (k4 := fun q _ _ hg _ _ _ => by rw [hapi] at hg; rw [Map.get_put_self]; exact hg)
    (hex := fun hf => volExact_updateForPod fx s R p h.agg hf)

theorem good_absent {fx : Fixes} {dsOf : String → Bool} {b b' : Map String} {api : Api} {d d' : List (String × String)} {s : SNode}
    {R : Map PodObj} (h : Good fx dsOf b api d s R) (k : String) (hn : Map.get R k = none)
    (hb : ∀ k', k' ≠ k → Map.get b' k' = Map.get b k') (hd : CleansOnly d d' k)
    (hk : ∀ v p, s.node = some v → Map.get api.pods k = some p → ("p", k) ∉ d' → p.terminal = false → p.node ≠ v.name) :
    Good fx dsOf b' api d' s R :=
  good_at_key h k (hb := hb) (hd := hd) (hagg := h.agg) (htab := h.tab) (hnode := rfl) (hlim := rfl) (h1 := h.t1)
    (hR := fun _ _ => rfl) (k2 := fun p hg => by rw [hn] at hg; cases hg) (k3 := fun p hg => by rw [hn] at hg; cases hg)
    (k4 := fun p v hv hg hdd ht hpn => absurd hpn (hk v p hv hg hdd ht)) (hex := h.exact)

def NoEntry (c : Cluster) (k : String) : Prop := ∀ id s, Map.get c.nodes id = some s → Map.get s.podReq k = none

theorem noEntry_table {fx : Fixes} {dsOf : String → Bool} {b : Map String} {api : Api} {d : List (String × String)} {s : SNode} {R : Map PodObj}
    (h : Good fx dsOf b api d s R) (k : String) : Map.get s.podReq k = none ↔ Map.get R k = none := by
  rw [h.agg.req k]
  cases Map.get R k <;> simp

theorem entry_node {fx : Fixes} {dsOf : String → Bool} {c : Cluster} {api : Api} {d : List (String × String)} (h : PodInv fx dsOf c api d)
    {id : String} {s : SNode} {R : Map PodObj} (hs : Map.get c.nodes id = some s) (hR : Good fx dsOf c.bindings api d s R)
    {k : String} {p : PodObj} (hg : Map.get R k = some p) :
    ∃ v, s.node = some v ∧ Map.get c.bindings k = some v.name ∧ Map.get c.nodeNameToPid v.name = some id := by
  obtain ⟨_, v, hv, _, hb⟩ := hR.t2 k p hg
  exact ⟨v, hv, hb, (h.names.fwd id s v hs hv).1⟩

theorem noEntry_of_binding {fx : Fixes} {dsOf : String → Bool} {c : Cluster} {api : Api} {d : List (String × String)} (h : PodInv fx dsOf c api d)
    (k : String) (hb : Map.get c.bindings k = none ∨ ∃ M, Map.get c.bindings k = some M ∧ Map.get c.nodeNameToPid M = none) :
    NoEntry c k := by
  intro id s hs
  obtain ⟨R, hR⟩ := h.good id s hs
  rw [noEntry_table hR]
  cases hg : Map.get R k with
  | none => rfl
  | some p =>
    obtain ⟨v, _, hbk, hnn⟩ := entry_node h hs hR hg
    rcases hb with hb | ⟨M, hb, hM⟩
    · rw [hb] at hbk; simp at hbk
    · rw [hb] at hbk
      rw [← Option.some.inj hbk, hM] at hnn
      simp at hnn

theorem podInv_clean_noentry {fx : Fixes} {dsOf : String → Bool} {c : Cluster} {api : Api} {d : List (String × String)} (h : PodInv fx dsOf c api d)
    (k : String) (hne : NoEntry c k)
    (hck : ∀ id s v p, Map.get c.nodes id = some s → s.node = some v → Map.get api.pods k = some p → p.terminal = false → p.node ≠ v.name) :
    PodInv fx dsOf c api (d.filter (· ≠ ("p", k))) := by
  refine ⟨h.names, fun id s hs => ?_⟩
  obtain ⟨R, hR⟩ := h.good id s hs
  exact ⟨R, good_absent hR k ((noEntry_table hR k).mp (hne id s hs)) (fun _ _ => rfl) (cleansOnly_filter d k)
    (fun v p hv hg _ ht => hck id s v p hs hv hg ht)⟩

theorem nameOK_of_objs {c c' : Cluster} (h : NameOK c) (hnn : c'.nodeNameToPid = c.nodeNameToPid)
    (hobjs : ∀ id, (Map.get c'.nodes id).map SNode.objs = (Map.get c.nodes id).map SNode.objs) : NameOK c' := by
  refine ⟨?_, ?_⟩
  · intro id s' v hs' hv
    have ho := (hobjs id).symm
    rw [hs'] at ho
    obtain ⟨s, hs, ho⟩ := Option.map_eq_some_iff.mp ho
    rw [hnn]; exact h.fwd id s v hs (by rw [← hv]; exact congrArg Objs.node ho)
  · intro name id hg
    rw [hnn] at hg
    obtain ⟨s, v, hs, hv, hvn⟩ := h.bwd name id hg
    have ho := hobjs id
    rw [hs] at ho
    obtain ⟨s', hs', ho⟩ := Option.map_eq_some_iff.mp ho
    exact ⟨s', v, hs', by rw [← hv]; exact congrArg Objs.node ho, hvn⟩

theorem noEmptyKey_of_objs {c c' : Cluster} (h0 : NoEmptyKey c)
    (hobjs : ∀ id, (Map.get c'.nodes id).map SNode.objs = (Map.get c.nodes id).map SNode.objs) : NoEmptyKey c' := by
  have ho := hobjs ""
  rw [h0] at ho
  cases hs : Map.get c'.nodes "" with
  | none => exact hs
  | some s => rw [hs] at ho; simp at ho

/-- `updateNodeUsageFromPodCompletion` for a pod that no state node has to account -/
theorem podInv_forget {fx : Fixes} {dsOf : String → Bool} {c : Cluster} {api : Api} {d : List (String × String)} (h : PodInv fx dsOf c api d)
    (h0 : NoEmptyKey c) (k : String)
    (hck : ∀ id s v p, Map.get c.nodes id = some s → s.node = some v → Map.get api.pods k = some p → p.terminal = false → p.node ≠ v.name) :
    PodInv fx dsOf (c.podCompletion k) api (d.filter (· ≠ ("p", k))) := by
  have hpo := podCompletion_podOnly {} c k
  refine ⟨nameOK_of_objs h.names hpo.nn hpo.objs, ?_⟩
  clear hpo
  have absent : ∀ id s R, Map.get c.nodes id = some s → Good fx dsOf c.bindings api d s R → Map.get R k = none →
      Good fx dsOf (Map.erase c.bindings k) api (d.filter (· ≠ ("p", k))) s R :=
    fun id s R hs hR hn => good_absent hR k hn (fun k' hk' => by rw [Map.get_erase, if_neg hk']) (cleansOnly_filter d k)
      (fun v p hv hg _ ht => hck id s v p hs hv hg ht)
  unfold Cluster.podCompletion
  cases hb : Map.get c.bindings k with
  | none => exact (podInv_clean_noentry h k (noEntry_of_binding h k (Or.inl hb)) hck).good
  | some M =>
    dsimp only
    have hnames1 : NameOK { c with bindings := Map.erase c.bindings k } := ⟨h.names.fwd, h.names.bwd⟩
    rcases nodeByName_cases hnames1 h0 M with ⟨hnb, hM⟩ | ⟨idM, sM, vM, hnb, hsM, hvM, hvMn⟩
    · rw [hnb]
      intro id s hs
      obtain ⟨R, hR⟩ := h.good id s hs
      exact ⟨R, absent id s R hs hR ((noEntry_table hR k).mp (noEntry_of_binding h k (Or.inr ⟨M, hb, hM⟩) id s hs))⟩
    · rw [hnb]
      intro id s hs
      have hs' : Map.get (Map.put c.nodes idM (sM.cleanupForPod k)) id = some s := hs
      rw [Map.get_put] at hs'
      by_cases he : id = idM
      · rw [if_pos he] at hs'
        obtain ⟨R, hR⟩ := h.good idM sM hsM
        exact ⟨Map.erase R k, Option.some.inj hs' ▸ good_cleanup hR k (fun k' hk' => by rw [Map.get_erase, if_neg hk'])
          (cleansOnly_filter d k) (fun v p hv hg _ ht => hck idM sM v p hsM hv hg ht)⟩
      · rw [if_neg he] at hs'
        obtain ⟨R, hR⟩ := h.good id s hs'
        refine ⟨R, absent id s R hs' hR ?_⟩
        -- `k` is accounted on M's node only
        cases hg : Map.get R k with
        | none => rfl
        | some p =>
          obtain ⟨v, _, hbk, hnn⟩ := entry_node h hs' hR hg
          rw [hb] at hbk
          rw [← Option.some.inj hbk, ← hvMn, (h.names.fwd idM sM vM hsM hvM).1] at hnn
          exact absurd (Option.some.inj hnn).symm he

inductive Rebound (fx : Fixes) (p : PodObj) (d d' : List (String × String)) : Option SNode → Option SNode → Prop
  | absent : Rebound fx p d d' none none
  | updated (s : SNode) (v : NodeObj) : s.node = some v → v.name = p.node → Rebound fx p d d' (some s) (some (s.updateForPod fx p))
  | cleaned (s : SNode) : (∀ v, s.node = some v → v.name ≠ p.node) → Rebound fx p d d' (some s) (some (s.cleanupForPod p.name))
  | keptOther (s : SNode) : Map.get s.podReq p.name = none → (∀ v, s.node = some v → v.name ≠ p.node) →
      Rebound fx p d d' (some s) (some s)
  | keptSame (s : SNode) (v : NodeObj) : s.node = some v → v.name = p.node → (("p", p.name) ∉ d' → ("p", p.name) ∉ d) →
      Rebound fx p d d' (some s) (some s)

theorem Rebound.objs {fx : Fixes} {p : PodObj} {d d' : List (String × String)} {x y : Option SNode} (h : Rebound fx p d d' x y) :
    y.map SNode.objs = x.map SNode.objs := by
  cases h with
  | absent => rfl
  | updated s v _ _ => simp [objs_updateForPod]
  | cleaned s _ => simp [objs_cleanupForPod]
  | keptOther s _ _ => rfl
  | keptSame s v _ _ _ => rfl

theorem podInv_rebound (fx : Fixes) {dsOf : String → Bool} {c c' : Cluster} {api : Api} {d d' : List (String × String)}
    (h : PodInv fx dsOf c api d) (h0 : NoEmptyKey c) (p : PodObj) (hapi : Map.get api.pods p.name = some p)
    (hpt : p.terminal = false) (hpd : dsOf p.name = p.ds) (hd : CleansOnly d d' p.name)
    (hnn : c'.nodeNameToPid = c.nodeNameToPid)
    (hbk : Map.get c'.bindings p.name = some p.node) (hb : ∀ k', k' ≠ p.name → Map.get c'.bindings k' = Map.get c.bindings k')
    (hnodes : ∀ id, Rebound fx p d d' (Map.get c.nodes id) (Map.get c'.nodes id)) :
    PodInv fx dsOf c' api d' ∧ NoEmptyKey c' := by
  have hobjs := fun id => (hnodes id).objs
  refine ⟨⟨nameOK_of_objs h.names hnn hobjs, ?_⟩, noEmptyKey_of_objs h0 hobjs⟩
  have other : ∀ s : SNode, (∀ v, s.node = some v → v.name ≠ p.node) → ∀ v q, s.node = some v →
      Map.get api.pods p.name = some q → ("p", p.name) ∉ d' → q.terminal = false → q.node ≠ v.name := by
    intro s hne v q hv hq _ _ hn
    rw [hapi] at hq
    rw [← Option.some.inj hq] at hn
    exact hne v hv hn.symm
  intro id s' hs'
  have hr := hnodes id
  rw [hs'] at hr
  generalize hx : Map.get c.nodes id = x at hr
  cases hr with
  | updated s v hv hvn =>
    obtain ⟨R, hR⟩ := h.good id s hx
    exact ⟨_, good_update fx hR p v hv hvn.symm hpt hpd hapi (by rw [hvn]; exact hbk) hb hd⟩
  | cleaned s hne =>
    obtain ⟨R, hR⟩ := h.good id s hx
    exact ⟨_, good_cleanup hR p.name hb hd (other s hne)⟩
  | keptOther _ hnone hne =>
    obtain ⟨R, hR⟩ := h.good id s' hx
    exact ⟨R, good_absent hR p.name ((noEntry_table hR p.name).mp hnone) hb hd (other s' hne)⟩
  | keptSame _ v hv hvn hdd =>
    obtain ⟨R, hR⟩ := h.good id s' hx
    refine ⟨R, good_at_key hR p.name (hb := hb) (hd := hd) (hagg := hR.agg) (htab := hR.tab) (hnode := rfl) (hlim := rfl)
      (h1 := hR.t1) (hR := fun _ _ => rfl) (k2 := ?_) (k3 := fun q hq hd' => hR.t3 p.name q hq (hdd hd'))
      (k4 := fun q v' hv' hq hd' ht hn => hR.t4 p.name q v' hv' hq (hdd hd') ht hn) (hex := hR.exact)⟩
    intro q hq
    obtain ⟨ht, v', hv', hn, _⟩ := hR.t2 p.name q hq
    have hvv : v' = v := by rw [hv] at hv'; exact (Option.some.inj hv').symm
    exact ⟨ht, v', hv', hn, by rw [hvv, hvn]; exact hbk⟩

theorem cleanupOldBindings_bindings (c : Cluster) (p : PodObj) (k : String) (hk : k ≠ p.name) :
    Map.get (c.cleanupOldBindings p).bindings k = Map.get c.bindings k := by
  unfold Cluster.cleanupOldBindings
  split
  · split
    · rfl
    · split
      · exact (Map.get_erase _ _ _).trans (if_neg hk)
      · rfl
  · rfl

theorem cleanupOldBindings_cases (c : Cluster) (hN : NameOK c) (h0 : NoEmptyKey c) (p : PodObj) :
    (c.cleanupOldBindings p = c ∧ ∀ M, Map.get c.bindings p.name = some M → M = p.node ∨ Map.get c.nodeNameToPid M = none) ∨
    (∃ M idM sM vM, Map.get c.bindings p.name = some M ∧ M ≠ p.node ∧ Map.get c.nodes idM = some sM ∧ sM.node = some vM ∧
      vM.name = M ∧ c.cleanupOldBindings p =
        { c with nodes := Map.put c.nodes idM (sM.cleanupForPod p.name), bindings := Map.erase c.bindings p.name }) := by
  unfold Cluster.cleanupOldBindings
  cases hb : Map.get c.bindings p.name with
  | none => exact Or.inl ⟨rfl, fun _ e => nomatch e⟩
  | some M =>
    dsimp only
    by_cases hM : M = p.node
    · rw [if_pos hM]; exact Or.inl ⟨rfl, fun _ e => Or.inl (Option.some.inj e ▸ hM)⟩
    · rw [if_neg hM]
      rcases nodeByName_cases hN h0 M with ⟨hnb, hMn⟩ | ⟨idM, sM, vM, hnb, hsM, hvM, hvMn⟩
      · rw [hnb]; exact Or.inl ⟨rfl, fun _ e => Or.inr (Option.some.inj e ▸ hMn)⟩
      · rw [hnb]; exact Or.inr ⟨M, idM, sM, vM, rfl, hM, hsM, hvM, hvMn, rfl⟩

theorem entry_where {fx : Fixes} {dsOf : String → Bool} {c : Cluster} {api : Api} {d : List (String × String)} (h : PodInv fx dsOf c api d)
    {id : String} {s : SNode} (hs : Map.get c.nodes id = some s) (k : String) :
    Map.get s.podReq k = none ∨
      ∃ v, s.node = some v ∧ Map.get c.bindings k = some v.name ∧ Map.get c.nodeNameToPid v.name = some id := by
  obtain ⟨R, hR⟩ := h.good id s hs
  cases hg : Map.get R k with
  | none => exact Or.inl ((noEntry_table hR k).mpr hg)
  | some q => exact Or.inr (entry_node h hs hR hg)

/-- (Re)binding pod `p` to the node named `p.node`. `c1` is `c` with at most the entry of that node changed, as `Rebound`
    allows; `cleanupOldBindings` then takes the pod off the node its old binding names. No other state node accounts the
    pod: its binding names at most one node. -/
theorem podInv_rebind (fx : Fixes) {dsOf : String → Bool} {c c1 : Cluster} {api : Api} {d d' : List (String × String)}
    (h : PodInv fx dsOf c api d) (h0 : NoEmptyKey c) (p : PodObj) (hapi : Map.get api.pods p.name = some p)
    (hpt : p.terminal = false) (hpd : dsOf p.name = p.ds) (hd : CleansOnly d d' p.name)
    (hN1 : NameOK c1) (h01 : NoEmptyKey c1) (hb1 : c1.bindings = c.bindings) (hnn1 : c1.nodeNameToPid = c.nodeNameToPid)
    (hsame : ∀ id s v, Map.get c.nodes id = some s → s.node = some v → v.name = p.node →
      Rebound fx p d d' (some s) (Map.get c1.nodes id))
    (hother : ∀ id, (∀ s v, Map.get c.nodes id = some s → s.node = some v → v.name ≠ p.node) →
      Map.get c1.nodes id = Map.get c.nodes id) :
    PodInv fx dsOf { (c1.cleanupOldBindings p) with bindings := Map.put (c1.cleanupOldBindings p).bindings p.name p.node } api d' ∧
    NoEmptyKey { (c1.cleanupOldBindings p) with bindings := Map.put (c1.cleanupOldBindings p).bindings p.name p.node } := by
  have entry : ∀ id, (∀ s, Map.get c.nodes id = some s → (∀ v, s.node = some v → v.name ≠ p.node) → Map.get s.podReq p.name = none) →
      Rebound fx p d d' (Map.get c.nodes id) (Map.get c1.nodes id) := by
    intro id hnone
    by_cases hx : ∃ s v, Map.get c.nodes id = some s ∧ s.node = some v ∧ v.name = p.node
    · obtain ⟨s, v, hs, hv, hn⟩ := hx
      rw [hs]; exact hsame id s v hs hv hn
    · have hne : ∀ s v, Map.get c.nodes id = some s → s.node = some v → v.name ≠ p.node :=
        fun s v hs hv hn => hx ⟨s, v, hs, hv, hn⟩
      rw [hother id hne]
      cases hs : Map.get c.nodes id with
      | none => exact Rebound.absent
      | some s => exact Rebound.keptOther s (hnone s hs (fun v => hne s v hs)) (fun v => hne s v hs)
  refine podInv_rebound fx h h0 p hapi hpt hpd hd ((cleanupOldBindings_podOnly fx c1 p).nn.trans hnn1) (Map.get_put_self _ _ _)
    (fun k' hk' => by
      show Map.get (Map.put (c1.cleanupOldBindings p).bindings p.name p.node) k' = _
      rw [Map.get_put, if_neg hk', cleanupOldBindings_bindings c1 p k' hk', hb1])
    (fun id => ?_)
  show Rebound fx p d d' (Map.get c.nodes id) (Map.get (c1.cleanupOldBindings p).nodes id)
  rcases cleanupOldBindings_cases c1 hN1 h01 p with ⟨heq, hcase⟩ | ⟨M, idM, sM, vM, hb, hM, hsM, hvM, hvMn, heq⟩
  · rw [heq]
    apply entry id
    intro s hs hne
    rcases entry_where h hs p.name with e | ⟨v, hv, hbv, hnv⟩
    · exact e
    · exfalso
      rcases hcase v.name (hb1 ▸ hbv) with e | e
      · exact hne v hv e
      · rw [hnn1, hnv] at e; cases e
  · rw [heq]
    have hidM : Map.get c.nodeNameToPid M = some idM := by rw [← hnn1, ← hvMn]; exact (hN1.fwd idM sM vM hsM hvM).1
    obtain ⟨s0, v0, hs0, hv0, hv0n⟩ := h.names.bwd M idM hidM
    have hsMc : Map.get c.nodes idM = some sM := by
      rw [← hother idM (fun s v hs hv => by rw [hs0] at hs; rw [← Option.some.inj hs, hv0] at hv; rw [← Option.some.inj hv, hv0n]; exact hM)]
      exact hsM
    show Rebound fx p d d' (Map.get c.nodes id) (Map.get (Map.put c1.nodes idM (sM.cleanupForPod p.name)) id)
    rw [Map.get_put]
    by_cases he : id = idM
    · rw [if_pos he, he, hsMc]
      apply Rebound.cleaned
      intro v hv
      rw [hvM] at hv
      rw [← Option.some.inj hv, hvMn]; exact hM
    · rw [if_neg he]
      apply entry id
      intro s hs _
      rcases entry_where h hs p.name with e | ⟨v, hv, hbv, hnv⟩
      · exact e
      · exfalso
        rw [← hb1, hb] at hbv
        rw [← Option.some.inj hbv, hidM] at hnv
        exact he (Option.some.inj hnv).symm

/-- one iteration of `populateResourceRequests`: the pod itself is added to the state node under construction, which is
    not part of the cluster yet -/
theorem podInv_populate_step (fx : Fixes) {dsOf : String → Bool} {c : Cluster} {api : Api} {d : List (String × String)}
    (h : PodInv fx dsOf c api d) (h0 : NoEmptyKey c) (p : PodObj) (hapi : Map.get api.pods p.name = some p)
    (hpt : p.terminal = false) (hpd : dsOf p.name = p.ds) :
    PodInv fx dsOf { (c.cleanupOldBindings p) with bindings := Map.put (c.cleanupOldBindings p).bindings p.name p.node } api d ∧
    NoEmptyKey { (c.cleanupOldBindings p) with bindings := Map.put (c.cleanupOldBindings p).bindings p.name p.node } :=
  podInv_rebind fx h h0 p hapi hpt hpd (cleansOnly_refl d p.name) h.names h0 rfl rfl
    (fun id s v hs hv hn => by rw [hs]; exact Rebound.keptSame s v hv hn (fun x => x)) (fun _ _ => rfl)

theorem podInv_populate {dsOf : String → Bool} {api : Api} {d : List (String × String)} (fx : Fixes) (hapi : PodsOK dsOf api)
    (nodeName : String) (pods : List PodObj) (hsub : ∀ p ∈ pods, p ∈ Map.vals api.pods) (hnd : (pods.map (·.name)).Nodup) :
    ∀ (c : Cluster) (n : SNode), PodInv fx dsOf c api d → NoEmptyKey c →
      PodInv fx dsOf (c.populate fx n nodeName pods).1 api d ∧ NoEmptyKey (c.populate fx n nodeName pods).1 ∧
      (∀ p ∈ pods, onNode nodeName p = true → Map.get (c.populate fx n nodeName pods).1.bindings p.name = some nodeName) ∧
      (∀ k, (∀ p ∈ pods, p.name ≠ k) → Map.get (c.populate fx n nodeName pods).1.bindings k = Map.get c.bindings k) := by
  induction pods with
  | nil => intro c n h h0; exact ⟨h, h0, by intro p hp; simp at hp, fun _ _ => rfl⟩
  | cons p ps ih =>
    intro c n h h0
    rw [List.map_cons, List.nodup_cons] at hnd
    have hsub' : ∀ q ∈ ps, q ∈ Map.vals api.pods := fun q hq => hsub q (List.mem_cons_of_mem _ hq)
    unfold Cluster.populate
    by_cases hon : (decide (p.node = nodeName) && !p.terminal) = true
    · rw [if_pos hon]
      have hon := (onNode_iff nodeName p).mp hon
      obtain ⟨k, hk⟩ := mem_vals_get hapi.nd (hsub p List.mem_cons_self)
      have hnamed := hapi.named k p hk
      have hg : Map.get api.pods p.name = some p := by rw [hnamed.1]; exact hk
      have hst := podInv_populate_step fx h h0 p hg hon.2 (by rw [hnamed.1]; exact hnamed.2)
      have := ih hsub' hnd.2 { (c.cleanupOldBindings p) with bindings := Map.put (c.cleanupOldBindings p).bindings p.name p.node }
        (n.updateForPod fx p) hst.1 hst.2
      refine ⟨this.1, this.2.1, ?_, ?_⟩
      · intro q hq hqon
        rcases List.mem_cons.mp hq with e | hq'
        · rw [e]
          rw [this.2.2.2 p.name]
          · show Map.get (Map.put (c.cleanupOldBindings p).bindings p.name p.node) p.name = _
            rw [Map.get_put_self, hon.1]
          · intro q' hq' e'
            apply hnd.1
            rw [← e']
            exact List.mem_map_of_mem hq'
        · exact this.2.2.1 q hq' hqon
      · intro k' hk'
        rw [this.2.2.2 k' (fun q hq => hk' q (List.mem_cons_of_mem _ hq))]
        show Map.get (Map.put (c.cleanupOldBindings p).bindings p.name p.node) k' = _
        have hne : k' ≠ p.name := fun e => hk' p List.mem_cons_self e.symm
        rw [Map.get_put, if_neg hne, cleanupOldBindings_bindings c p k' hne]
    · rw [if_neg hon]
      have := ih hsub' hnd.2 c n h h0
      refine ⟨this.1, this.2.1, ?_, ?_⟩
      · intro q hq hqon
        rcases List.mem_cons.mp hq with e | hq'
        · rw [e] at hqon; exact absurd hqon hon
        · exact this.2.2.1 q hq' hqon
      · intro k' hk'
        exact this.2.2.2 k' (fun q hq => hk' q (List.mem_cons_of_mem _ hq))

/-- `updateNodeUsageFromPod` for a pod bound to a tracked node -/
theorem podInv_update (fx : Fixes) {dsOf : String → Bool} {c : Cluster} {api : Api} {d : List (String × String)}
    (h : PodInv fx dsOf c api d) (h0 : NoEmptyKey c) (p : PodObj) (hapi : Map.get api.pods p.name = some p)
    (hpt : p.terminal = false) (hpd : dsOf p.name = p.ds) (id : String) (sn : SNode) (vN : NodeObj)
    (hsn : Map.get c.nodes id = some sn) (hvN : sn.node = some vN) (hvNn : vN.name = p.node) :
    let c1 : Cluster := { c with nodes := Map.put c.nodes id (sn.updateForPod fx p) }
    PodInv fx dsOf { (c1.cleanupOldBindings p) with bindings := Map.put (c1.cleanupOldBindings p).bindings p.name p.node } api
        (d.filter (· ≠ ("p", p.name))) ∧
    NoEmptyKey { (c1.cleanupOldBindings p) with bindings := Map.put (c1.cleanupOldBindings p).bindings p.name p.node } := by
  intro c1
  have hget1 : ∀ id', Map.get c1.nodes id' = if id' = id then some (sn.updateForPod fx p) else Map.get c.nodes id' :=
    fun id' => Map.get_put _ _ _ _
  have hpo : PodOnly fx c c1 := podOnly_touch hsn (.upd p .refl) rfl rfl rfl rfl rfl
  refine podInv_rebind fx h h0 p hapi hpt hpd (cleansOnly_filter d p.name) (nameOK_of_objs h.names rfl hpo.objs)
    (noEmptyKey_of_objs h0 hpo.objs) rfl rfl ?_ ?_
  · intro id' s v hs hv hn
    have h1 := (h.names.fwd id' s v hs hv).1
    rw [hn, ← hvNn, (h.names.fwd id sn vN hsn hvN).1] at h1
    have he : id' = id := (Option.some.inj h1).symm
    rw [hget1, if_pos he]
    rw [he, hsn] at hs
    exact Option.some.inj hs ▸ Rebound.updated sn vN hvN hvNn
  · intro id' hne
    rw [hget1, if_neg (fun e : id' = id => hne sn vN (by rw [e]; exact hsn) hvN hvNn)]

end Karp.ClusterState
