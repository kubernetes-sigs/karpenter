/-
C11 helper lemmas: what the object-layer invariant says once every changed object has been reconciled.
-/
import Karp.Proofs.ClusterStateRun

namespace Karp.ClusterState
open Karp.Spec.ClusterAbs

/-- the three maps of the api have no duplicate keys -/
structure ApiND (api : Api) : Prop where
  nodes : Map.NoDup api.nodes
  claims : Map.NoDup api.claims
  pods : Map.NoDup api.pods

theorem apiND_empty : ApiND {} := ⟨Map.noDup_nil, Map.noDup_nil, Map.noDup_nil⟩

theorem apiND_step {api : Api} (h : ApiND api) (e : Event) : ApiND (api.step e) := by
  cases e with
  | setNode n => exact ⟨Map.noDup_put h.nodes _ _, h.claims, h.pods⟩
  | delNode k => exact ⟨Map.noDup_erase h.nodes _, h.claims, h.pods⟩
  | setClaim c => exact ⟨h.nodes, Map.noDup_put h.claims _ _, h.pods⟩
  | delClaim k => exact ⟨h.nodes, Map.noDup_erase h.claims _, h.pods⟩
  | setPod p => exact ⟨h.nodes, h.claims, Map.noDup_put h.pods _ _⟩
  | delPod k => exact ⟨h.nodes, h.claims, Map.noDup_erase h.pods _⟩
  | recNode _ | recClaim _ | recPod _ | mark _ | unmark _ | nominate _ => exact h

theorem apiND_run (es : List Event) : ∀ api, ApiND api → ApiND (apiRun api es) := by
  induction es with
  | nil => intro api h; exact h
  | cons e es ih => intro api h; exact ih _ (apiND_step h e)

theorem Map.mem_vals {α : Type} {m : Map α} {v : α} (h : v ∈ Map.vals m) : ∃ k, (k, v) ∈ m := by
  unfold Map.vals at h
  rw [List.mem_map] at h
  obtain ⟨e, he, hv⟩ := h
  exact ⟨e.1, by rw [← hv]; exact he⟩

theorem mem_vals_get {α : Type} {m : Map α} (hn : Map.NoDup m) {v : α} (hm : v ∈ Map.vals m) : ∃ k, Map.get m k = some v := by
  obtain ⟨k, hk⟩ := Map.mem_vals hm
  exact ⟨k, Map.get_of_mem hn hk⟩

theorem Map.mem_vals_of_get {α : Type} {m : Map α} {k : String} {v : α} (h : Map.get m k = some v) : v ∈ Map.vals m :=
  List.mem_map.mpr ⟨(k, v), Map.mem_of_get h, rfl⟩

/-- what `find?` returns, read through `f`, from the two inclusions (all elements with `p` agree under `f`) -/
theorem find_map_eq {α β : Type} (l : List α) (p : α → Bool) (f : α → β) (x : Option β)
    (hin : ∀ v ∈ l, p v = true → x = some (f v)) (hback : ∀ b, x = some b → ∃ v ∈ l, p v = true ∧ f v = b) :
    (l.find? p).map f = x := by
  cases hf : l.find? p with
  | some v => exact (hin v (List.mem_of_find?_eq_some hf) (List.find?_some hf)).symm
  | none =>
    cases x with
    | none => rfl
    | some b =>
      obtain ⟨v, hm, hp, _⟩ := hback b rfl
      rw [List.find?_eq_none] at hf
      exact absurd hp (hf v hm)

def absObjs (a : AbsNode) : Objs := ⟨a.node?, a.claim?, a.marked, a.nominated⟩

theorem absNodeAt_objs (api : Api) (g : Ghost) (pid : String) :
    (absNodeAt api g pid).map absObjs =
      (match (api.nodes.vals.find? (fun n => nodeKey n = some pid)).map nodeStored,
             api.claims.vals.find? (fun c => claimKey c = some pid) with
       | none, none => none
       | n, c => some ⟨n, c, g.marked.contains pid, g.nominated.contains pid⟩) := by
  unfold absNodeAt
  dsimp only
  cases (api.nodes.vals.find? (fun n => nodeKey n = some pid)).map nodeStored <;>
    cases api.claims.vals.find? (fun c => claimKey c = some pid) <;> rfl

theorem claimKey_some {cl : ClaimObj} {pid : String} (h : claimKey cl = some pid) : cl.managed = true ∧ cl.pid = pid ∧ pid ≠ "" := by
  unfold claimKey at h
  split at h
  · rename_i hc
    simp only [Bool.and_eq_true, decide_eq_true_eq] at hc
    have := Option.some.inj h
    exact ⟨hc.1, this, by rw [← this]; exact hc.2⟩
  · simp at h

/-- **once every changed object has been reconciled, the cache holds under every provider id exactly the latest Node and
    NodeClaim carrying that id, with the ghost's marks** -/
theorem quiescent_objects {w : Owners} {o : OC} {api : Api} {g : Ghost} (h : OInv w o api g) (hapi : ApiOK w api)
    (hnd : ApiND api) (hq : g.dirty = []) (pid : String) :
    Map.get o.nodes pid = (absNodeAt api g pid).map absObjs := by
  have hcn : ∀ name, NodeCons o api name := fun name => h.cn name (by rw [hq]; simp)
  have hcc : ∀ name, ClaimCons o api name := fun name => h.cc name (by rw [hq]; simp)
  rw [absNodeAt_objs]
  have nodePart : (api.nodes.vals.find? (fun n => nodeKey n = some pid)).map nodeStored = (Map.get o.nodes pid).bind (·.node) := by
    apply find_map_eq
    · intro v hm hk
      obtain ⟨k, hkm⟩ := Map.mem_vals hm
      obtain ⟨s, hs, hv⟩ := (hcn k).tracked (Map.get_of_mem hnd.nodes hkm) (of_decide_eq_true hk)
      rw [hs, Option.bind_some, hv]
    · intro v hv
      obtain ⟨s, hs, hv⟩ := Option.bind_eq_some_iff.mp hv
      have hb := h.st.nb pid s v hs hv
      -- the API's Node of that name is stored under its key `k`, which is `pid` since names point at one id
      obtain ⟨v', k, hg, hk⟩ := (hcn v.name).known hb.1
      obtain ⟨s', hs', hsv'⟩ := (hcn v.name).tracked hg hk
      have hb' := h.st.nb k s' _ hs' hsv'
      rw [nodeStored_name, (hapi.nodes v.name v' hg).1, hb.1] at hb'
      obtain rfl : pid = k := Option.some.inj hb'.1
      rw [hs] at hs'
      rw [← Option.some.inj hs', hv] at hsv'
      exact ⟨v', Map.mem_vals_of_get hg, by rw [hk]; simp, (Option.some.inj hsv').symm⟩
  have claimPart : api.claims.vals.find? (fun c => claimKey c = some pid) = (Map.get o.nodes pid).bind (·.claim) := by
    refine Option.map_id'.symm.trans (find_map_eq _ _ (fun cl => cl) _ ?_ ?_)
    · intro cl hm hk
      obtain ⟨k, hkm⟩ := Map.mem_vals hm
      obtain ⟨hmg, rfl, hne⟩ := claimKey_some (of_decide_eq_true hk)
      obtain ⟨s, hs, hv⟩ := ((hcc k).tracked (Map.get_of_mem hnd.claims hkm) hmg).2 hne
      rw [hs, Option.bind_some, hv]
    · intro cl hv
      obtain ⟨s, hs, hv⟩ := Option.bind_eq_some_iff.mp hv
      have hpid : pid ≠ "" := by intro e; rw [e, h.st.k0] at hs; simp at hs
      obtain ⟨cl', hg, hm, hpp, hst⟩ := (hcc cl.name).known (h.st.cb pid s cl hs hv).1
      obtain ⟨s', hs', hsc'⟩ := hst hpid
      rw [hs] at hs'
      rw [← Option.some.inj hs', hv] at hsc'
      have hck : claimKey cl' = some pid := by
        unfold claimKey
        rw [hm, hpp]
        simp [hpid]
      exact ⟨cl', Map.mem_vals_of_get hg, by rw [hck]; simp, (Option.some.inj hsc').symm⟩
  rw [nodePart, claimPart]
  cases hs : Map.get o.nodes pid with
  | none => rfl
  | some s =>
    have hmk := h.mks pid s hs
    have hne := h.st.ne pid s hs
    simp only [Option.bind_some]
    cases hn : s.node with
    | some v =>
      dsimp only
      rw [← hmk.1, ← hmk.2, ← hn]
    | none =>
      cases hc : s.claim with
      | some cl =>
        dsimp only
        rw [← hmk.1, ← hmk.2, ← hn, ← hc]
      | none => rw [hn, hc] at hne; simp at hne

end Karp.ClusterState
