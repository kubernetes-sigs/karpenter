/-
C17: the reservation manager refines the holder ledger (`Karp/Spec/ReservedLedger.lean`): same observations along
every history, same panics.
-/
import Karp.Proofs.ReservationLemmas
import Karp.Spec.ReservedLedger
namespace Karp.Reservation
open Karp.Spec.ReservedLedger Karp.Spec.Reserved

theorem capOf_eq (offerings : List (Id × Int)) (id : Id) :
    capOf offerings id = (RM.new offerings).capacity.lookup id := by
  induction offerings with
  | nil => rfl
  | cons o os ih =>
    obtain ⟨k, c⟩ := o
    have hcap : (RM.new ((k, c) :: os)).capacity = insertMin (RM.new os).capacity (k, c) := rfl
    rw [hcap]
    unfold capOf
    by_cases hk : k = id
    · subst hk
      rw [lookup_insertMin_eq, ← ih, beq_self_eq_true, if_pos rfl]
      cases capOf os k <;> rfl
    · rw [lookup_insertMin_ne _ _ _ _ (Ne.symm hk), ← ih, beq_false_of_ne hk, if_neg Bool.false_ne_true]

structure Sim (offerings : List (Id × Int)) (rm : RM) (b : Book) : Prop where
  holds : rm.holds = b
  ledger : Ledger (fun id => (capOf offerings id).getD 0) rm
  known : ∀ id, rm.capacity.lookup id = none ↔ capOf offerings id = none
  heldKnown : ∀ h id, rm.has h id = true → rm.capacity.lookup id ≠ none

theorem remaining_new (offerings : List (Id × Int)) (id : Id) :
    (RM.new offerings).remaining id = (capOf offerings id).getD 0 := by
  rw [RM.remaining, capOf_eq]

theorem sim_init (offerings : List (Id × Int)) (hcap : ∀ o ∈ offerings, 0 ≤ o.2) : Sim offerings (RM.new offerings) [] := by
  refine ⟨rfl, ?_, fun id => by rw [capOf_eq], fun h id hh => nomatch hh⟩
  simpa only [remaining_new] using ledger_new offerings hcap

theorem sim_free {offerings : List (Id × Int)} {rm : RM} {b : Book} (S : Sim offerings rm b) (id : Id) :
    free offerings b id = rm.remaining id := by
  have := S.ledger.sum id
  unfold RM.holders at this
  unfold free holders
  rw [← S.holds]
  omega

theorem sim_can {offerings : List (Id × Int)} {rm : RM} {b : Book} (S : Sim offerings rm b) (h : Host) (id : Id) :
    rm.canReserve h id = can offerings b h id := by
  have hf := sim_free S id
  have hnn := S.ledger.nonneg id
  cases S.holds
  unfold RM.canReserve can
  show (if rm.has h id = true then _ else _) = (if rm.has h id = true then _ else _)
  cases rm.has h id
  · show (match rm.capacity.lookup id with | none => _ | some c => _) = (match capOf offerings id with | none => _ | some _ => _)
    rw [hf]
    cases hl : rm.capacity.lookup id with
    | none => rw [(S.known id).mp hl]
    | some c =>
      have hr : rm.remaining id = c := by unfold RM.remaining; rw [hl]; rfl
      cases hcap : capOf offerings id with
      | none => rw [(S.known id).mpr hcap] at hl; cases hl
      | some m =>
        rw [hr] at hnn ⊢
        show Except.ok (c != 0) = Except.ok (decide (0 < c))
        congr 1
        rw [Bool.eq_iff_iff, bne_iff_ne, decide_eq_true_iff]
        omega
  · rfl

/-- the manager and the ledger end in the same panic or in related states -/
inductive Lockstep {α β : Type} (R : α → β → Prop) : Except Panic α → Except Panic β → Prop
  | error (p : Panic) : Lockstep R (.error p) (.error p)
  | ok {a : α} {b : β} (h : R a b) : Lockstep R (.ok a) (.ok b)

theorem Lockstep.map {α β α' β' : Type} {R : α → β → Prop} {R' : α' → β' → Prop} {f : α → α'} {g : β → β'}
    {x : Except Panic α} {y : Except Panic β} (h : Lockstep R x y) (hf : ∀ a b, R a b → R' (f a) (g b)) :
    Lockstep R' (x.map f) (y.map g) := by
  cases h with
  | error p => exact .error p
  | ok h => exact .ok (hf _ _ h)

theorem lookup_cons_eq_none (m : List (Id × Int)) (id x : Id) (c : Int) (hkn : m.lookup id ≠ none) :
    List.lookup x ((id, c) :: m) = none ↔ m.lookup x = none := by
  rw [List.lookup_cons]
  cases hb : x == id
  · exact Iff.rfl
  · cases eq_of_beq hb
    exact ⟨fun h => (nomatch h), fun h => absurd h hkn⟩

/-- the relation survives a step that rewrites the count of a known id and lets nobody hold anything new but that id -/
theorem Sim.update {offerings : List (Id × Int)} {rm rm' : RM} {id : Id} {c : Int} (S : Sim offerings rm rm.holds)
    (L : Ledger (fun id => (capOf offerings id).getD 0) rm')
    (hcap : rm'.capacity = (id, c) :: rm.capacity) (hkn : rm.capacity.lookup id ≠ none)
    (hhas : ∀ h' x, rm'.has h' x = true → rm.has h' x = true ∨ x = id) : Sim offerings rm' rm'.holds := by
  refine ⟨rfl, L, fun x => ?_, fun h' x hx => ?_⟩
  · rw [hcap, lookup_cons_eq_none _ _ _ _ hkn]
    exact S.known x
  · rw [hcap, Ne, lookup_cons_eq_none _ _ _ _ hkn]
    rcases hhas h' x hx with h1 | h1
    · exact S.heldKnown h' x h1
    · rw [h1]; exact hkn

theorem sim_reserve1 {offerings : List (Id × Int)} {rm : RM} {b : Book} (S : Sim offerings rm b) (h : Host) (id : Id) :
    Lockstep (Sim offerings) (rm.reserve1 h id) (grant1 offerings b h id) := by
  have hf := sim_free S id
  cases S.holds
  have hg : grant1 offerings rm.holds h id = if rm.has h id then .ok rm.holds
      else if rm.remaining id < 1 then .error .overReserve else .ok ((h, id) :: rm.holds) := by
    unfold grant1
    rw [hf]
    rfl
  rw [hg]
  rcases reserve1_cases rm h id with ⟨hh, e⟩ | ⟨hno, hlt, e⟩ | ⟨hno, hge, e⟩ <;> rw [e]
  · rw [if_pos hh]
    exact .ok S
  · rw [hno, if_neg Bool.false_ne_true, if_pos hlt]
    exact .error _
  · rw [hno, if_neg Bool.false_ne_true, if_neg (by omega)]
    have hkn : rm.capacity.lookup id ≠ none := fun hl => by
      have : rm.remaining id = 0 := by unfold RM.remaining; rw [hl]; rfl
      omega
    refine .ok (S.update (ledger_reserve1 S.ledger hno hge) rfl hkn fun h' x hx => ?_)
    rw [has_cons, Bool.or_eq_true, Bool.and_eq_true, beq_iff_eq, beq_iff_eq] at hx
    exact hx.symm.imp_right (·.2)

theorem sim_reserve {offerings : List (Id × Int)} (h : Host) (ids : List Id) {rm : RM} {b : Book} (S : Sim offerings rm b) :
    Lockstep (Sim offerings) (rm.reserve h ids) (grant offerings b h ids) := by
  induction ids generalizing rm b with
  | nil => exact .ok S
  | cons id ids ih =>
    have h1 := sim_reserve1 S h id
    rw [RM.reserve, grant]
    generalize rm.reserve1 h id = x at h1 ⊢
    generalize grant1 offerings b h id = y at h1 ⊢
    cases h1 with
    | error p => exact .error p
    | ok S1 => exact ih S1

theorem filter_absent (b : Book) (p : Host × Id) (h : b.contains p = false) : b.filter (fun q => q != p) = b := by
  apply List.filter_eq_self.mpr
  intro q hq
  rw [bne_iff_ne]
  intro e
  rw [← e, List.contains_iff_mem.mpr hq] at h
  cases h

theorem sim_release1 {offerings : List (Id × Int)} {rm : RM} {b : Book} (S : Sim offerings rm b) (h : Host) (id : Id) :
    Sim offerings (rm.release1 h id) (b.filter (fun p => p != (h, id))) := by
  cases S.holds
  rcases release1_cases rm h id with ⟨hno, e⟩ | ⟨hyes, e⟩
  · rw [e, filter_absent _ _ hno]
    exact S
  · rw [e]
    refine S.update (ledger_release1 S.ledger hyes) rfl (S.heldKnown h id hyes) fun h' x hx => ?_
    rw [has_filter, Bool.and_eq_true] at hx
    exact .inl hx.1

theorem sim_release {offerings : List (Id × Int)} (h : Host) (ids : List Id) {rm : RM} {b : Book} (S : Sim offerings rm b) :
    Sim offerings (rm.release h ids) (drop b h ids) := by
  induction ids generalizing rm b with
  | nil => exact S
  | cons id ids ih => exact ih (sim_release1 S h id)

theorem sim_toReserve {offerings : List (Id × Int)} {rm : RM} {b : Book} (S : Sim offerings rm b) (h : Host) (ids : List Id) :
    toReserve rm h ids = askAll offerings b h ids := by
  induction ids with
  | nil => rfl
  | cons id ids ih => rw [toReserve, askAll, sim_can S h id, ih]; rfl

theorem sim_step {offerings : List (Id × Int)} {rm : RM} {b : Book} (S : Sim offerings rm b) (op : Op) :
    Lockstep (fun r s => Sim offerings r.1 s.1 ∧ r.2 = s.2) (stepOp rm op) (specStep offerings b op) := by
  cases op with
  | canReserve h id =>
    rw [stepOp, specStep, sim_can S h id]
    cases can offerings b h id with
    | error p => exact .error p
    | ok x => exact .ok ⟨S, rfl⟩
  | reserve h ids => exact (sim_reserve h ids S).map fun _ _ S' => ⟨S', rfl⟩
  | guarded h ids =>
    rw [stepOp, specStep, sim_toReserve S h ids]
    cases askAll offerings b h ids with
    | error p => exact .error p
    | ok rs => exact (sim_reserve h rs S).map fun _ _ S' => ⟨S', rfl⟩
  | release h ids => exact .ok ⟨sim_release h ids S, rfl⟩
  | has h id => exact .ok ⟨S, by cases S.holds; rfl⟩
  | remaining id => exact .ok ⟨S, by rw [sim_free S id]⟩

theorem sim_run {offerings : List (Id × Int)} (ops : List Op) {rm : RM} {b : Book} (S : Sim offerings rm b) :
    (runOps rm ops).2 = specObs offerings b ops ∧ ∀ rm', runState rm ops = some rm' → ∃ b', Sim offerings rm' b' := by
  induction ops generalizing rm b with
  | nil => exact ⟨rfl, fun rm' h => by cases h; exact ⟨b, S⟩⟩
  | cons op ops ih =>
    have h1 := sim_step S op
    rw [runOps, specObs, runState]
    generalize stepOp rm op = x at h1 ⊢
    generalize specStep offerings b op = y at h1 ⊢
    cases h1 with
    | error p => exact ⟨rfl, nofun⟩
    | @ok r s hS =>
      obtain ⟨rm1, o⟩ := r
      obtain ⟨b1, o'⟩ := s
      obtain ⟨S1, ho⟩ := hS
      cases ho
      exact ⟨congrArg (o :: ·) (ih S1).1, (ih S1).2⟩

end Karp.Reservation
