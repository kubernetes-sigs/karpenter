/-
The nodeclaim lifecycle controller looking at one NodeClaim of a pool (Model/PoolHealth, C20), in closed form: what one
pass and one look do, and that a launch attempt leaves of the pool ONE outcome — `registeredF` or `timedOut` — under any
timing of the looks and any armed fault.  No specification enters.
-/
import Karp.Model.PoolHealth

namespace Karp.PoolHealth

/-- one pass on a NodeClaim that is not terminating: registration, then liveness (launch and initialization
    do not touch the pool) -/
theorem pass_eq (l : Look) (s : Pass) :
    pass l s = if s.claim.deleted then s else livenessStep l (registrationStep l s) := by
  simp [pass, Karp.Gen.Health.lifecycleOrder, subStep]

theorem look_settled (l : Look) (f : Fault) (p : Pool) (c : Claim) (h : c.registered = true ∨ c.deleted = true) :
    look l f (p, c) = (p, c) := by
  rcases h with h | h <;> simp [look, pass_eq, registrationStep, livenessStep, h]

/-- what one look (with the retry after a failed NodePool call) does to a NodeClaim that is neither Registered
    nor being deleted: if its Node is there the registration is counted — unless the armed fault bites, then
    never, since `Registered` is persisted first —; otherwise, if the timeout that applies is due, the failure
    is counted whatever fault is armed (the failing pass records nothing and deletes nothing, the retry does
    both); otherwise nothing happens. -/
theorem look_pending (l : Look) (f : Fault) (p : Pool) (launched : Bool) :
    look l f (p, Claim.fresh launched) =
      if l.node && launched then (registeredF p f, { Claim.fresh launched with registered := true })
      else if (if launched then l.regDue else l.launchDue) then (timedOut p, { Claim.fresh launched with deleted := true })
      else (p, Claim.fresh launched) := by
  -- whether a patch is issued matters only to the fault that makes it fail
  by_cases hj : (l.node && launched) = true
  · cases f with
    | patch => by_cases hp : patchTrue p = true <;>
        simp [look, pass_eq, registrationStep, livenessStep, registeredF, Claim.fresh, hj, hp]
    | _ => simp [look, pass_eq, registrationStep, livenessStep, registeredF, Claim.fresh, hj]
  · by_cases hdue : (if launched then l.regDue else l.launchDue) = true
    · cases f with
      | patch => by_cases hp : patchFalse p = true <;>
          simp [look, pass_eq, registrationStep, livenessStep, Claim.fresh, hj, hdue, hp]
      | _ => simp [look, pass_eq, registrationStep, livenessStep, Claim.fresh, hj, hdue]
    · simp [look, pass_eq, registrationStep, livenessStep, Claim.fresh, hj, hdue]

theorem looks_settled (ls : List Look) (p : Pool) (c : Claim) (h : c.registered = true ∨ c.deleted = true) :
    looks ls (p, c) = (p, c) := by
  induction ls with
  | nil => rfl
  | cons l ls ih => rw [looks, List.foldl_cons, look_settled l .none p c h]; exact ih

theorem looks_waiting (ls : List Look) (p : Pool) (launched : Bool)
    (h : ∀ l ∈ ls, (l.node && launched) = false ∧ (if launched then l.regDue else l.launchDue) = false) :
    looks ls (p, Claim.fresh launched) = (p, Claim.fresh launched) := by
  induction ls with
  | nil => rfl
  | cons l ls ih =>
    obtain ⟨hn, hdue⟩ := h l List.mem_cons_self
    rw [looks, List.foldl_cons, look_pending, hn, hdue, if_neg Bool.false_ne_true, if_neg Bool.false_ne_true]
    exact ih fun l' hl' => h l' (List.mem_cons_of_mem l hl')

/-- a launch attempt is ONE outcome under any timing of the looks: the first look that finds the Node, or else the
    timeout due, decides; the looks before it find nothing, the looks after it a settled NodeClaim -/
theorem attempt_once (p : Pool) (launched : Bool) (pre post : List Look) (final : Look) (f : Fault)
    (hpre : ∀ l ∈ pre, (l.node && launched) = false ∧ (if launched then l.regDue else l.launchDue) = false)
    (hfinal : (final.node && launched) = true ∨ (if launched then final.regDue else final.launchDue) = true) :
    attempt p launched pre final f post = if final.node && launched then registeredF p f else timedOut p := by
  unfold attempt
  rw [looks_waiting pre p launched hpre, look_pending]
  by_cases hj : (final.node && launched) = true
  · rw [if_pos hj, if_pos hj, looks_settled post _ _ (Or.inl rfl)]
  · rw [if_neg hj, if_neg hj, if_pos (hfinal.resolve_left hj), looks_settled post _ _ (Or.inr rfl)]

theorem step_success (p : Pool) (f : Fault) : step p (.success f) = registeredF p f :=
  attempt_once p true [] [] .joined f (by decide) (by decide)

theorem step_failure (p : Pool) (f : Fault) : step p (.failure f) = timedOut p :=
  attempt_once p true [.waiting] [] .allTimeouts f (by decide) (by decide)

theorem step_launchFailure (p : Pool) (f : Fault) : step p (.launchFailure f) = timedOut p :=
  attempt_once p false [.waiting] [] .launchTimeout f (by decide) (by decide)

theorem step_lateFailure (p : Pool) (f : Fault) : step p (.lateFailure f) = timedOut p :=
  attempt_once p false [.waiting] [] .allTimeouts f (by decide) (by decide)

end Karp.PoolHealth
