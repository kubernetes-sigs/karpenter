/-
Helper lemmas for the consumable-capacity part of C17: the model of `consumable_capacity.go`
(`Karp/Model/DraCapacity.lean`) against the rules of resource.k8s.io/v1 as the specification states them
(`Karp.Spec.DraExclusive.SDim.consumption`).  Core Lean only.
-/
import Karp.Model.DraCapacity
import Karp.Spec.DraExclusive

namespace Karp.DraCapacity
open Karp.Spec.DraExclusive

/-- what API validation (resource.k8s.io/v1) guarantees of a request policy, as far as the rules need it -/
structure ValidDim (d : SDim) : Prop where
  oneOf : d.values = [] ∨ d.range = none
  sorted : d.values.Pairwise (· ≤ ·)
  needsDefault : (d.values ≠ [] ∨ d.range ≠ none) → ∃ dv, d.default = some dv
  defaultValid : ∀ dv, d.default = some dv → d.values ≠ [] → dv ∈ d.values
  stepPos : ∀ mn mx s, d.range = some (mn, mx, some s) → 0 < s
  defaultMax : ∀ mn m st dv, d.range = some (mn, some m, st) → d.default = some dv → dv ≤ m

theorem foldl_min_of_le (a : Int) (l : List Int) (h : ∀ b ∈ l, a ≤ b) : l.foldl min a = a := by
  induction l with
  | nil => rfl
  | cons b t ih =>
    have hb : a ≤ b := h b (by simp)
    have : min a b = a := by omega
    simp only [List.foldl_cons, this]
    exact ih (fun c hc => h c (by simp [hc]))

theorem leastAbove_sorted (r : Int) (vs : List Int) (hs : vs.Pairwise (· ≤ ·)) :
    leastAbove r vs = vs.find? (fun v => r ≤ v) := by
  unfold leastAbove
  have hf : (vs.filter (fun v => decide (r ≤ v))).Pairwise (· ≤ ·) := hs.filter _
  rw [← List.head?_filter]
  cases hl : vs.filter (fun v => decide (r ≤ v)) with
  | nil => simp
  | cons v rest =>
    rw [hl] at hf
    simp only [List.head?_cons]
    rw [foldl_min_of_le v rest (fun b hb => List.rel_of_pairwise_cons hf hb)]

/-- `roundUpRange` in the words of the rules: below the minimum the minimum, on the step grid the amount itself, else
    the amount filled up to the next whole step (Go's truncating `/`, `%` agree with `/`, `%` on `r - min ≥ 0`) -/
theorem roundUpRange_eq (r mn : Int) (mx st : Option Int) :
    roundUpRange r { min := mn, max := mx, step := st } = if r < mn then mn else
      match st with
      | none => r
      | some s => if (r - mn) % s == 0 then r else r + (s - (r - mn) % s) := by
  unfold roundUpRange
  dsimp only
  split
  · rfl
  · cases st with
    | none => rfl
    | some s =>
      rename_i hr
      have ha : 0 ≤ r - mn := by omega
      dsimp only
      rw [Int.tdiv_eq_ediv_of_nonneg ha, Int.tmod_eq_emod_of_nonneg ha, bne]
      have key := Int.mul_ediv_add_emod (r - mn) s
      cases h0 : (r - mn) % s == 0
      · show mn + s * ((r - mn) / s + 1) = r + (s - (r - mn) % s)
        rw [Int.mul_add, Int.mul_one]
        generalize s * ((r - mn) / s) = q at key ⊢
        omega
      · rw [eq_of_beq h0] at key
        show mn + s * ((r - mn) / s) = r
        generalize s * ((r - mn) / s) = q at key ⊢
        omega

theorem le_roundUpRange (r mn : Int) (mx st : Option Int) (hpos : ∀ s, st = some s → 0 < s) :
    r ≤ roundUpRange r { min := mn, max := mx, step := st } := by
  rw [roundUpRange_eq]
  split
  · omega
  · cases st with
    | none => exact Int.le_refl r
    | some s =>
      have := Int.emod_lt_of_pos (r - mn) (hpos s rfl)
      dsimp only
      split <;> omega

theorem roundUpRange_on_grid (r mn s : Int) (mx : Option Int) :
    Int.tmod (roundUpRange r { min := mn, max := mx, step := some s } - mn) s = 0 := by
  unfold roundUpRange
  dsimp only
  split
  · rw [Int.sub_self]
    exact Int.zero_tmod s
  · rw [Int.add_comm, Int.add_sub_cancel]
    exact Int.mul_tmod_right s _

def capMax (mx : Option Int) (c : Int) : Option Int :=
  match mx with
  | none => some c
  | some m => if c > m then none else some c

def stepOff (st : Option Int) (x : Int) : Bool :=
  match st with
  | some s => Int.tmod x s != 0
  | none => false

def maxOff (mx : Option Int) (c : Int) : Bool :=
  match mx with
  | some m => decide (c > m)
  | none => false

theorem capMax_eq_some {mx : Option Int} {c c' : Int} (h : capMax mx c = some c') : c' = c := by
  cases mx with
  | none => exact (Option.some.inj h).symm
  | some m =>
    have h : (if c > m then none else some c) = some c' := h
    split at h
    · cases h
    · exact (Option.some.inj h).symm

/-- the rules on a range policy: round as the code does, refuse what exceeds the maximum -/
theorem consumption_range (dim : String) (cap pre : Int) (default : Option Int) (r mn : Int) (mx st : Option Int) :
    SDim.consumption ⟨dim, cap, pre, default, [], some (mn, mx, st)⟩ (some r)
      = capMax mx (roundUpRange r ⟨mn, mx, st⟩) := by
  rw [roundUpRange_eq]
  cases mx <;> rfl

theorem violateValidRange_eq (c mn : Int) (mx st : Option Int) :
    violateValidRange c ⟨mn, mx, st⟩ = (maxOff mx c || stepOff st (c - mn)) := by
  cases st <;> cases mx <;> rfl

/-- the model on a range policy whose default respects the maximum: the rounded amount is on the step grid, so only
    the maximum can refuse it -/
theorem consumedDim_range (cap dv r mn : Int) (mx st : Option Int) (hmax : ∀ m, mx = some m → dv ≤ m) :
    consumedDim (some r) (Dim.ofFields cap (some dv) [] (some (mn, mx, st))) = capMax mx (roundUpRange r ⟨mn, mx, st⟩) := by
  have hgrid : stepOff st (roundUpRange r ⟨mn, mx, st⟩ - mn) = false := by
    cases st with
    | none => rfl
    | some s => simp [stepOff, roundUpRange_on_grid r mn s mx]
  have hofs : Dim.ofFields cap (some dv) [] (some (mn, mx, st)) = ⟨cap, some ⟨some dv, [], some ⟨mn, mx, st⟩⟩⟩ := by
    simp [Dim.ofFields]
  rw [hofs]
  simp only [consumedDim, calculateConsumedCapacity, violatesPolicy, violateValidRange_eq]
  generalize roundUpRange r ⟨mn, mx, st⟩ = c at hgrid
  cases mx with
  | none => simp [capMax, maxOff, hgrid]
  | some m =>
    have := hmax m rfl
    by_cases hcm : c > m
    · have hne : dv ≠ c := by omega
      simp [capMax, maxOff, hcm, hne, hgrid]
    · simp [capMax, maxOff, hcm, hgrid]

/-- the model on a policy of valid values whose default is one of them: the first value that is at least the request;
    a request above all of them rounds to itself, which is not a valid value -/
theorem consumedDim_values (cap dv r a : Int) (t : List Int) (hmem : dv ∈ a :: t) :
    consumedDim (some r) (Dim.ofFields cap (some dv) (a :: t) none) = (a :: t).find? (fun v => r ≤ v) := by
  cases hfind : (a :: t).find? (fun v => decide (r ≤ v)) with
  | some v =>
    have hv : v ∈ a :: t := List.mem_of_find?_eq_some hfind
    simp [consumedDim, calculateConsumedCapacity, Dim.ofFields, roundUpValidValues, hfind, violatesPolicy, violateValidValues]
    intro _ hna
    rcases List.mem_cons.mp hv with h1 | h1
    · exact absurd h1 hna
    · exact h1
  | none =>
    have hall := List.find?_eq_none.mp hfind
    have hne : dv ≠ r := by
      intro e; subst e
      exact hall dv hmem (by simp)
    have hc : r ∉ a :: t := fun hin => hall r hin (by simp)
    simp [consumedDim, calculateConsumedCapacity, Dim.ofFields, roundUpValidValues, hfind, violatesPolicy, violateValidValues, hne]
    exact ⟨fun e => hc (by simp [e]), fun e => hc (by simp [e])⟩

theorem consumedDim_refines (d : SDim) (h : ValidDim d) (req : Option Int) :
    consumedDim req (Dim.ofFields d.cap d.default d.values d.range) = d.consumption req := by
  obtain ⟨dim, cap, pre, default, values, range⟩ := d
  cases req with
  | none =>
    cases default with
    | some dv =>
      simp [consumedDim, calculateConsumedCapacity, fillEmptyRequest, Dim.ofFields, violatesPolicy, SDim.consumption]
    | none =>
      -- without a default API validation allows neither valid values nor a range
      have hn : ¬ (values ≠ [] ∨ range ≠ none) := fun hor => by
        obtain ⟨dv, hdv⟩ := h.needsDefault hor
        cases hdv
      rw [not_or, Decidable.not_not, Decidable.not_not] at hn
      obtain ⟨rfl, rfl⟩ := hn
      simp [consumedDim, calculateConsumedCapacity, fillEmptyRequest, Dim.ofFields, violatesPolicy, SDim.consumption]
  | some r =>
    cases values with
    | cons a t =>
      obtain rfl : range = none := h.oneOf.resolve_left (List.cons_ne_nil a t)
      obtain ⟨dv, rfl⟩ : ∃ dv, default = some dv := h.needsDefault (.inl (List.cons_ne_nil a t))
      have hmem : dv ∈ a :: t := h.defaultValid dv rfl (List.cons_ne_nil a t)
      rw [consumedDim_values cap dv r a t hmem]
      exact (leastAbove_sorted r (a :: t) h.sorted).symm
    | nil =>
      cases range with
      | none =>
        cases default <;>
          simp [consumedDim, calculateConsumedCapacity, Dim.ofFields, violatesPolicy, SDim.consumption]
      | some g =>
        obtain ⟨mn, mx, st⟩ := g
        obtain ⟨dv, rfl⟩ : ∃ dv, default = some dv := h.needsDefault (.inr nofun)
        rw [consumedDim_range cap dv r mn mx st fun m hm => h.defaultMax mn m st dv (by rw [hm]) rfl, consumption_range]

theorem consumption_ge (d : SDim) (hs : d.values.Pairwise (· ≤ ·))
    (hp : ∀ mn mx s, d.range = some (mn, mx, some s) → 0 < s) (r c : Int)
    (hc : d.consumption (some r) = some c) : r ≤ c := by
  obtain ⟨dim, cap, pre, default, values, range⟩ := d
  cases values with
  | cons a t =>
    change leastAbove r (a :: t) = some c at hc
    rw [leastAbove_sorted r (a :: t) hs] at hc
    have := List.find?_some hc
    exact of_decide_eq_true this
  | nil =>
    cases range with
    | none => cases hc; exact Int.le_refl r
    | some g =>
      obtain ⟨mn, mx, st⟩ := g
      rw [consumption_range] at hc
      rw [capMax_eq_some hc]
      exact le_roundUpRange r mn mx st fun s hs => hp mn mx s (by rw [hs])

theorem admitAll_le (total used : Int) (cs : List Int) (h : used ≤ total) : admitAll total used cs ≤ total := by
  fun_induction admitAll total used cs with
  | case1 => exact h
  | case2 used c rest ih =>
    apply ih
    split
    · rename_i hf
      rw [fits, Bool.not_eq_true', decide_eq_false_iff_not] at hf
      omega
    · exact h

end Karp.DraCapacity
