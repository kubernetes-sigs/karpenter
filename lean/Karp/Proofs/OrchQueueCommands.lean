/-
C08, the commands of the orchestration queue: completing one, the bookkeeping invariant and what carries it over
(`Carried`), `StartCommand` by its phases, the controller's cleanup pass, the steps of the environment.
-/
import Karp.Proofs.OrchQueueApi

namespace Karp.OrchQueue

structure Keep (w w' : World) : Prop where
  len : w'.cands.length = w.cands.length
  owner : ∀ j, (candAt w' j).owner = (candAt w j).owner
  mark : ∀ j, (candAt w' j).mark = (candAt w j).mark
  gone : ∀ j, (candAt w' j).gone = (candAt w j).gone
  live : ∀ K, (cmdAt w' K).live = (cmdAt w K).live

theorem Keep.refl (w : World) : Keep w w := ⟨rfl, fun _ => rfl, fun _ => rfl, fun _ => rfl, fun _ => rfl⟩

theorem Keep.trans {a b c : World} (h1 : Keep a b) (h2 : Keep b c) : Keep a c :=
  ⟨h2.len.trans h1.len, fun j => (h2.owner j).trans (h1.owner j), fun j => (h2.mark j).trans (h1.mark j),
   fun j => (h2.gone j).trans (h1.gone j), fun K => (h2.live K).trans (h1.live K)⟩

theorem keep_eff {w w' : World} (h : Eff apiUpd w w') : Keep w w' :=
  ⟨h.frame.2.2, h.field (·.owner) (fun _ hf c => (hf c).1), h.field (·.mark) (fun _ hf c => (hf c).2.1),
   h.field (·.gone) (fun _ hf c => (hf c).2.2),
   fun K => by rw [cmdAt_congr h.frame.1]⟩

theorem keep_setCmd (w : World) (K : Nat) (f : Cmd → Cmd) (hf : ∀ c, (f c).live = c.live) : Keep w (setCmd w K f) := by
  refine ⟨rfl, fun _ => rfl, fun _ => rfl, fun _ => rfl, fun K' => ?_⟩
  rw [cmdAt_setCmd]
  split
  · exact hf _
  · rfl

def release : Cand → Cand := fun c => { c with mark := false, owner := none }
def dequeue : Cand → Cand := fun c => { c with owner := none }

theorem failCommand_eq (K : Nat) (w : World) :
    failCommand K w = ((cmdAt w K).live).foldl (fun w i => setCand w i release) (rollback (cmdAt w K).live w).2 := by
  rw [rollback, ← clearAll_eq, ← untaintAll_eq]; rfl

theorem failCommand_cmds (K : Nat) (w : World) : (failCommand K w).cmds = w.cmds := by
  rw [failCommand_eq, (foldl_setCand_frame release _ _).1, (eff_rollback _ w).frame.1]

theorem failCommand_length (K : Nat) (w : World) : (failCommand K w).cands.length = w.cands.length := by
  rw [failCommand_eq, (foldl_setCand_frame release _ _).2, (eff_rollback _ w).frame.2.2]

theorem fail_shape {w w' : World} (K : Nat) (hk : Keep w w') (j : Nat) :
    ((candAt (failCommand K w') j).owner =
        if j ∈ (cmdAt w K).live ∧ j < w.cands.length then none else (candAt w j).owner) ∧
    ((candAt (failCommand K w') j).mark =
        if j ∈ (cmdAt w K).live ∧ j < w.cands.length then false else (candAt w j).mark) := by
  have hk' := hk.trans (keep_eff ((eff_rollback (cmdAt w K).live w').mono tc_api))
  rw [failCommand_eq, hk.live, foldl_setCand_at release (fun _ => rfl), hk'.len]
  split
  · exact ⟨rfl, rfl⟩
  · exact ⟨hk'.owner j, hk'.mark j⟩

theorem failCommand_quiet (K : Nat) {w : World} (hc : Calm w) :
    ∀ j ∈ (cmdAt w K).live, (candAt w j).gone = false →
      (candAt (failCommand K w) j).taint = false ∧ (candAt (failCommand K w) j).cond = false := by
  intro j hj hg
  have h := (rollback_quiet (cmdAt w K).live hc).2.2 j hj hg
  rw [failCommand_eq, foldl_setCand_at release (fun _ => rfl)]
  split <;> exact h

theorem succeedCommand_eq (K : Nat) (w : World) :
    succeedCommand K w = ((cmdAt w K).live).foldl (fun w i => setCand w i dequeue)
      (setCmd w K (fun c => { c with succeeded := true })) := rfl

theorem succeedCommand_cand (K : Nat) (w : World) (j : Nat) :
    candAt (succeedCommand K w) j =
      if j ∈ (cmdAt w K).live ∧ j < w.cands.length then dequeue (candAt w j) else candAt w j := by
  rw [succeedCommand_eq, foldl_setCand_at dequeue (fun _ => rfl)]
  rfl

theorem succeed_owner {w w' : World} (K : Nat) (hk : Keep w w') (j : Nat) :
    (candAt (succeedCommand K w') j).owner =
      if j ∈ (cmdAt w K).live ∧ j < w.cands.length then none else (candAt w j).owner := by
  rw [succeedCommand_cand, hk.live, hk.len]
  split
  · rfl
  · exact hk.owner j

theorem succeedCommand_issued (K : Nat) (w : World) (k : Nat) :
    (cmdAt (succeedCommand K w) k).issued = (cmdAt w k).issued := by
  rw [succeedCommand_eq, cmdAt_congr (foldl_setCand_frame _ _ _).1, cmdAt_setCmd]
  split <;> rfl

/-- readiness bookkeeping of one replacement: the latch is only set for a replacement that reported Initialized, and
    only a NodeClaim that was created can exist / report anything -/
structure ReplOK (r : Repl) : Prop where
  latch : r.latched = true → r.everInit = true
  init : r.api = .init → r.everInit = true
  ever : r.everInit = true → r.created = true
  exist : r.api ≠ .absent → r.created = true

/-- every replacement of the command is `ReplOK`, and a command on whose behalf a Delete was issued has every
    replacement latched -/
def CmdOK (c : Cmd) : Prop := (∀ r ∈ c.repls, ReplOK r) ∧ (c.issued = true → ∀ r ∈ c.repls, r.latched = true)

def CmdsOK (w : World) : Prop := ∀ c ∈ w.cmds, CmdOK c

/-- both invariants and the number of commands are carried over, and no `issued` flag is ever reset -/
def Carried (w w' : World) : Prop :=
  (CmdsOK w → CmdsOK w') ∧ w'.cmds.length = w.cmds.length ∧
  ∀ k, (cmdAt w k).issued = true → (cmdAt w' k).issued = true

theorem Carried.refl (w : World) : Carried w w := ⟨id, rfl, fun _ => id⟩
theorem Carried.trans {a b c : World} (h1 : Carried a b) (h2 : Carried b c) : Carried a c :=
  ⟨fun h => h2.1 (h1.1 h), h2.2.1.trans h1.2.1, fun k h => h2.2.2 k (h1.2.2 k h)⟩

theorem carried_cmds_eq {w w' : World} (h : w'.cmds = w.cmds) : Carried w w' :=
  ⟨fun hc c hm => hc c (h ▸ hm), by rw [h], fun k hk => by rw [cmdAt_congr h]; exact hk⟩

theorem carried_eff {F} {w w' : World} (h : Eff F w w') : Carried w w' := carried_cmds_eq h.frame.1

theorem carried_setCmd (w : World) (k : Nat) (f : Cmd → Cmd)
    (hf : k < w.cmds.length → CmdOK (cmdAt w k) → CmdOK (f (cmdAt w k)))
    (hi : (cmdAt w k).issued = true → (f (cmdAt w k)).issued = true) : Carried w (setCmd w k f) := by
  refine ⟨fun hc c hm => ?_, by simp, fun j hj => by
    rw [cmdAt_setCmd]
    split
    · rename_i hjk; rw [hjk.1] at hj ⊢; exact hi hj
    · exact hj⟩
  rcases mem_updAt hm with h | ⟨y, hy, e⟩
  · exact hc c h
  · subst e
    have hlt := (List.getElem?_eq_some_iff.mp hy).1
    rw [← cmdAt_of_getElem? hy]
    exact hf hlt (hc _ (cmdAt_mem hlt))

theorem cmdOK_of_repls (c c' : Cmd) (hi : c'.issued = c.issued)
    (h : (∀ r ∈ c.repls, ReplOK r) → ∀ r ∈ c'.repls, ReplOK r)
    (hl : (∀ r ∈ c.repls, r.latched = true) → ∀ r ∈ c'.repls, r.latched = true) : CmdOK c → CmdOK c' :=
  fun ⟨h1, h2⟩ => ⟨h h1, fun hi' => hl (h2 (hi ▸ hi'))⟩

theorem carried_setCmd_plain (w : World) (k : Nat) (f : Cmd → Cmd)
    (hr : ∀ c, (f c).repls = c.repls) (hi : ∀ c, (f c).issued = c.issued) : Carried w (setCmd w k f) :=
  carried_setCmd w k f (fun _ h => cmdOK_of_repls (cmdAt w k) (f (cmdAt w k)) (hi _) (by rw [hr]; exact id) (by rw [hr]; exact id) h)
    (fun h => by rw [hi]; exact h)

theorem cmdOK_map {g : Repl → Repl} (hg : ∀ r, ReplOK r → ReplOK (g r))
    (hl : ∀ r, r.latched = true → (g r).latched = true) (c : Cmd) :
    CmdOK c → CmdOK { c with repls := c.repls.map g } :=
  cmdOK_of_repls c _ rfl (fun h => List.forall_mem_map.mpr fun r hr => hg r (h r hr))
    (fun h => List.forall_mem_map.mpr fun r hr => hl r (h r hr))

theorem carried_setCmd_map (w : World) (k : Nat) (g : Repl → Repl)
    (hg : ∀ r, ReplOK r → ReplOK (g r)) (hl : ∀ r, r.latched = true → (g r).latched = true) :
    Carried w (setCmd w k (fun c => { c with repls := c.repls.map g })) :=
  carried_setCmd w k _ (fun _ => cmdOK_map hg hl _) id

theorem carried_setRepl (w : World) (k i : Nat) (g : Repl → Repl)
    (hg : ∀ r, ReplOK r → ReplOK (g r)) (hl : ∀ r, r.latched = true → (g r).latched = true) :
    Carried w (setRepl w k i g) :=
  carried_setCmd w k _ (fun _ h => cmdOK_of_repls (cmdAt w k) { cmdAt w k with repls := updAt (cmdAt w k).repls i g } rfl
    (fun h => forall_updAt h hg) (fun h => forall_updAt h hl) h) id

theorem carried_foldl_setCand (f : Cand → Cand) (l : List Nat) (w : World) :
    Carried w (l.foldl (fun w i => setCand w i f) w) := carried_cmds_eq (foldl_setCand_frame f l w).1

theorem carried_failCommand (K : Nat) (w : World) : Carried w (failCommand K w) :=
  carried_cmds_eq (failCommand_cmds K w)

theorem carried_succeedCommand (K : Nat) (w : World) : Carried w (succeedCommand K w) := by
  rw [succeedCommand_eq]
  exact (carried_setCmd_plain w K (fun c => { c with succeeded := true }) (fun _ => rfl) (fun _ => rfl)).trans (carried_foldl_setCand _ _ _)

theorem createOne_spec (k i : Nat) (w : World) : (createOne k i w).2.cands = w.cands ∧ Carried w (createOne k i w).2 := by
  have of_call : ∀ {w w1 : World} {k o}, call w k = (o, w1) → w1.cands = w.cands ∧ Carried w w1 := fun h => by
    rw [call_snd h]; exact ⟨rfl, carried_cmds_eq rfl⟩
  fun_cases createOne k i w with
  | case1 w1 h | case4 o w1 _ h => exact of_call h
  | case2 w1 h _ w2 h2 =>
    exact ⟨(of_call h2).1.trans (of_call h).1, ((of_call h).2.trans (of_call h2).2).trans
      (carried_setRepl w2 k i _ (fun r hr => ⟨hr.latch, nofun, fun _ => rfl, fun _ => rfl⟩) (fun r h => h))⟩
  | case3 w1 h _ o w2 _ h2 => exact ⟨(of_call h2).1.trans (of_call h).1, (of_call h).2.trans (of_call h2).2⟩

theorem createAll_spec (k : Nat) : ∀ (n i : Nat) (w : World),
    (createAll k n i w).2.cands = w.cands ∧ Carried w (createAll k n i w).2
  | 0, _, w => ⟨rfl, Carried.refl w⟩
  | n + 1, i, w => by
    unfold createAll
    simp only
    obtain ⟨h1, h2⟩ := createOne_spec k i w
    obtain ⟨h3, h4⟩ := createAll_spec k n (i + 1) (createOne k i w).2
    exact ⟨h3.trans h1, h2.trans h4⟩

/-- the phases of `StartCommand`, as functions of the world it starts in: the command recorded as started, the
    candidates tainted and marked (`markDisrupted`), the replacements created, and for an accepted start the commit
    (`MarkForDeletion`, then the queue map) -/
def begun (k : Nat) (w : World) : World := setCmd w k (fun c => { c with started := true, createdAt := w.now })
def marking (k : Nat) (w : World) : List Nat × Bool × World := markAll (cmdAt w k).cands (begun k w)
def launching (k : Nat) (w : World) : Bool × World :=
  createAll k (cmdAt w k).repls.length 0 (setCmd (marking k w).2.2 k (fun c => { c with live := (marking k w).1 }))
def enqueue (k : Nat) : Cand → Cand := fun c => { c with mark := true, owner := some k }
def commit (k : Nat) (marked : List Nat) (w : World) : World :=
  marked.foldl (fun w i => setCand w i (enqueue k))
    (setCmd w k (fun c => { c with repls := c.repls.map (fun r => { r with named := true }) }))

theorem startCommand_cases (k : Nat) (via : Bool) (w : World) :
    ((startCommand k via w).1 ≠ .ok ∧
      ((startCommand k via w).2 = w ∨ (startCommand k via w).2 = begun k w ∨
        (startCommand k via w).2 = (marking k w).2.2 ∨ (startCommand k via w).2 = (launching k w).2)) ∨
    ((startCommand k via w).1 = .ok ∧ k < w.cmds.length ∧
      (∀ i ∈ (cmdAt w k).cands, (candAt w i).owner = none ∧ (candAt w i).gone = false) ∧
      (startCommand k via w).2 = commit k (marking k w).1 (launching k w).2) := by
  -- the cases follow the branches of `startCommand` top to bottom: 1 unknown or already started, 2 a candidate gone,
  -- 3 refused by `NewCandidate`, 4 a candidate owned by another command (`.busy`), 5 marking failed (`.mark`),
  -- 6 a launch failed (`.launch`), 7 accepted
  fun_cases startCommand k via w with
  | case1 | case2 | case3 => exact Or.inl ⟨nofun, Or.inl rfl⟩
  | case4 => exact Or.inl ⟨nofun, Or.inr (Or.inl rfl)⟩
  | case5 _ _ _ _ _ _ m anyErr w1 hm =>
    have e : marking k w = (m, anyErr, w1) := hm
    exact Or.inl ⟨nofun, Or.inr (Or.inr (Or.inl (by rw [e])))⟩
  | case6 _ _ _ _ _ _ m anyErr w1 hm _ _ w3 hl =>
    have e : marking k w = (m, anyErr, w1) := hm
    have e' : launching k w = (true, w3) := by rw [launching, e]; exact hl
    exact Or.inl ⟨nofun, Or.inr (Or.inr (Or.inr (by rw [e'])))⟩
  | case7 _ hk hgone _ _ hbusy m anyErr w1 hm _ _ w3 hl =>
    have e : marking k w = (m, anyErr, w1) := hm
    have e' : launching k w = (false, w3) := by rw [launching, e]; exact hl
    refine Or.inr ⟨rfl, ?_, fun i hi => ?_, by rw [e', e]; rfl⟩
    · simp only [ge_iff_le, Bool.or_eq_true, decide_eq_true_eq, not_or, Nat.not_le] at hk
      exact hk.1
    · simp only [List.any_eq_true, not_exists, not_and, Bool.not_eq_true] at hbusy hgone
      have ho := hbusy i hi
      simp only [owned, Option.isSome_eq_false_iff, Option.isNone_iff_eq_none] at ho
      exact ⟨ho, hgone i hi⟩

theorem keep_begun (k : Nat) (w : World) : Keep w (begun k w) := keep_setCmd w k _ (fun _ => rfl)

theorem keep_marking (k : Nat) (w : World) : Keep w (marking k w).2.2 :=
  (keep_begun k w).trans (keep_eff (eff_markAll _ _))

theorem launching_cands (k : Nat) (w : World) : (launching k w).2.cands = (marking k w).2.2.cands :=
  (createAll_spec k _ 0 _).1

theorem carried_begun (k : Nat) (w : World) : Carried w (begun k w) :=
  carried_setCmd_plain w k _ (fun _ => rfl) (fun _ => rfl)

theorem carried_marking (k : Nat) (w : World) : Carried w (marking k w).2.2 :=
  (carried_begun k w).trans (carried_eff (eff_markAll _ _))

theorem carried_launching (k : Nat) (w : World) : Carried w (launching k w).2 :=
  ((carried_marking k w).trans (carried_setCmd_plain _ k (fun c => { c with live := (marking k w).1 }) (fun _ => rfl)
    (fun _ => rfl))).trans (createAll_spec k _ 0 _).2

theorem carried_commit (k : Nat) (marked : List Nat) (w : World) : Carried w (commit k marked w) :=
  (carried_setCmd_map w k (fun r => { r with named := true }) (fun _ hr => ⟨hr.latch, hr.init, hr.ever, hr.exist⟩)
    (fun _ h => h)).trans (carried_foldl_setCand _ _ _)

theorem carried_startCommand (k : Nat) (via : Bool) (w : World) : Carried w (startCommand k via w).2 := by
  rcases startCommand_cases k via w with ⟨_, e | e | e | e⟩ | ⟨_, _, _, e⟩ <;> rw [e]
  · exact Carried.refl w
  · exact carried_begun k w
  · exact carried_marking k w
  · exact carried_launching k w
  · exact (carried_launching k w).trans (carried_commit k _ _)

theorem startCommand_owner_mark (k : Nat) (via : Bool) (w : World) :
    ((startCommand k via w).1 ≠ .ok ∧
      ∀ j, (candAt (startCommand k via w).2 j).owner = (candAt w j).owner ∧
           (candAt (startCommand k via w).2 j).mark = (candAt w j).mark) ∨
    ((startCommand k via w).1 = .ok ∧ k < w.cmds.length ∧
      (∀ i ∈ (cmdAt w k).cands, (candAt w i).owner = none ∧ (candAt w i).gone = false) ∧
      ∀ j, ((candAt (startCommand k via w).2 j).owner = (candAt w j).owner ∧
              (candAt (startCommand k via w).2 j).mark = (candAt w j).mark) ∨
           (j ∈ (cmdAt w k).cands ∧ (candAt (startCommand k via w).2 j).owner = some k ∧
              (candAt (startCommand k via w).2 j).mark = true)) := by
  -- every world a start passes through before the commit has the candidates of one that `Keep`s those of `w`
  have kept : ∀ {w1 w2 : World}, Keep w w1 → w2.cands = w1.cands → ∀ j,
      (candAt w2 j).owner = (candAt w j).owner ∧ (candAt w2 j).mark = (candAt w j).mark :=
    fun hk hc j => by rw [candAt_congr hc]; exact ⟨hk.owner j, hk.mark j⟩
  rcases startCommand_cases k via w with ⟨hne, e | e | e | e⟩ | ⟨hok, hlt, hfree, e⟩
  · exact Or.inl ⟨hne, by rw [e]; exact kept (Keep.refl w) rfl⟩
  · exact Or.inl ⟨hne, by rw [e]; exact kept (keep_begun k w) rfl⟩
  · exact Or.inl ⟨hne, by rw [e]; exact kept (keep_marking k w) rfl⟩
  · exact Or.inl ⟨hne, by rw [e]; exact kept (keep_marking k w) (launching_cands k w)⟩
  · refine Or.inr ⟨hok, hlt, hfree, fun j => ?_⟩
    rw [e, commit, foldl_setCand_at (enqueue k) (fun _ => rfl)]
    split
    · rename_i hj
      exact Or.inr ⟨markAll_subset _ _ j hj.1, rfl, rfl⟩
    · exact Or.inl (kept (keep_marking k w) (launching_cands k w) j)

theorem cleanup_eq (w : World) : cleanup w =
    if !synced w then (.unsynced, w)
    else if (sweep (taintNode false) (outdatedFrom w.cands 0) w).1 then
      (.fail, (sweep (taintNode false) (outdatedFrom w.cands 0) w).2)
    else if (rollback (outdatedFrom w.cands 0) w).1 then (.fail, (rollback (outdatedFrom w.cands 0) w).2)
    else (.ok, (rollback (outdatedFrom w.cands 0) w).2) := by
  unfold cleanup rollback
  simp only [untaintAllE_eq, clearAllE_eq]
  split
  · rfl
  · split <;> rename_i h1 <;> simp only [h1]
    · rfl
    · split <;> rename_i h2 <;> simp [h2]

theorem eff_cleanup (w : World) : Eff tcUpd w (cleanup w).2 := by
  rw [cleanup_eq]
  split
  · exact Eff.refl w
  · split
    · exact eff_untaintSweep _ w
    · split <;> exact eff_rollback _ w

theorem mem_outdatedFrom : ∀ (cs : List Cand) (b i : Nat) (c : Cand), cs[i]? = some c →
    c.owner = none → markObs c = false → c.gone = false → b + i ∈ outdatedFrom cs b
  | [], _, _, _, h, _, _, _ => by simp at h
  | c0 :: t, b, 0, c, h, ho, hm, hg => by
    simp only [List.getElem?_cons_zero, Option.some.injEq] at h
    subst h
    simp [outdatedFrom, ho, hm, hg]
  | c0 :: t, b, i + 1, c, h, ho, hm, hg => by
    simp only [List.getElem?_cons_succ] at h
    have ih := mem_outdatedFrom t (b + 1) i c h ho hm hg
    have e : b + 1 + i = b + (i + 1) := by omega
    rw [e] at ih
    unfold outdatedFrom
    split
    · exact ih
    · exact List.mem_cons_of_mem _ ih

theorem cleanup_quiet {w : World} (hc : Calm w) (hs : synced w = true) :
    (cleanup w).1 = .ok ∧
    ∀ i, i < w.cands.length → (candAt w i).owner = none → (candAt w i).mark = false → (candAt w i).deleting = false →
      (candAt w i).gone = false →
      (candAt (cleanup w).2 i).taint = false ∧ (candAt (cleanup w).2 i).cond = false := by
  obtain ⟨h1, h2, h3⟩ := rollback_quiet (outdatedFrom w.cands 0) hc
  rw [cleanup_eq]
  simp only [hs, h1, h2, Bool.not_true, Bool.false_eq_true, if_false]
  refine ⟨trivial, fun i hi ho hm hd hg => h3 i ?_ hg⟩
  have hci : w.cands[i]? = some (candAt w i) := by simp [candAt, List.getElem?_eq_getElem hi]
  simpa using mem_outdatedFrom w.cands 0 i (candAt w i) hci ho (by simp [markObs, hm, hd]) hg

theorem envRepl_ok (op : EnvOp) (r : Repl) (hr : ReplOK r) : ReplOK (envRepl op r) := by
  unfold envRepl
  split
  · exact hr
  · rename_i hne
    have hc := hr.exist hne
    cases op with
    | launch =>
      simp only
      refine ⟨hr.latch, fun h => ?_, hr.ever, fun _ => hc⟩
      split at h
      · cases h
      · exact hr.init h
    | init => exact ⟨fun _ => rfl, fun _ => rfl, fun _ => hc, fun _ => hc⟩
    | vanish => exact ⟨hr.latch, (fun h => by cases h), hr.ever, (fun h => absurd rfl h)⟩
    | vanishStale => exact ⟨hr.latch, (fun h => by cases h), hr.ever, (fun h => absurd rfl h)⟩

theorem envRepl_latched (op : EnvOp) (r : Repl) (h : r.latched = true) : (envRepl op r).latched = true := by
  unfold envRepl
  split
  · exact h
  · cases op <;> exact h

theorem carried_envStep (op : EnvOp) (k i : Nat) (w : World) : Carried w (envStep op k i w).2 := by
  fun_cases envStep op k i w with
  | case1 | case2 => exact Carried.refl w
  | case3 => exact carried_setRepl w k i _ (envRepl_ok op) (envRepl_latched op)

theorem envStep_cands (op : EnvOp) (k i : Nat) (w : World) : (envStep op k i w).2.cands = w.cands := by
  fun_cases envStep op k i w <;> rfl

theorem syncRepl_ok (r : Repl) (hr : ReplOK r) : ReplOK (syncRepl r) := by
  unfold syncRepl
  split
  · exact ⟨hr.latch, hr.init, hr.ever, hr.exist⟩
  · exact hr

theorem syncRepl_latched (r : Repl) (h : r.latched = true) : (syncRepl r).latched = true := by
  unfold syncRepl
  split <;> exact h

theorem carried_syncAll (w : World) : Carried w (syncAll w) := by
  refine ⟨fun hc c hm => ?_, by simp [syncAll], fun k hk => ?_⟩
  · simp only [syncAll, List.mem_map] at hm
    obtain ⟨c0, h0, rfl⟩ := hm
    exact cmdOK_map syncRepl_ok syncRepl_latched c0 (hc c0 h0)
  · simp only [cmdAt, syncAll, List.getElem?_map] at hk ⊢
    cases hget : w.cmds[k]? with
    | none => rw [hget] at hk; simp at hk
    | some c => rw [hget] at hk; simpa using hk

theorem carried_restart (w : World) : Carried w (restart w) := by
  unfold restart
  exact (carried_cmds_eq (w := w) (w' := { w with cands := w.cands.map fun c => { c with mark := false, owner := none } }) rfl).trans
    (carried_syncAll _)

theorem restart_cand (w : World) (j : Nat) :
    (candAt (restart w) j).owner = none ∧ (candAt (restart w) j).mark = false := by
  simp only [restart, syncAll, candAt, List.getElem?_map]
  cases w.cands[j]? <;> simp

theorem candGone_cmds (i : Nat) (w : World) : (candGone i w).2.cmds = w.cmds := by
  fun_cases candGone i w <;> rfl

theorem candGone_cand (i : Nat) (w : World) (j : Nat) :
    (candAt (candGone i w).2 j).owner = (candAt w j).owner ∧
    (j ≠ i → candAt (candGone i w).2 j = candAt w j) := by
  fun_cases candGone i w with
  | case1 =>
    rw [candAt_setCand]
    split
    · rename_i h
      exact ⟨rfl, fun hne => absurd h.1 hne⟩
    · exact ⟨rfl, fun _ => rfl⟩
  | case2 => exact ⟨rfl, fun _ => rfl⟩

theorem candGone_self (i : Nat) (w : World) (h : (candGone i w).1 = .ok) :
    candAt (candGone i w).2 i = vanishCand (candAt w i) := by
  revert h
  fun_cases candGone i w with
  | case1 hc =>
    simp only [Bool.and_eq_true, decide_eq_true_eq] at hc
    exact fun _ => (candAt_setCand ..).trans (if_pos ⟨rfl, hc.1⟩)
  | case2 => nofun

end Karp.OrchQueue
