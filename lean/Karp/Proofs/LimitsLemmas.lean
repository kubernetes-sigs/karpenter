/-
Helper lemmas for the limits part of C03 (`Karp/Model/Limits.lean`): resource lists as maps (`subtract`, sums of a
pass), the bound one pass keeps (`pass_bound`), and the model's pass against the specification's round
(`Karp.Spec.Limits`).
-/
import Karp.Model.Limits
import Karp.Spec.LimitsSpec
import Karp.Proofs.ListLemmas
namespace Karp.Limits
variable {κ : Type} [DecidableEq κ]

theorem lookup_subtract (lhs rhs : Res κ) (k : κ) :
    (subtract lhs rhs).lookup k = (lhs.lookup k).map (fun q => q - rhs.get k) := by
  unfold subtract
  exact lookup_map_val lhs (fun k q => q - rhs.get k) k

theorem lookup_subtractMax (v : Variant) (nodes : κ) (rem : Res κ) (opts : List (IT κ)) (k : κ) (h : opts ≠ []) :
    (subtractMax v nodes rem opts).lookup k = (rem.lookup k).map (fun q => q - decrement v nodes opts k) := by
  simp only [subtractMax, List.isEmpty_iff, h, if_false]
  exact lookup_map_val rem (fun k q => q - decrement v nodes opts k) k

theorem get_nodeCapacity (nodes : κ) (launched : Res κ) (k : κ) :
    (nodeCapacity nodes launched).get k = if k = nodes then oneNode else launched.get k := by
  unfold nodeCapacity Res.get
  rw [List.lookup_cons]
  by_cases hk : k = nodes
  · rw [if_pos hk, beq_iff_eq.mpr hk]
    rfl
  · have hf : (launched.filter (fun (k', _) => k' != nodes)).lookup k = launched.lookup k :=
      (lookup_filter_key launched (· != nodes) k).trans (if_pos (bne_iff_ne.mpr hk))
    rw [if_neg hk, beq_false_of_ne hk, hf]

theorem all_lookup (m : Res κ) (p : κ × Int → Bool) (h : m.all p = true) (k : κ) (q : Int)
    (hq : m.lookup k = some q) : p (k, q) = true :=
  List.all_eq_true.mp h _ (lookup_mem m k q hq)

theorem viable_le (rem : Res κ) (it : IT κ) (h : viable rem it = true) (k : κ) (q : Int)
    (hq : rem.lookup k = some q) : it.cap.get k ≤ q := by
  simpa using all_lookup rem _ h k q hq

theorem maxOpt_spec (l : List Int) :
    match maxOpt l with
    | none => l = []
    | some m => m ∈ l ∧ ∀ x ∈ l, x ≤ m := by
  fun_induction maxOpt l with
  | case1 => rfl
  | case2 y ys hm ih =>
    rw [hm] at ih
    subst ih
    exact ⟨List.mem_cons_self, fun x hx => Int.le_of_eq (List.mem_singleton.mp hx)⟩
  | case3 y ys m hm ih =>
    rw [hm] at ih
    simp only [List.mem_cons, forall_eq_or_imp]
    split
    · rename_i h
      exact ⟨Or.inl rfl, Int.le_refl _, fun x hx => Int.le_trans (ih.2 x hx) (Int.le_of_lt h)⟩
    · rename_i h
      exact ⟨Or.inr ih.1, Int.not_lt.mp h, ih.2⟩

def NonNeg (it : IT κ) : Prop := ∀ k v, it.cap.lookup k = some v → 0 ≤ v

theorem nonNeg_of_nonNegIT (it : IT κ) : nonNegIT it = true → NonNeg it :=
  fun h k v hl => by simpa using all_lookup it.cap _ h k v hl

theorem get_nonneg (it : IT κ) (h : NonNeg it) (k : κ) : 0 ≤ it.cap.get k := by
  unfold Res.get
  cases hl : it.cap.lookup k with
  | none => exact Int.le_refl 0
  | some v => exact h k v hl

/-- `maxAt` ranges over the options that mention `k`, while `get` reads 0 for the others: it is the largest `cap.get k`
    only because no capacity is negative -/
theorem maxAt_spec (opts : List (IT κ)) (hn : ∀ it ∈ opts, NonNeg it) (k : κ) :
    (∀ it ∈ opts, it.cap.get k ≤ maxAt opts k) ∧ (opts ≠ [] → ∃ it ∈ opts, maxAt opts k = it.cap.get k) := by
  unfold maxAt
  have hs := maxOpt_spec (opts.filterMap (fun it => it.cap.lookup k))
  split at hs
  · -- no option mentions `k`: every `get` reads 0
    rename_i hm
    have hnone : ∀ it ∈ opts, it.cap.get k = 0 := fun it hit => by
      rw [Res.get, List.filterMap_eq_nil_iff.mp hs it hit]; rfl
    rw [hm]
    exact ⟨fun it hit => Int.le_of_eq (hnone it hit), fun hne =>
      (List.exists_mem_of_ne_nil opts hne).imp fun it hit => ⟨hit, (hnone it hit).symm⟩⟩
  · rename_i m hm
    obtain ⟨it0, hit0, hl0⟩ := List.mem_filterMap.mp hs.1
    have hget0 : it0.cap.get k = m := by rw [Res.get, hl0]; rfl
    rw [hm]
    refine ⟨fun it hit => ?_, fun _ => ⟨it0, hit0, hget0.symm⟩⟩
    cases hl : it.cap.lookup k with
    | none => rw [Res.get, hl]; exact hget0 ▸ get_nonneg it0 (hn it0 hit0) k
    | some v => rw [Res.get, hl]; exact hs.2 v (List.mem_filterMap.mpr ⟨it, hit, hl⟩)

theorem maxAt_nonneg (opts : List (IT κ)) (hn : ∀ it ∈ opts, NonNeg it) (k : κ) : 0 ≤ maxAt opts k := by
  cases opts with
  | nil => exact Int.le_refl 0
  | cons o os =>
    exact Int.le_trans (get_nonneg o (hn o List.mem_cons_self) k) ((maxAt_spec _ hn k).1 o List.mem_cons_self)

/-- when `subtractMax` takes the worst-case usage of resource `k` off the remaining amount: in the repaired variant; in the
    source for every resource but the node count, and for the node count too if the source counts the node -/
def Tracks (v : Variant) (nodes k : κ) : Prop :=
  v = .repaired ∨ Karp.Gen.C03Limits.subtractMaxCountsNode = true ∨ k ≠ nodes

theorem decrement_eq_worst (v : Variant) (nodes k : κ) (opts : List (IT κ)) (h : Tracks v nodes k) :
    decrement v nodes opts k = worst nodes opts k := by
  unfold decrement worst
  cases v with
  | asIs =>
    rcases h with h | h | h
    · cases h
    · simp [h]
    · simp [h]
  | repaired => rfl

def sumWorst (nodes : κ) (claims : List (List (IT κ))) (k : κ) : Int :=
  match claims with
  | [] => 0
  | opts :: rest => worst nodes opts k + sumWorst nodes rest k

theorem openOk_iff (nodes : κ) (rem : Res κ) (opts : List (IT κ)) :
    openOk nodes rem opts = true ↔
      nodesExhausted nodes rem = false ∧ opts ≠ [] ∧ ∀ it ∈ opts, viable rem it = true := by
  unfold openOk
  simp [and_assoc]

theorem worst_nonneg (nodes : κ) (opts : List (IT κ)) (hn : ∀ it ∈ opts, NonNeg it) (k : κ) : 0 ≤ worst nodes opts k := by
  unfold worst; split
  · simp [oneNode]
  · exact maxAt_nonneg opts hn k

theorem worst_le_of_openOk (nodes : κ) (rem : Res κ) (opts : List (IT κ)) (k : κ) (q : Int)
    (hok : openOk nodes rem opts = true) (hq : rem.lookup k = some q)
    (hn : ∀ it ∈ opts, NonNeg it) (hdiv : k = nodes → oneNode ∣ q) :
    worst nodes opts k ≤ q := by
  obtain ⟨hex, hne, hv⟩ := (openOk_iff nodes rem opts).mp hok
  have hle : ∀ it ∈ opts, it.cap.get k ≤ q := fun it hit => viable_le rem it (hv it hit) k q hq
  unfold worst
  split
  · rename_i hk
    subst hk
    obtain ⟨it, hit⟩ := List.exists_mem_of_ne_nil opts hne
    have h0 : 0 ≤ q := Int.le_trans (get_nonneg it (hn it hit) k) (hle it hit)
    have hnz : q ≠ 0 := by
      intro hz
      simp [nodesExhausted, hq, hz] at hex
    exact Int.le_of_dvd (by omega) (hdiv rfl)
  · obtain ⟨it, hit, hm⟩ := (maxAt_spec opts hn k).2 hne
    rw [hm]
    exact hle it hit

/-- an empty pass needs the remaining amount to be non-negative; any other shows it by its first `OpenNew` -/
theorem pass_bound (v : Variant) (nodes k : κ) (htr : Tracks v nodes k) :
    ∀ (claims : List (List (IT κ))) (rem : Res κ) (q : Int),
      passOk v nodes rem claims = true → rem.lookup k = some q →
      (∀ opts ∈ claims, ∀ it ∈ opts, NonNeg it) → (k = nodes → oneNode ∣ q) → (claims = [] → 0 ≤ q) →
      sumWorst nodes claims k ≤ q := by
  intro claims
  induction claims with
  | nil => intro _ _ _ _ _ _ h0; exact h0 rfl
  | cons opts rest ih =>
    intro rem q hok hq hn hdiv _
    simp only [passOk, Bool.and_eq_true] at hok
    obtain ⟨hopen, hrest⟩ := hok
    have hw := worst_le_of_openOk nodes rem opts k q hopen hq (hn opts List.mem_cons_self) hdiv
    have hq' : (subtractMax v nodes rem opts).lookup k = some (q - worst nodes opts k) := by
      rw [lookup_subtractMax v nodes rem opts k ((openOk_iff nodes rem opts).mp hopen).2.1, hq,
        decrement_eq_worst v nodes k opts htr]
      rfl
    have hdiv' : k = nodes → oneNode ∣ (q - worst nodes opts k) := by
      intro hk
      rw [worst, if_pos hk]
      exact Int.dvd_sub (hdiv hk) (Int.dvd_refl _)
    exact Int.add_le_of_le_sub_left
      (ih _ _ hrest hq' (fun o ho => hn o (List.mem_cons_of_mem _ ho)) hdiv' (fun _ => Int.sub_nonneg_of_le hw))

/-! ### sums of an integer-valued function over a list -/

theorem sum_map_eraseIdx {α : Type} (f : α → Int) (l : List α) :
    ∀ i a, l[i]? = some a → ((l.eraseIdx i).map f).sum + f a = (l.map f).sum := by
  induction l with
  | nil => intro i a h; simp at h
  | cons b bs ih =>
    intro i a h
    cases i with
    | zero =>
      simp only [List.getElem?_cons_zero, Option.some.injEq] at h
      subst h
      exact Int.add_comm _ _
    | succ i =>
      rw [List.getElem?_cons_succ] at h
      rw [List.eraseIdx_cons_succ, List.map_cons, List.map_cons, List.sum_cons, List.sum_cons, Int.add_assoc, ih i a h]

theorem sum_map_eraseIdx_le {α : Type} (f : α → Int) (l : List α) (h : ∀ a ∈ l, 0 ≤ f a) (i : Nat) :
    ((l.eraseIdx i).map f).sum ≤ (l.map f).sum := by
  cases hi : l[i]? with
  | none =>
    rw [List.eraseIdx_of_length_le (List.getElem?_eq_none_iff.mp hi)]
    exact Int.le_refl _
  | some a =>
    rw [← sum_map_eraseIdx f l i a hi]
    exact Int.le_add_of_nonneg_right (h a (List.mem_of_getElem? hi))

theorem sum_map_le {α : Type} (f g : α → Int) (l : List α) (h : ∀ a ∈ l, f a ≤ g a) :
    (l.map f).sum ≤ (l.map g).sum := by
  induction l with
  | nil => exact Int.le_refl _
  | cons a as ih =>
    exact Int.add_le_add (h a List.mem_cons_self) (ih (fun b hb => h b (List.mem_cons_of_mem _ hb)))

/-! ### sums over the pool -/

def sumGet (caps : List (Res κ)) (k : κ) : Int :=
  match caps with
  | [] => 0
  | c :: cs => c.get k + sumGet cs k

/-- usage of the existing nodes: `StateNode.Capacity()` of each -/
def sumUsage (nodes : κ) (existing : List (Res κ)) (k : κ) : Int := sumGet (existing.map (nodeCapacity nodes)) k

theorem lookup_remainingAtStart (caps : List (Res κ)) : ∀ (limits : Res κ) (k : κ),
    (remainingAtStart limits caps).lookup k = (limits.lookup k).map (fun l => l - sumGet caps k) := by
  induction caps with
  | nil => intro limits k; simp [remainingAtStart, sumGet]
  | cons c cs ih =>
    intro limits k
    have : remainingAtStart limits (c :: cs) = remainingAtStart (subtract limits c) cs := rfl
    rw [this, ih, lookup_subtract]
    cases limits.lookup k with
    | none => rfl
    | some l => exact congrArg some (Int.sub_sub l (c.get k) (sumGet cs k))

theorem sumGet_eq (caps : List (Res κ)) (k : κ) : sumGet caps k = (caps.map (·.get k)).sum := by
  induction caps with
  | nil => rfl
  | cons c cs ih => simp only [sumGet, List.map_cons, List.sum_cons, ih]

theorem sumUsage_eq (nodes : κ) (existing : List (Res κ)) (k : κ) :
    sumUsage nodes existing k = (existing.map (fun e => (nodeCapacity nodes e).get k)).sum := by
  rw [sumUsage, sumGet_eq, List.map_map]
  rfl

theorem sumWorst_eq (nodes : κ) (claims : List (List (IT κ))) (k : κ) :
    sumWorst nodes claims k = (claims.map (worst nodes · k)).sum := by
  induction claims with
  | nil => rfl
  | cons c cs ih => simp only [sumWorst, List.map_cons, List.sum_cons, ih]

theorem sumWorst_append (nodes : κ) (a b : List (List (IT κ))) (k : κ) :
    sumWorst nodes (a ++ b) k = sumWorst nodes a k + sumWorst nodes b k := by
  simp only [sumWorst_eq, List.map_append, List.sum_append_int]

theorem usage_le_worst (nodes : κ) (opts : List (IT κ)) (hn : ∀ it ∈ opts, NonNeg it) (it : IT κ) (hit : it ∈ opts)
    (k : κ) (c : Int) (hc : c ≤ it.cap.get k) : (if k = nodes then oneNode else c) ≤ worst nodes opts k := by
  unfold worst
  split
  · exact Int.le_refl _
  · exact Int.le_trans hc ((maxAt_spec opts hn k).1 it hit)

/-! ### the history invariant -/

/-- well-formedness of the pool: capacities are non-negative; the node limit is a whole number of nodes -/
structure WFPool (nodes : κ) (P : Pool κ) : Prop where
  existingNonneg : ∀ e ∈ P.existing, ∀ k, 0 ≤ e.get k
  optsNonneg : ∀ opts ∈ P.unlaunched, ∀ it ∈ opts, NonNeg it
  nodesWhole : ∀ l, P.limits.lookup nodes = some l → oneNode ∣ l

/-- the pool is within its limit for resource `k`, whatever the provider launches for the unlaunched NodeClaims -/
def Within (nodes : κ) (P : Pool κ) (k : κ) : Prop :=
  ∀ l, P.limits.lookup k = some l → sumUsage nodes P.existing k + sumWorst nodes P.unlaunched k ≤ l

theorem sumUsage_nodes (nodes : κ) (existing : List (Res κ)) :
    sumUsage nodes existing nodes = oneNode * existing.length := by
  simp only [sumUsage_eq, get_nodeCapacity, if_true]
  rw [List.map_const', List.sum_replicate_int, Int.mul_comm]

theorem usage_nonneg (nodes : κ) (e : Res κ) (k : κ) (h : 0 ≤ e.get k) : 0 ≤ (nodeCapacity nodes e).get k := by
  rw [get_nodeCapacity]; split
  · simp [oneNode]
  · exact h

theorem launchOk_get (it : IT κ) (launched : Res κ) (h : launchOk it launched = true) (hn : NonNeg it) (k : κ) :
    0 ≤ launched.get k ∧ launched.get k ≤ it.cap.get k := by
  unfold Res.get
  cases hl : launched.lookup k with
  | none => exact ⟨Int.le_refl 0, get_nonneg it hn k⟩
  | some q =>
    have := all_lookup launched _ h k q hl
    simp only [Bool.and_eq_true, decide_eq_true_eq] at this
    exact this

theorem enabled_launch {v : Variant} {nodes : κ} {P : Pool κ} {i j : Nat} {launched : Res κ}
    (h : enabled v nodes P (.launch i j launched) = true) :
    ∃ opts it, P.unlaunched[i]? = some opts ∧ opts[j]? = some it ∧ launchOk it launched = true := by
  simp only [enabled] at h
  split at h
  · split at h
    · exact ⟨_, _, ‹_›, ‹_›, h⟩
    · cases h
  · cases h

theorem within_of_le (nodes k : κ) (P Q : Pool κ) (hlim : Q.limits = P.limits) (hin : Within nodes P k)
    (h : sumUsage nodes Q.existing k + sumWorst nodes Q.unlaunched k
      ≤ sumUsage nodes P.existing k + sumWorst nodes P.unlaunched k) : Within nodes Q k :=
  fun l hl => Int.le_trans h (hin l (by rwa [hlim] at hl))

theorem step_within (v : Variant) (nodes k : κ) (htr : Tracks v nodes k) (P : Pool κ) (e : Ev κ)
    (hwf : WFPool nodes P) (hin : Within nodes P k) (hen : enabled v nodes P e = true) :
    WFPool nodes (applyEv P e) ∧ Within nodes (applyEv P e) k := by
  cases e with
  | pass claims =>
    simp only [enabled, Bool.and_eq_true, List.isEmpty_iff, List.all_eq_true] at hen
    obtain ⟨⟨hemp, hpass⟩, hnn⟩ := hen
    have hcl : ∀ opts ∈ claims, ∀ it ∈ opts, NonNeg it := fun opts ho it hit => nonNeg_of_nonNegIT it (hnn opts ho it hit)
    refine ⟨⟨hwf.existingNonneg, ?_, hwf.nodesWhole⟩, ?_⟩
    · intro opts ho
      rcases List.mem_append.mp ho with ho | ho
      · exact hwf.optsNonneg opts ho
      · exact hcl opts ho
    · intro l hl
      have h0 := hin l hl
      simp only [applyEv, hemp, List.nil_append, sumWorst, Int.add_zero] at h0 ⊢
      have hq : (startRemaining nodes P).lookup k = some (l - sumUsage nodes P.existing k) := by
        rw [startRemaining, lookup_remainingAtStart, show P.limits.lookup k = some l from hl]
        rfl
      have hdiv : k = nodes → oneNode ∣ (l - sumUsage nodes P.existing k) := by
        intro hk
        subst hk
        rw [sumUsage_nodes]
        exact Int.dvd_sub (hwf.nodesWhole l hl) (Int.dvd_mul_right _ _)
      exact Int.add_le_of_le_sub_left
        (pass_bound v nodes k htr claims _ _ hpass hq hcl hdiv (fun _ => Int.sub_nonneg_of_le h0))
  | launch i j launched =>
    obtain ⟨opts, it, hi, hj, hok⟩ := enabled_launch hen
    have hitmem : it ∈ opts := List.mem_of_getElem? hj
    have hnn : ∀ it ∈ opts, NonNeg it := hwf.optsNonneg opts (List.mem_of_getElem? hi)
    have hget := launchOk_get it launched hok (hnn it hitmem)
    refine ⟨⟨?_, fun o ho => hwf.optsNonneg o (List.mem_of_mem_eraseIdx ho), hwf.nodesWhole⟩,
      within_of_le nodes k P _ rfl hin ?_⟩
    · intro e he k'
      rcases List.mem_append.mp he with he | he
      · exact hwf.existingNonneg e he k'
      · rw [List.mem_singleton.mp he]
        exact (hget k').1
    · have h1 := sum_map_eraseIdx (worst nodes · k) P.unlaunched i opts hi
      have h3 : (nodeCapacity nodes launched).get k ≤ worst nodes opts k := by
        rw [get_nodeCapacity]
        exact usage_le_worst nodes opts hnn it hitmem k _ (hget k).2
      simp only [applyEv, sumUsage_eq, sumWorst_eq, List.map_append, List.sum_append_int, List.map_cons,
        List.map_nil, List.sum_cons, List.sum_nil]
      omega
  | lose i =>
    refine ⟨⟨hwf.existingNonneg, fun o ho => hwf.optsNonneg o (List.mem_of_mem_eraseIdx ho), hwf.nodesWhole⟩,
      within_of_le nodes k P _ rfl hin (Int.add_le_add_left ?_ _)⟩
    simp only [applyEv, sumWorst_eq]
    exact sum_map_eraseIdx_le _ _ (fun o ho => worst_nonneg nodes o (hwf.optsNonneg o ho) k) i
  | remove i =>
    refine ⟨⟨fun e he => hwf.existingNonneg e (List.mem_of_mem_eraseIdx he), hwf.optsNonneg, hwf.nodesWhole⟩,
      within_of_le nodes k P _ rfl hin (Int.add_le_add_right ?_ _)⟩
    simp only [applyEv, sumUsage_eq]
    exact sum_map_eraseIdx_le _ _ (fun e he => usage_nonneg nodes e k (hwf.existingNonneg e he k)) i

theorem run_within (v : Variant) (nodes k : κ) (htr : Tracks v nodes k) (evs : List (Ev κ)) :
    ∀ P, WFPool nodes P → Within nodes P k → enabledAll v nodes P evs = true →
      WFPool nodes (runEvs P evs) ∧ Within nodes (runEvs P evs) k := by
  induction evs with
  | nil => intro P hwf hin _; exact ⟨hwf, hin⟩
  | cons e es ih =>
    intro P hwf hin hen
    simp only [enabledAll, Bool.and_eq_true] at hen
    obtain ⟨h1, h2⟩ := step_within v nodes k htr P e hwf hin hen.1
    exact ih _ h1 h2 hen.2

/-! ### bridge to the independent specification -/

theorem spec_usage_eq (nodes : κ) (cap : Res κ) (k : κ) :
    Karp.Spec.Limits.usage nodes cap k = (nodeCapacity nodes cap).get k := by
  rw [get_nodeCapacity]; rfl

omit [DecidableEq κ] in
theorem foldl_max_le (f : IT κ → Int) (w : Int) (opts : List (IT κ)) (h : ∀ it ∈ opts, f it ≤ w) :
    ∀ m, m ≤ w → opts.foldl (fun m o => if f o > m then f o else m) m ≤ w := by
  induction opts with
  | nil => intro m hm; simpa using hm
  | cons o os ih =>
    intro m hm
    simp only [List.foldl_cons]
    apply ih (fun it hit => h it (List.mem_cons_of_mem _ hit))
    split
    · exact h o List.mem_cons_self
    · exact hm

theorem spec_worst_le (nodes : κ) (opts : List (IT κ)) (hn : ∀ it ∈ opts, NonNeg it) (k : κ) :
    Karp.Spec.Limits.worstUsage nodes (opts.map (·.cap)) k ≤ worst nodes opts k := by
  unfold Karp.Spec.Limits.worstUsage
  rw [List.foldl_map]
  apply foldl_max_le (fun it => Karp.Spec.Limits.usage nodes it.cap k)
  · exact fun it hit => usage_le_worst nodes opts hn it hit k _ (Int.le_refl _)
  · exact worst_nonneg nodes opts hn k

theorem sumInt_eq (l : List Int) : Karp.Spec.Limits.sumInt l = l.sum := by
  induction l with
  | nil => rfl
  | cons x xs ih => simp only [Karp.Spec.Limits.sumInt, List.sum_cons, ih]

theorem spec_total_le (nodes : κ) (P : Pool κ) (hwf : WFPool nodes P) (k : κ) :
    Karp.Spec.Limits.total nodes P.existing (P.unlaunched.map (fun o => o.map (·.cap))) k
      ≤ sumUsage nodes P.existing k + sumWorst nodes P.unlaunched k := by
  simp only [Karp.Spec.Limits.total, sumInt_eq, sumUsage_eq, sumWorst_eq, List.map_map, spec_usage_eq]
  have := sum_map_le _ _ P.unlaunched (fun o ho => spec_worst_le nodes o (hwf.optsNonneg o ho) k)
  exact Int.add_le_add_left this _

theorem exceededBy_false_iff (limits usage : Res κ) :
    exceededBy limits usage = false ↔ ∀ k u l, (k, u) ∈ usage → limits.lookup k = some l → u ≤ l := by
  rw [exceededBy, List.any_eq_false]
  constructor
  · intro h k u l hm hl
    have := h (k, u) hm
    simp only [hl, decide_eq_true_eq] at this
    exact Int.not_lt.mp this
  · rintro h ⟨k, u⟩ hm
    cases hl : limits.lookup k with
    | none => simp [hl]
    | some l => simpa [hl] using h k u l hm hl

end Karp.Limits
