import Karp.Model.Ring
import Karp.Spec.Window

namespace Karp.Ring
open Karp.Spec.Window (lastN)

variable {α : Type}

theorem lastN_length_le (n : Nat) (l : List α) (h : l.length ≤ n) : lastN n l = l := by
  unfold lastN
  have : l.length - n = 0 := by omega
  simp [this]

theorem lastN_length (n : Nat) (l : List α) : (lastN n l).length = min n l.length := by
  unfold lastN
  rw [List.length_drop]
  omega

theorem lastN_cons (x : α) (l : List α) {n : Nat} (h : l.length = n) : lastN n (x :: l) = l := by
  unfold lastN
  rw [List.length_cons, h, Nat.add_sub_cancel_left]
  rfl

theorem lastN_eq_nil (n : Nat) (l : List α) (hn : 0 < n) : lastN n l = [] ↔ l = [] := by
  rw [← List.length_eq_zero_iff, lastN_length, ← List.length_eq_zero_iff]
  omega

theorem lastN_drop (n k : Nat) (l : List α) (h : k ≤ l.length - n) : lastN n (l.drop k) = lastN n l := by
  unfold lastN
  rw [List.drop_drop, List.length_drop]
  congr 1
  omega

theorem lastN_append_lastN (n : Nat) (l m : List α) :
    lastN n (lastN n l ++ m) = lastN n (l ++ m) := by
  rw [← lastN_drop n (l.length - n) (l ++ m) (by rw [List.length_append]; omega),
    List.drop_append_of_le_length (by omega)]
  rfl

/-- well-formedness of a ring buffer: what `New`/`Insert`/`Reset` maintain -/
structure WF (b : Ring α) : Prop where
  capPos : 0 < b.cap
  lenLe : b.values.length ≤ b.cap
  headLt : b.head < b.cap
  headZero : b.values.length < b.cap → b.head = 0

theorem wf_new (c : Nat) (h : 0 < c) : WF (Ring.new c : Ring α) :=
  ⟨h, by simp [Ring.new], by simp [Ring.new, h], by simp [Ring.new]⟩

theorem wf_reset (b : Ring α) (h : WF b) : WF b.reset :=
  ⟨h.capPos, by simp [Ring.reset], by simp [Ring.reset, h.capPos], by simp [Ring.reset]⟩

theorem wf_insert (b : Ring α) (v : α) (h : WF b) : WF (b.insert v) := by
  obtain ⟨hc, hl, hh, h0⟩ := h
  fun_cases Ring.insert b v with
  | case1 hlt => exact ⟨hc, by simp; omega, by simp [h0 hlt, hc], fun _ => by simp [h0 hlt]⟩
  | case2 hge => exact ⟨hc, by simpa using hl, Nat.mod_lt _ hc, fun hlt => by simp at hlt; omega⟩

@[simp] theorem cap_insert (b : Ring α) (v : α) : (b.insert v).cap = b.cap := by
  unfold Ring.insert; split <;> rfl
@[simp] theorem cap_reset (b : Ring α) : b.reset.cap = b.cap := rfl

/-- reading a full buffer oldest-first from `head % cap` is reading it from `head`, for every `head ≤ cap`
    (at `head = cap` both read it from 0) -/
theorem logical_mod (c : Nat) (l : List α) (h : Nat) (hh : h ≤ l.length) (hc : l.length = c) :
    l.drop (h % c) ++ l.take (h % c) = l.drop h ++ l.take h := by
  subst hc
  rcases Nat.lt_or_eq_of_le hh with hlt | rfl
  · rw [Nat.mod_eq_of_lt hlt]
  · simp

/-- the key step: inserting keeps the logical (oldest-first) content equal to the sliding window -/
theorem logical_insert (b : Ring α) (v : α) (h : WF b) :
    (b.insert v).logical = lastN b.cap (b.logical ++ [v]) := by
  obtain ⟨hc, hl, hh, h0⟩ := h
  fun_cases Ring.insert b v with
  | case1 hlt =>
    simp only [Ring.logical, h0 hlt, List.drop_zero, List.take_zero, List.append_nil]
    rw [lastN_length_le]
    simp; omega
  | case2 hge =>
    -- full: the oldest entry `values[head]` is overwritten and the head moves on, so oldest-first the buffer held
    -- `values[head] :: rest` and now holds `rest ++ [v]`: the window drops `values[head]`
    have hlen : b.values.length = b.cap := by omega
    have hhd : b.head < b.values.length := by omega
    simp only [Ring.logical]
    rw [logical_mod b.cap _ (b.head + 1) (by rw [List.length_set]; omega) (by rw [List.length_set, hlen]),
      List.drop_set_of_lt (Nat.lt_succ_self _), List.take_succ_eq_append_getElem (by rwa [List.length_set]),
      List.getElem_set_self, List.take_set_of_le (Nat.le_refl _), List.drop_eq_getElem_cons hhd,
      List.cons_append, List.cons_append, ← List.append_assoc,
      lastN_cons _ _ (by simp only [List.length_append, List.length_drop, List.length_take, List.length_singleton]; omega)]

theorem length_logical (b : Ring α) : b.logical.length = b.values.length := by
  unfold Ring.logical
  rw [List.length_append, Nat.add_comm, ← List.length_append, List.take_append_drop]

theorem failures_logical (t : Tracker) : failures t.logical = failures t.values := by
  unfold failures Ring.logical
  rw [List.filter_append, List.length_append, Nat.add_comm, ← List.length_append, ← List.filter_append,
    List.take_append_drop]

end Karp.Ring
