/-
C11 helper lemmas: the per-NodePool resource totals are, at every moment, the sum of what the cached state nodes
contribute (telescoping invariant of `updateNodePoolResources`).
-/
import Karp.Proofs.ClusterStateMap

namespace Karp.ClusterState

def contribAt (s : SNode) (p : String) : Res := if p ≠ "" ∧ s.contrib.1 = p then s.contrib.2 else Res.zero

/-- `contribAt` for one side `(pool name, resources)` of `updateNodePoolResources` as `Cluster.sideOf` reads it -/
def sideAt (o : String × Res) (p : String) : Res := if p ≠ "" ∧ o.1 = p then o.2 else Res.zero

def optContribAt (o : Option SNode) (p : String) : Res := match o with | some s => contribAt s p | none => Res.zero

theorem sideAt_sideOf (o : Option SNode) (p : String) : sideAt (Cluster.sideOf o) p = optContribAt o p := by
  cases o with
  | none => simp [Cluster.sideOf, sideAt, optContribAt]
  | some s => rfl

def poolSum : Map SNode → String → Res
  | [], _ => Res.zero
  | (_, s) :: m, p => (contribAt s p).add (poolSum m p)

theorem poolSum_erase (m : Map SNode) (id p : String) (h : Map.NoDup m) :
    poolSum (Map.erase m id) p = (poolSum m p).sub (optContribAt (Map.get m id) p) := by
  induction m with
  | nil => simp [Map.erase_nil, poolSum, optContribAt, Res.sub_zero]
  | cons e m ih =>
    obtain ⟨k0, s⟩ := e
    rw [Map.noDup_cons] at h
    rw [Map.erase_cons, Map.get_cons]
    by_cases h0 : k0 = id
    · simp only [h0, if_true, poolSum, optContribAt]
      have hn : Map.get m id = none := Map.get_none_of_not_mem_keys (h0 ▸ h.1)
      rw [Map.erase_of_get_none m id hn, Res.add_comm, Res.add_sub_cancel]
    · simp only [h0, if_false, poolSum]
      rw [ih h.2, Res.add_comm, ← Res.add_sub_comm, Res.add_comm]

theorem poolSum_put (m : Map SNode) (id p : String) (s : SNode) (h : Map.NoDup m) :
    poolSum (Map.put m id s) p = ((poolSum m p).sub (optContribAt (Map.get m id) p)).add (contribAt s p) := by
  unfold Map.put
  simp only [poolSum]
  rw [poolSum_erase m id p h, Res.add_comm]

theorem getD_gcPool (pr : Map Res) (name p : String) :
    Map.getD (Cluster.gcPool pr name) p Res.zero = Map.getD pr p Res.zero := by
  unfold Cluster.gcPool
  by_cases hz : (Map.getD pr name Res.zero).isZero = true
  · rw [if_pos hz, Map.getD_eq, Map.getD_eq, Map.get_erase]
    by_cases hp : p = name
    · rw [if_pos hp]
      rw [Res.isZero_iff, Map.getD_eq] at hz
      rw [hp, hz]; rfl
    · rw [if_neg hp]
  · rw [if_neg hz]

theorem getD_put (pr : Map Res) (k p : String) (v : Res) :
    Map.getD (Map.put pr k v) p Res.zero = if p = k then v else Map.getD pr p Res.zero := by
  rw [Map.getD_eq, Map.getD_eq, Map.get_put]
  by_cases h : p = k <;> simp [h]

/-- one side of `poolUpdate`; `f` is `Res.sub` or `Res.add` -/
theorem getD_adjust (f : Res → Res → Res) (hf : ∀ a, f a Res.zero = a) (pr : Map Res) (s : String × Res) (q : String) :
    Map.getD (if (s.1 ≠ "" && !s.2.isZero) = true then Map.put pr s.1 (f (Map.getD pr s.1 Res.zero) s.2) else pr) q Res.zero
      = f (Map.getD pr q Res.zero) (sideAt s q) := by
  unfold sideAt
  by_cases hq : q ≠ "" ∧ s.1 = q
  · rw [if_pos hq]
    by_cases hc : (s.1 ≠ "" && !s.2.isZero) = true
    · rw [if_pos hc, getD_put, if_pos hq.2.symm, hq.2]
    · rw [if_neg hc]
      have : s.2.isZero = true := by
        have hne : s.1 ≠ "" := hq.2 ▸ hq.1
        simpa [hne] using hc
      rw [(Res.isZero_iff _).mp this, hf]
  · rw [if_neg hq, hf]
    by_cases hc : (s.1 ≠ "" && !s.2.isZero) = true
    · rw [if_pos hc, getD_put, if_neg]
      intro e
      have hne : s.1 ≠ "" := by simp only [Bool.and_eq_true, decide_eq_true_eq] at hc; exact hc.1
      exact hq ⟨e ▸ hne, e.symm⟩
    · rw [if_neg hc]

theorem getD_poolUpdate (pr : Map Res) (o n : String × Res) (p : String) :
    Map.getD (Cluster.poolUpdate pr o n) p Res.zero = ((Map.getD pr p Res.zero).sub (sideAt o p)).add (sideAt n p) := by
  unfold Cluster.poolUpdate
  simp only [getD_gcPool]
  -- making sure the new pool has an entry changes no total
  have h1 : ∀ q, Map.getD (if (n.1 ≠ "" && !Map.has pr n.1) = true then Map.put pr n.1 Res.zero else pr) q Res.zero
      = Map.getD pr q Res.zero := by
    intro q
    by_cases hc : (n.1 ≠ "" && !Map.has pr n.1) = true
    · rw [if_pos hc, getD_put]
      by_cases hq : q = n.1
      · rw [if_pos hq, Map.getD_eq, hq]
        have : Map.has pr n.1 = false := by
          simp only [Bool.and_eq_true, Bool.not_eq_eq_eq_not, Bool.not_true] at hc
          exact hc.2
        rw [Map.has_eq] at this
        cases hg : Map.get pr n.1 with
        | none => rfl
        | some v => rw [hg] at this; simp at this
      · rw [if_neg hq]
    · rw [if_neg hc]
  generalize (if (n.1 ≠ "" && !Map.has pr n.1) = true then Map.put pr n.1 Res.zero else pr) = pr1 at h1 ⊢
  rw [getD_adjust Res.add Res.add_zero _ n, getD_adjust Res.sub Res.sub_zero _ o, h1]

theorem getD_updateNodePoolResources (c : Cluster) (old new : Option SNode) (p : String) :
    Map.getD (c.updateNodePoolResources old new).poolRes p Res.zero
      = ((Map.getD c.poolRes p Res.zero).sub (optContribAt old p)).add (optContribAt new p) := by
  unfold Cluster.updateNodePoolResources
  simp only [getD_poolUpdate, sideAt_sideOf]

structure PoolInv (c : Cluster) : Prop where
  nodup : Map.NoDup c.nodes
  sum : ∀ p, Map.getD c.poolRes p Res.zero = poolSum c.nodes p

theorem poolInv_empty : PoolInv {} := ⟨Map.noDup_nil, fun _ => rfl⟩

theorem PoolInv.frame {c : Cluster} (h : PoolInv c) (b nn cn : Map String) (np : NPState) :
    PoolInv ⟨c.nodes, b, nn, cn, c.poolRes, np⟩ :=
  ⟨h.nodup, h.sum⟩

/-- The one shape every Node / NodeClaim / mark operation of the cache has: the entry `id` becomes `new` (`none`: it is
    removed), `updateNodePoolResources old new` runs, and the name maps and the NodePool state are replaced. The untouched
    fields are those of `c` itself, so that a statement about them never has to look inside the write. -/
def Cluster.write (c : Cluster) (id : String) (old new : Option SNode) (nn cn : Map String) (np : NPState) : Cluster :=
  ⟨match new with | some n => Map.put c.nodes id n | none => Map.erase c.nodes id, c.bindings, nn, cn,
   Cluster.poolUpdate c.poolRes (Cluster.sideOf old) (Cluster.sideOf new), np⟩

theorem get_write (c : Cluster) (id : String) (old new : Option SNode) (nn cn : Map String) (np : NPState) (id' : String) :
    Map.get (c.write id old new nn cn np).nodes id' = if id' = id then new else Map.get c.nodes id' := by
  cases new with
  | none => exact Map.get_erase _ _ _
  | some n => exact Map.get_put _ _ _ _

theorem poolInv_write {c : Cluster} (h : PoolInv c) (id : String) {old : Option SNode} (new : Option SNode)
    (nn cn : Map String) (np : NPState) (hold : ∀ p, optContribAt old p = optContribAt (Map.get c.nodes id) p) :
    PoolInv (c.write id old new nn cn np) := by
  cases new with
  | none =>
    refine ⟨Map.noDup_erase h.nodup id, fun p => ?_⟩
    show Map.getD (c.updateNodePoolResources old none).poolRes p Res.zero = poolSum (Map.erase c.nodes id) p
    rw [getD_updateNodePoolResources, poolSum_erase _ _ _ h.nodup, h.sum, hold]
    exact Res.add_zero _
  | some n =>
    refine ⟨Map.noDup_put h.nodup id n, fun p => ?_⟩
    show Map.getD (c.updateNodePoolResources old (some n)).poolRes p Res.zero = poolSum (Map.put c.nodes id n) p
    rw [getD_updateNodePoolResources, poolSum_put _ _ _ _ h.nodup, h.sum, hold]
    rfl

theorem poolInv_touch {c c' : Cluster} (h : PoolInv c) {id : String} {sn sn' : SNode} (hg : Map.get c.nodes id = some sn)
    (hc : sn'.contrib = sn.contrib) (hn : c'.nodes = Map.put c.nodes id sn') (hp : c'.poolRes = c.poolRes) : PoolInv c' := by
  refine ⟨by rw [hn]; exact Map.noDup_put h.nodup id sn', ?_⟩
  intro p
  rw [hp, hn, poolSum_put _ _ _ _ h.nodup, h.sum, hg]
  simp only [optContribAt, contribAt, hc]
  rw [Res.sub_add_cancel]

end Karp.ClusterState
