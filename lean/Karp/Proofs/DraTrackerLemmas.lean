/-
Helper lemmas for the DRA half of C17: the allocation tracker keeps its two indices consistent, one owner per
in-cluster device, no duplicate holdings — for every sequence of guarded commits and releases; no panic is reachable.
-/
import Karp.Model.DraTracker
namespace Karp.DraTracker

structure Inv (t : Tracker) : Prop where
  owner : ∀ d n1 i1 n2 i2, (d, n1, i1) ∈ t.inflight → (d, n2, i2) ∈ t.inflight → n1 = n2
  nodupI : t.inflight.Nodup
  nodupB : t.byNC.Nodup
  nodupT : t.template.Nodup
  mirror : ∀ d n i, (n, i, d) ∈ t.byNC ↔ (d, n, i) ∈ t.inflight
  pre : ∀ d n i, (d, n, i) ∈ t.inflight → d ∉ t.prealloc

theorem inv_new (prealloc : List String) : Inv (Tracker.new prealloc) :=
  ⟨by simp [Tracker.new], by simp [Tracker.new], by simp [Tracker.new], by simp [Tracker.new],
   by simp [Tracker.new], by simp [Tracker.new]⟩

theorem owner_none (t : Tracker) (d : String) (h : t.owner? d = none) : ∀ n i, (d, n, i) ∉ t.inflight := by
  intro n i hm
  rw [Tracker.owner?, Option.map_eq_none_iff, List.find?_eq_none] at h
  exact h (d, n, i) hm (beq_self_eq_true d)

theorem owner_some (t : Tracker) (d : String) (o : NC) (h : t.owner? d = some o) : ∃ i, (d, o, i) ∈ t.inflight := by
  obtain ⟨⟨d', n, i⟩, hx, rfl⟩ := Option.map_eq_some_iff.mp h
  have hd : d' = d := eq_of_beq (List.find?_some (p := fun x : String × NC × IT => x.1 == d) hx)
  exact ⟨i, hd ▸ List.mem_of_find?_eq_some hx⟩

theorem owner_of_mem (t : Tracker) (I : Inv t) (d : String) (n : NC) (i : IT) (h : (d, n, i) ∈ t.inflight) :
    t.owner? d = some n := by
  cases ho : t.owner? d with
  | none => exact absurd h (owner_none t d ho n i)
  | some o =>
    obtain ⟨i', hm⟩ := owner_some t d o ho
    rw [I.owner d o i' n i hm h]

theorem isAllocated_template (t : Tracker) {d : Dev} (nc : NC) (it : IT) (hd : d.template = true) :
    t.isAllocated d nc it = t.template.contains (nc, it, d.name) := by
  unfold Tracker.isAllocated
  rw [if_pos hd]

theorem isAllocated_cluster (t : Tracker) {d : Dev} (nc : NC) (it : IT) (hd : d.template = false) :
    t.isAllocated d nc it = (t.prealloc.contains d.name ||
      match t.owner? d.name with
      | some o => o != nc || t.inflight.contains (d.name, nc, it)
      | none => false) := by
  unfold Tracker.isAllocated
  rw [if_neg (by rw [hd]; exact Bool.false_ne_true)]
  cases t.prealloc.contains d.name <;> rfl

theorem not_contains {α : Type} [BEq α] [LawfulBEq α] {l : List α} {a : α} (h : a ∉ l) : ¬ (l.contains a = true) :=
  fun hc => h (List.contains_iff_mem.mp hc)

theorem free_cluster (t : Tracker) (I : Inv t) (d : Dev) (nc : NC) (it : IT) (hd : d.template = false)
    (h : t.isAllocated d nc it = false) :
    d.name ∉ t.prealloc ∧ (∀ n i, (d.name, n, i) ∈ t.inflight → n = nc) ∧ (d.name, nc, it) ∉ t.inflight := by
  rw [isAllocated_cluster t nc it hd, Bool.or_eq_false_iff] at h
  obtain ⟨h1, h2⟩ := h
  refine ⟨fun hm => (by rw [List.contains_iff_mem.mpr hm] at h1; cases h1), fun n i hm => ?_, fun hm => ?_⟩
  · rw [owner_of_mem t I d.name n i hm] at h2
    exact bne_eq_false_iff_eq.mp (Bool.or_eq_false_iff.mp h2).1
  · rw [owner_of_mem t I d.name nc it hm, List.contains_iff_mem.mpr hm] at h2
    cases (Bool.or_true _).symm.trans h2

theorem cluster_free_of (t : Tracker) (d : Dev) (nc : NC) (it : IT) (hd : d.template = false)
    (h1 : d.name ∉ t.prealloc) (h2 : ∀ n i, (d.name, n, i) ∈ t.inflight → n = nc) (h3 : (d.name, nc, it) ∉ t.inflight) :
    t.isAllocated d nc it = false := by
  rw [isAllocated_cluster t nc it hd, Bool.eq_false_iff.mpr (not_contains h1), Bool.false_or]
  cases ho : t.owner? d.name with
  | none => rfl
  | some o =>
    obtain ⟨i, hm⟩ := owner_some t d.name o ho
    cases h2 o i hm
    show (nc != nc || t.inflight.contains (d.name, nc, it)) = false
    rw [bne_self_eq_false, Bool.false_or]
    exact Bool.eq_false_iff.mpr (not_contains h3)

theorem free_template (t : Tracker) (d : Dev) (nc : NC) (it : IT) (hd : d.template = true)
    (h : t.isAllocated d nc it = false) : (nc, it, d.name) ∉ t.template := by
  rw [isAllocated_template t nc it hd] at h
  intro hm
  rw [List.contains_iff_mem.mpr hm] at h
  cases h

theorem Inv.insert {t : Tracker} (I : Inv t) {d : String} {nc : NC} {it : IT} (hp : d ∉ t.prealloc)
    (hown : ∀ n i, (d, n, i) ∈ t.inflight → n = nc) (hni : (d, nc, it) ∉ t.inflight) :
    Inv { t with byNC := (nc, it, d) :: t.byNC, inflight := (d, nc, it) :: t.inflight } := by
  have hnb : (nc, it, d) ∉ t.byNC := fun hm => hni ((I.mirror d nc it).mp hm)
  refine ⟨fun d0 n1 i1 n2 i2 h1 h2 => ?_, List.nodup_cons.mpr ⟨hni, I.nodupI⟩, List.nodup_cons.mpr ⟨hnb, I.nodupB⟩,
    I.nodupT, fun d0 n i => ?_, fun d0 n i hm => ?_⟩
  · rcases List.mem_cons.mp h1 with e1 | h1 <;> rcases List.mem_cons.mp h2 with e2 | h2
    · cases e1; cases e2; rfl
    · cases e1; exact (hown n2 i2 h2).symm
    · cases e2; exact hown n1 i1 h1
    · exact I.owner d0 n1 i1 n2 i2 h1 h2
  · show (n, i, d0) ∈ (nc, it, d) :: t.byNC ↔ (d0, n, i) ∈ (d, nc, it) :: t.inflight
    rw [List.mem_cons, List.mem_cons, I.mirror, Prod.mk.injEq, Prod.mk.injEq, Prod.mk.injEq, Prod.mk.injEq]
    exact or_congr_left ⟨fun ⟨a, b, c⟩ => ⟨c, a, b⟩, fun ⟨a, b, c⟩ => ⟨b, c, a⟩⟩
  · rcases List.mem_cons.mp hm with e | hm
    · cases e; exact hp
    · exact I.pre d0 n i hm

theorem dev_ext (a b : Dev) (h1 : a.name = b.name) (h2 : a.template = b.template) : a = b := by
  cases a; cases b; simp_all

theorem commit1_ok (t : Tracker) (I : Inv t) (nc : NC) (it : IT) (d : Dev) (h : t.isAllocated d nc it = false) :
    ∃ t', t.commit1 nc it d = .ok t' ∧ Inv t' ∧
      (∀ it' d', (it', d') ≠ (it, d) → t.isAllocated d' nc it' = false → t'.isAllocated d' nc it' = false) := by
  -- a different pair with a device of the same kind differs in what is recorded for it
  have hrec : ∀ {it' d'}, (it', d') ≠ (it, d) → d'.template = d.template → it' = it → d'.name ≠ d.name :=
    fun hne ht ei en => hne (by rw [dev_ext _ _ en ht, ei])
  cases hd : d.template with
  | true =>
    have hnm := free_template t d nc it hd h
    refine ⟨{ t with template := (nc, it, d.name) :: t.template }, ?_,
      ⟨I.owner, I.nodupI, I.nodupB, List.nodup_cons.mpr ⟨hnm, I.nodupT⟩, I.mirror, I.pre⟩, fun it' d' hne hf => ?_⟩
    · unfold Tracker.commit1
      rw [if_pos hd, if_neg (not_contains hnm)]
      rfl
    · cases hd' : d'.template with
      | false =>
        rw [isAllocated_cluster _ nc it' hd'] at hf ⊢
        exact hf
      | true =>
        rw [isAllocated_template _ nc it' hd']
        refine Bool.eq_false_iff.mpr (not_contains fun hm => ?_)
        rcases List.mem_cons.mp hm with e | hm
        · rw [Prod.mk.injEq, Prod.mk.injEq] at e
          exact hrec hne (hd'.trans hd.symm) e.2.1 e.2.2
        · exact free_template t d' nc it' hd' hf hm
  | false =>
    obtain ⟨hp, hown, hni⟩ := free_cluster t I d nc it hd h
    refine ⟨{ t with byNC := (nc, it, d.name) :: t.byNC, inflight := (d.name, nc, it) :: t.inflight }, ?_,
      I.insert hp hown hni, fun it' d' hne hf => ?_⟩
    · have hnb : (nc, it, d.name) ∉ t.byNC := fun hm => hni ((I.mirror d.name nc it).mp hm)
      unfold Tracker.commit1
      rw [if_neg (by rw [hd]; exact Bool.false_ne_true), if_neg (not_contains hnb)]
      cases ho : t.owner? d.name with
      | none => rfl
      | some o =>
        obtain ⟨i, hm⟩ := owner_some t d.name o ho
        cases hown o i hm
        show (if (nc != nc) = true then _ else _) = _
        rw [bne_self_eq_false, if_neg Bool.false_ne_true, if_neg (not_contains hni)]
        rfl
    · cases hd' : d'.template with
      | true =>
        rw [isAllocated_template _ nc it' hd'] at hf ⊢
        exact hf
      | false =>
        obtain ⟨hp', hown', hni'⟩ := free_cluster t I d' nc it' hd' hf
        refine cluster_free_of _ d' nc it' hd' hp' (fun n i hm => ?_) fun hm => ?_
        · rcases List.mem_cons.mp hm with e | hm
          · exact (Prod.mk.inj (Prod.mk.inj e).2).1
          · exact hown' n i hm
        · rcases List.mem_cons.mp hm with e | hm
          · rw [Prod.mk.injEq, Prod.mk.injEq] at e
            exact hrec hne (hd'.trans hd.symm) e.2.2 e.1
          · exact hni' hm

theorem commitPairs_ok (nc : NC) : ∀ (pairs : List (IT × Dev)) (t : Tracker), Inv t → pairs.Nodup →
    (∀ p ∈ pairs, t.isAllocated p.2 nc p.1 = false) → ∃ t', t.commitPairs nc pairs = .ok t' ∧ Inv t' := by
  intro pairs
  induction pairs with
  | nil => intro t I _ _; exact ⟨t, rfl, I⟩
  | cons p ps ih =>
    intro t I hn hall
    obtain ⟨it, d⟩ := p
    rw [List.nodup_cons] at hn
    obtain ⟨t1, hc, I1, hkeep⟩ := commit1_ok t I nc it d (hall (it, d) (List.mem_cons_self ..))
    obtain ⟨t2, hc2, I2⟩ := ih t1 I1 hn.2 (by
      intro q hq
      apply hkeep q.1 q.2
      · intro e; exact hn.1 (by rw [← e]; exact hq)
      · exact hall q (List.mem_cons_of_mem _ hq))
    refine ⟨t2, ?_, I2⟩
    unfold Tracker.commitPairs
    rw [hc]
    exact hc2

theorem unref_eq (nc : NC) (it : IT) : ∀ (ds : List String) (t : Tracker), ds.Nodup →
    (∀ d ∈ ds, (d, nc, it) ∈ t.inflight) →
    t.unref nc it ds = .ok { t with inflight := t.inflight.filter (fun x => !(ds.contains x.1 && (x.2.1 == nc && x.2.2 == it))) } := by
  intro ds
  induction ds with
  | nil =>
    intro t _ _
    show pure t = Except.ok { t with inflight := t.inflight.filter fun _ => true }
    rw [List.filter_eq_self.mpr fun _ _ => rfl]
    rfl
  | cons d ds ih =>
    intro t hn hall
    rw [List.nodup_cons] at hn
    have hm := hall d List.mem_cons_self
    rw [Tracker.unref, if_neg (by rw [List.any_eq_true.mpr ⟨_, hm, beq_self_eq_true d⟩]; exact Bool.false_ne_true),
      if_neg (by rw [List.contains_iff_mem.mpr hm]; exact Bool.false_ne_true),
      ih _ hn.2 fun d' hd' => List.mem_filter.mpr ⟨hall d' (List.mem_cons_of_mem _ hd'),
        (bne_iff_ne.mpr fun e => hn.1 ((Prod.mk.inj e).1 ▸ hd') : ((d', nc, it) != (d, nc, it)) = true)⟩]
    dsimp only
    rw [List.filter_filter]
    congr 3
    funext ⟨xd, xn, xi⟩
    show (!(ds.contains xd && (xn == nc && xi == it)) && !(xd == d && (xn == nc && xi == it)))
      = !((d :: ds).contains xd && (xn == nc && xi == it))
    rw [List.contains_cons, Bool.and_or_distrib_right, Bool.not_or, Bool.and_comm]

theorem nodup_devices (nc : NC) (it : IT) (l : List (NC × IT × String)) (hn : l.Nodup) :
    ((l.filter (fun x => x.1 == nc && x.2.1 == it)).map (·.2.2)).Nodup := by
  -- two entries that pass the filter agree in NodeClaim and instance type, so they differ in the device
  refine List.pairwise_map.mpr ((hn.filter _).imp_of_mem fun {x y} hx hy hne e => hne ?_)
  have px := (List.mem_filter.mp hx).2
  have py := (List.mem_filter.mp hy).2
  rw [Bool.and_eq_true, beq_iff_eq, beq_iff_eq] at px py
  exact Prod.ext (px.1.trans py.1.symm) (Prod.ext (px.2.trans py.2.symm) e)

theorem release1_ok (t : Tracker) (I : Inv t) (nc : NC) (it : IT) : ∃ t', t.release1 nc it = .ok t' ∧ Inv t' := by
  have hds : ∀ d, d ∈ (t.byNC.filter (fun x => x.1 == nc && x.2.1 == it)).map (·.2.2) ↔ (d, nc, it) ∈ t.inflight := by
    intro d
    rw [← I.mirror, List.mem_map]
    constructor
    · rintro ⟨⟨y1, y2, y3⟩, hy, rfl⟩
      obtain ⟨hyl, hyp⟩ := List.mem_filter.mp hy
      rw [Bool.and_eq_true, beq_iff_eq, beq_iff_eq] at hyp
      exact hyp.1 ▸ hyp.2 ▸ hyl
    · exact fun hm => ⟨_, List.mem_filter.mpr ⟨hm, by rw [beq_self_eq_true, beq_self_eq_true]; rfl⟩, rfl⟩
  have e := unref_eq nc it _ { t with byNC := t.byNC.filter (fun x => !(x.1 == nc && x.2.1 == it)) }
    (nodup_devices nc it t.byNC I.nodupB) fun d hd => (hds d).mp hd
  refine ⟨_, by unfold Tracker.release1; simp only; rw [e]; rfl, ?_⟩
  refine ⟨fun d n1 i1 n2 i2 a b => I.owner d n1 i1 n2 i2 (List.mem_filter.mp a).1 (List.mem_filter.mp b).1,
    I.nodupI.filter _, I.nodupB.filter _, I.nodupT.filter _, fun d n i => ?_,
    fun d n i hm => I.pre d n i (List.mem_filter.mp hm).1⟩
  -- an entry of `(nc, it)` in either index names one of the released devices
  show (n, i, d) ∈ t.byNC.filter _ ↔ (d, n, i) ∈ t.inflight.filter _
  rw [List.mem_filter, List.mem_filter, I.mirror]
  refine and_congr_right fun hm => ?_
  show (!(n == nc && i == it)) = true ↔ (!(List.contains _ d && (n == nc && i == it))) = true
  cases hb : (n == nc && i == it)
  · rw [Bool.and_false]
  · rw [Bool.and_eq_true, beq_iff_eq, beq_iff_eq] at hb
    rw [Bool.and_true, List.contains_iff_mem.mpr ((hds d).mpr (hb.1 ▸ hb.2 ▸ hm))]

theorem release_ok (nc : NC) : ∀ (its : List IT) (t : Tracker), Inv t → ∃ t', t.release nc its = .ok t' ∧ Inv t' := by
  intro its
  induction its with
  | nil => intro t I; exact ⟨t, rfl, I⟩
  | cons it its ih =>
    intro t I
    obtain ⟨t1, h1, I1⟩ := release1_ok t I nc it
    obtain ⟨t2, h2, I2⟩ := ih t1 I1
    refine ⟨t2, ?_, I2⟩
    unfold Tracker.release
    rw [h1]
    exact h2

/-- op sequences of a disciplined caller: no unguarded commit -/
def disciplined : List Op → Bool
  | [] => true
  | .commit _ _ :: _ => false
  | _ :: ops => disciplined ops

theorem dedupe_spec {α : Type} [BEq α] [LawfulBEq α] : ∀ (l : List α), (dedupe l).Nodup ∧ ∀ a, a ∈ dedupe l ↔ a ∈ l := by
  intro l
  induction l with
  | nil => simp [dedupe]
  | cons x l ih =>
    unfold dedupe
    refine ⟨List.nodup_cons.mpr ⟨?_, ih.1.filter _⟩, ?_⟩
    · intro hm; have := (List.mem_filter.mp hm).2; simp at this
    · intro a
      rw [List.mem_cons, List.mem_cons, List.mem_filter, ih.2 a, bne_iff_ne]
      by_cases e : a = x
      · exact iff_of_true (.inl e) (.inl e)
      · exact or_congr_right (and_iff_left e)

theorem stepOp_ok (t : Tracker) (I : Inv t) (op : Op) (hd : ∀ nc alloc, op ≠ .commit nc alloc) :
    ∃ t', stepOp t op = .ok t' ∧ Inv t' := by
  cases op with
  | commit nc alloc => exact absurd rfl (hd nc alloc)
  | guarded nc alloc =>
    unfold stepOp Tracker.grantable
    obtain ⟨hn, hmem⟩ := dedupe_spec ((pairsOf alloc).filter (fun p => !t.isAllocated p.2 nc p.1))
    apply commitPairs_ok nc _ t I hn
    intro p hp
    have := (List.mem_filter.mp ((hmem p).mp hp)).2
    simpa using this
  | release nc its => exact release_ok nc its t I

theorem run_ok (ops : List Op) (t : Tracker) (I : Inv t) (hd : disciplined ops = true) :
    ∃ t', run t ops = .ok t' ∧ Inv t' := by
  fun_induction disciplined ops generalizing t with
  | case1 => exact ⟨t, rfl, I⟩
  | case2 => cases hd
  | case3 op ops hop ih =>
    obtain ⟨t1, hs, I1⟩ := stepOp_ok t I op hop
    obtain ⟨t2, hr, I2⟩ := ih t1 I1 hd
    exact ⟨t2, by rw [run, hs]; exact hr, I2⟩

theorem commit1_refuses_other (t : Tracker) (I : Inv t) (nc n' : NC) (it i' : IT) (d : Dev) (hd : d.template = false)
    (hheld : (d.name, n', i') ∈ t.inflight) (hne : n' ≠ nc) : t.commit1 nc it d = .error .otherNodeClaim := by
  have hnb : (nc, it, d.name) ∉ t.byNC := by
    intro hm
    exact hne (I.owner d.name n' i' nc it hheld ((I.mirror d.name nc it).mp hm))
  unfold Tracker.commit1
  rw [if_neg (by simp [hd]), if_neg (not_contains hnb), owner_of_mem t I d.name n' i' hheld]
  show (if (n' != nc) = true then _ else _) = _
  rw [if_pos (by simpa using hne)]
  rfl

theorem commit1_refuses_dup (t : Tracker) (I : Inv t) (nc : NC) (it : IT) (d : Dev) (hd : d.template = false)
    (hheld : (d.name, nc, it) ∈ t.inflight) : t.commit1 nc it d = .error .dupInstanceType := by
  have hb : (nc, it, d.name) ∈ t.byNC := (I.mirror d.name nc it).mpr hheld
  unfold Tracker.commit1
  rw [if_neg (by simp [hd]), if_pos (List.contains_iff_mem.mpr hb)]
  rfl

end Karp.DraTracker
