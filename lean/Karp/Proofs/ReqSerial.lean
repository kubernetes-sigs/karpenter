/-
Lemmas about serialising a requirement to node-selector entries and parsing it back, and about the value
`Requirement.Any` returns (C13).

`parseStep` is the loop body of the model's `fromSelectors` (`fromSelectors_eq`); `cmpSels`, `boundSels`, `setSels`,
`exclSels` are the parts of the model's `Req.toSelectors` (`toSelectors_eq`). They are that decomposition, not new notions.
-/
import Karp.Proofs.ReqLemmas
namespace Karp.Req
open Karp.Spec.K8s

/-- value `v` passes every entry of a list of node-selector requirements, each read as Kubernetes reads it -/
def selHas (sels : List Sel) (v : Val) : Bool := sels.all (fun s => k8sMatch s.op s.values (some v))

/-- a serialisable selector of key `k` carrying minValues `m`: validated operands, never the
    (non-minValues-preserving) `Gt`/`Lt` forms -/
def Sel.ok (s : Sel) (k : String) (m : Option Int) : Prop :=
  validOperands s.op s.values = true ∧ s.op ≠ .gt ∧ s.op ≠ .lt ∧ s.key = k ∧ s.minValues = m

theorem selHas_cons (s : Sel) (rest : List Sel) (v : Val) :
    selHas (s :: rest) v = (k8sMatch s.op s.values (some v) && selHas rest v) := rfl

theorem selHas_singleton (s : Sel) (v : Val) : selHas [s] v = k8sMatch s.op s.values (some v) := Bool.and_true _

theorem selHas_append (xs ys : List Sel) (v : Val) : selHas (xs ++ ys) v = (selHas xs v && selHas ys v) :=
  List.all_append

theorem maxOpt_self (m : Option Int) : maxOpt m m = m := by
  cases m <;> simp [maxOpt]

theorem new_of_ok (s : Sel) (k : String) (m : Option Int) (h : s.ok k m) :
    ∃ r, Req.new s.key s.op s.minValues s.values = .ok r ∧ r.minValues = m ∧ r.key = normalizeKey k ∧
      ∀ v, r.has v = k8sMatch s.op s.values (some v) := by
  obtain ⟨key, op, vals, mv⟩ := s
  obtain ⟨hv, hgt, hlt, rfl, rfl⟩ := h
  obtain ⟨r, hr, hhas⟩ := new_valid key op mv vals hv
  obtain ⟨-, hk, hm⟩ := new_spec key op mv vals r hr
  exact ⟨r, hr, hm hgt hlt, hk, hhas⟩

def parseStep (acc : Option Req) (s : Sel) : Except NewErr (Option Req) := do
  let r ← Req.new s.key s.op s.minValues s.values
  match acc with
  | none => pure (some r)
  | some e => pure (some (r.inter e))

theorem fromSelectors_eq (sels : List Sel) : fromSelectors sels = sels.foldlM parseStep none := rfl

theorem foldlM_parseStep (k : String) (m : Option Int) (sels : List Sel) (hs : ∀ s ∈ sels, s.ok k m) (e : Req)
    (hm : e.minValues = m) (hk : e.key = normalizeKey k) :
    ∃ e', sels.foldlM parseStep (some e) = .ok (some e') ∧ e'.minValues = m ∧ e'.key = normalizeKey k ∧
      ∀ v, e'.has v = (e.has v && selHas sels v) := by
  induction sels generalizing e with
  | nil => exact ⟨e, rfl, hm, hk, fun v => (Bool.and_true _).symm⟩
  | cons s rest ih =>
    obtain ⟨r, hr, hrm, hrk, hhas⟩ := new_of_ok s k m (hs s List.mem_cons_self)
    obtain ⟨e', h1, h2, h3, h4⟩ := ih (fun s' hs' => hs s' (List.mem_cons_of_mem _ hs')) (r.inter e)
      (by rw [minValues_inter, hrm, hm, maxOpt_self]) (by rw [key_inter, hrk])
    refine ⟨e', ?_, h2, h3, fun v => ?_⟩
    · rw [List.foldlM_cons, parseStep, hr]; exact h1
    · rw [h4, has_inter, hhas, selHas_cons, Bool.and_comm (k8sMatch _ _ _), Bool.and_assoc]

def cmpSels (op : Op) (k : String) (m : Option Int) : Option Int → List Sel
  | some b => [{ key := k, op := op, values := [renderInt b], minValues := m }]
  | none => []
def Req.boundSels (r : Req) : List Sel := cmpSels .gte r.key r.minValues r.gte ++ cmpSels .lte r.key r.minValues r.lte
def Req.setSels (r : Req) : List Sel :=
  if r.complement then
    if r.values.isEmpty then [{ key := r.key, op := .exists_, values := [], minValues := r.minValues }]
    else [{ key := r.key, op := .notIn, values := r.values, minValues := r.minValues }]
  else
    if r.values.isEmpty then [{ key := r.key, op := .doesNotExist, values := [], minValues := r.minValues }]
    else [{ key := r.key, op := .in_, values := r.values, minValues := r.minValues }]
def Req.exclSels (r : Req) : List Sel :=
  if r.complement && !r.values.isEmpty then
    [{ key := r.key, op := .notIn, values := r.values, minValues := r.minValues }] else []

theorem toSelectors_eq (r : Req) :
    r.toSelectors = if r.boundSels.isEmpty then r.setSels else r.boundSels ++ r.exclSels := rfl

theorem boundSels_isEmpty (r : Req) : r.boundSels.isEmpty = (r.gte.isNone && r.lte.isNone) := by
  unfold Req.boundSels
  cases r.gte <;> cases r.lte <;> rfl

theorem selHas_gteSels {k : String} {m g : Option Int} (hg : ∀ x, g = some x → minInt ≤ x ∧ x ≤ maxInt) (v : Val) :
    selHas (cmpSels .gte k m g) v = withinBounds v g none := by
  cases g with
  | none => rfl
  | some g =>
    have ⟨h1, h2⟩ := hg g rfl
    rw [cmpSels, selHas_singleton]
    symm
    exact withinBounds_cmp v (atoi_renderInt g h1 h2) rfl fun i => Bool.and_true _

theorem selHas_lteSels {k : String} {m l : Option Int} (hl : ∀ x, l = some x → minInt ≤ x ∧ x ≤ maxInt) (v : Val) :
    selHas (cmpSels .lte k m l) v = withinBounds v none l := by
  cases l with
  | none => rfl
  | some l =>
    have ⟨h1, h2⟩ := hl l rfl
    rw [cmpSels, selHas_singleton]
    symm
    exact withinBounds_cmp v (atoi_renderInt l h1 h2) rfl fun i => Bool.true_and _

theorem within_split (v : Val) (g l : Option Int) :
    withinBounds v g l = (withinBounds v g none && withinBounds v none l) := by
  have := withinBounds_inter v g none none l
  rwa [show maxOpt g none = g by cases g <;> rfl, show minOpt none l = l by cases l <;> rfl] at this

theorem selHas_boundSels (r : Req) (h : r.boundsInRange) (v : Val) :
    selHas r.boundSels v = withinBounds v r.gte r.lte := by
  rw [Req.boundSels, selHas_append, selHas_gteSels h.1, selHas_lteSels h.2, ← within_split]

theorem selHas_setSels (r : Req) (v : Val) : selHas r.setSels v = (r.complement ^^ r.values.contains v) := by
  fun_cases Req.setSels r
  · next hc hv => rw [selHas_singleton, hc, List.isEmpty_iff.mp hv]; rfl
  · next hc _ => rw [selHas_singleton, hc, Bool.true_xor]; rfl
  · next hc hv => rw [selHas_singleton, Bool.eq_false_iff.mpr hc, List.isEmpty_iff.mp hv]; rfl
  · next hc _ => rw [selHas_singleton, Bool.eq_false_iff.mpr hc, Bool.false_xor]; rfl

theorem selHas_exclSels (r : Req) (hc : r.complement = true) (v : Val) :
    selHas r.exclSels v = !r.values.contains v := by
  fun_cases Req.exclSels r
  · exact selHas_singleton _ v
  · next h =>
    rw [hc, Bool.true_and, Bool.not_eq_true, Bool.not_eq_false', List.isEmpty_iff] at h
    rw [h]; rfl

theorem selHas_toSelectors (r : Req) (h : r.WF) (v : Val) : selHas r.toSelectors v = r.has v := by
  rw [toSelectors_eq, has_eq]
  cases he : r.boundSels.isEmpty with
  | true =>
    rw [boundSels_isEmpty, Bool.and_eq_true, Option.isNone_iff_eq_none, Option.isNone_iff_eq_none] at he
    rw [if_pos rfl, selHas_setSels, he.1, he.2]; exact (Bool.and_true _).symm
  | false =>
    have hc : r.complement = true := by
      cases hc : r.complement with
      | true => rfl
      | false =>
        have := h.concreteNoBounds hc
        rw [boundSels_isEmpty, this.1, this.2] at he; cases he
    rw [if_neg Bool.false_ne_true, selHas_append, selHas_boundSels r h.inRange, selHas_exclSels r hc, hc, Bool.true_xor,
      Bool.and_comm]

theorem cmpSels_ok {op : Op} (hop : op = .gte ∨ op = .lte) {k : String} {m b : Option Int}
    (hb : ∀ x, b = some x → minInt ≤ x ∧ x ≤ maxInt) : ∀ s ∈ cmpSels op k m b, s.ok k m := by
  cases b with
  | none => exact List.forall_mem_nil _
  | some b =>
    have ⟨h1, h2⟩ := hb b rfl
    have hv : (atoi (renderInt b)).isSome = true := by rw [atoi_renderInt b h1 h2]; rfl
    rcases hop with rfl | rfl <;> exact List.forall_mem_singleton.mpr ⟨hv, nofun, nofun, rfl, rfl⟩

theorem setSels_ok (r : Req) : ∀ s ∈ r.setSels, s.ok r.key r.minValues := by
  fun_cases Req.setSels r <;> exact List.forall_mem_singleton.mpr ⟨rfl, nofun, nofun, rfl, rfl⟩

theorem exclSels_ok (r : Req) : ∀ s ∈ r.exclSels, s.ok r.key r.minValues := by
  fun_cases Req.exclSels r
  · exact List.forall_mem_singleton.mpr ⟨rfl, nofun, nofun, rfl, rfl⟩
  · exact List.forall_mem_nil _

theorem toSelectors_ok (r : Req) (h : r.WF) : ∀ s ∈ r.toSelectors, s.ok r.key r.minValues := by
  rw [toSelectors_eq]
  cases r.boundSels.isEmpty with
  | true => exact setSels_ok r
  | false =>
    exact List.forall_mem_append.mpr ⟨List.forall_mem_append.mpr
      ⟨cmpSels_ok (.inl rfl) h.inRange.1, cmpSels_ok (.inr rfl) h.inRange.2⟩, exclSels_ok r⟩

theorem toSelectors_ne_nil (r : Req) : r.toSelectors.isEmpty = false := by
  rw [toSelectors_eq]
  cases r.boundSels with
  | nil => unfold Req.setSels; cases r.complement <;> cases r.values <;> rfl
  | cons s rest => rfl

theorem roundtrip (r : Req) (h : r.WF) (hk : normalizeKey r.key = r.key) :
    ∃ r', fromSelectors r.toSelectors = .ok (some r') ∧ r'.key = r.key ∧ r'.minValues = r.minValues ∧
      ∀ v, r'.has v = r.has v := by
  have hok := toSelectors_ok r h
  have hsem := selHas_toSelectors r h
  cases hs : r.toSelectors with
  | nil => have := toSelectors_ne_nil r; rw [hs] at this; cases this
  | cons s rest =>
    rw [hs] at hok hsem
    obtain ⟨r0, hr0, hm0, hk0, hhas0⟩ := new_of_ok s r.key r.minValues (hok s List.mem_cons_self)
    obtain ⟨r', h1, h2, h3, h4⟩ := foldlM_parseStep r.key r.minValues rest
      (fun s' hs' => hok s' (List.mem_cons_of_mem _ hs')) r0 hm0 hk0
    refine ⟨r', ?_, h3.trans hk, h2, fun v => ?_⟩
    · rw [fromSelectors_eq, List.foldlM_cons, parseStep, hr0]; exact h1
    · rw [h4, hhas0, ← selHas_cons, hsem]

theorem operator_complement (r : Req) :
    (r.complement = true → r.operator = .notIn ∨ r.operator = .exists_) ∧
    (r.complement = false → r.operator = .in_ ∨ r.operator = .doesNotExist) := by
  fun_cases Req.operator r <;> simp_all

theorem anyRange_sound (r : Req) (hc : r.complement = true) (out : Val) (ha : r.anyRange out = true) :
    out = "" ∨ r.has out = true := by
  revert ha
  fun_cases Req.anyRange r out
  · exact fun ha => .inl (beq_iff_eq.mp ha)
  · next he => exact fun _ => .inl (beq_iff_eq.mp he)
  · next i hv =>
    intro ha
    simp only [Bool.and_eq_true, decide_eq_true_eq, Bool.not_eq_true'] at ha
    obtain ⟨⟨⟨hlo, hhi⟩, -⟩, hnc⟩ := ha
    right
    rw [has_eq, hc, hnc, withinBounds_eq, hv, Bool.true_xor, Bool.not_false, Bool.true_and]
    refine (Bool.and_eq_true _ _).mpr ⟨?_, ?_⟩
    · cases hg : r.gte with
      | none => rfl
      | some g => rw [Req.anyLo, hg] at hlo; exact decide_eq_true hlo
    · cases hl : r.lte with
      | none => rfl
      | some l => simp only [Req.anyHi, hl] at hhi; exact decide_eq_true (by split at hhi <;> omega)
  · nofun

theorem any_sound (r : Req) (h : r.WF) (out : Val) (ha : r.anyAllowed out = true) :
    out = "" ∨ r.has out = true := by
  revert ha
  unfold Req.anyAllowed
  fun_cases Req.operator r
  · next hc _ => exact anyRange_sound r hc out
  · next hc _ => exact anyRange_sound r hc out
  · next hc _ =>
    intro ha
    obtain ⟨hg, hl⟩ := h.concreteNoBounds (Bool.eq_false_iff.mpr hc)
    right
    rw [has_eq, Bool.eq_false_iff.mpr hc, hg, hl, withinBounds_none, Bool.and_true, Bool.false_xor]
    exact ha
  · exact fun ha => .inl (beq_iff_eq.mp ha)

end Karp.Req
