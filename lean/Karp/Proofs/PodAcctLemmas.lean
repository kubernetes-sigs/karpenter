/-
Helper lemmas for C04's accounting theorems (`Karp/Props/C04.lean`): the invariant of `Karp.PodAcct` over all
histories of API changes and informer deliveries.

`Inv`:
* `acct_binding` — a pod is charged only to the tracked node its recorded binding names (so it is charged to at most one
  node, and `updateNodeUsageFromPodCompletion`, which follows the binding, releases everything the pod is charged for);
* `exact` — for every pod whose latest API change has been delivered, every tracked node is charged for the pod exactly
  when the pod is assigned to it (`Karp.Spec.Assigned.assigned`: exists, bound there, not in a terminal phase).
-/
import Karp.Model.PodAcct

namespace Karp.PodAcct
open Karp.Spec.Assigned

set_option linter.unusedSectionVars false
variable {κ ν : Type} [DecidableEq κ] [DecidableEq ν]

structure Inv (s : St κ ν) : Prop where
  acct_binding : ∀ n k, s.acct n k = true → s.binding k = some n ∧ s.tracked n = true
  exact : ∀ k, s.dirty k = false → ∀ n, s.tracked n = true → (s.acct n k = true ↔ assigned s.apiPod n k = true)

theorem inv_init : Inv (St.init : St κ ν) := by
  constructor <;> simp [St.init, assigned]

theorem listed_eq_assigned (s : St κ ν) (n : ν) (k : κ) : listed s n k = assigned s.apiPod n k := by
  unfold listed listedBy assigned
  cases s.apiPod k <;> rfl

theorem assigned_unique (api : κ → Option (PodRec ν)) (n n' : ν) (k : κ)
    (h1 : assigned api n k = true) (h2 : assigned api n' k = true) : n = n' := by
  unfold assigned at h1 h2
  cases h : api k with
  | none => simp [h] at h1
  | some r => simp [h] at h1 h2; exact Option.some.inj (h1.1.symm.trans h2.1)

theorem St.ext {s t : St κ ν} (h1 : s.apiPod = t.apiPod) (h2 : s.apiNode = t.apiNode) (h3 : s.tracked = t.tracked)
    (h4 : s.acct = t.acct) (h5 : s.binding = t.binding) (h6 : s.dirty = t.dirty) : s = t := by
  cases s
  cases t
  congr

/-- pod `k` is charged to the node `o` names (`none`: to no node) and bound there. While `Inv` holds this is what
    `updateNodeUsageFromPodCompletion` and the charging branch of `updateNodeUsageFromPod` do to the state. -/
def St.assign (s : St κ ν) (k : κ) (o : Option ν) : St κ ν :=
  { s with acct := fun n' k' => if k' = k then decide (o = some n') else s.acct n' k',
           binding := fun k' => if k' = k then o else s.binding k' }

theorem inv_assign (s : St κ ν) (h : Inv s) (k : κ) (o : Option ν) (ho : ∀ n, o = some n → s.tracked n = true)
    (hx : ∀ n, s.tracked n = true → (o = some n ↔ assigned s.apiPod n k = true)) : Inv (s.assign k o) := by
  constructor
  · intro n k' hc
    simp only [St.assign] at hc ⊢
    by_cases hk : k' = k
    · simp only [hk, if_true, decide_eq_true_eq] at hc ⊢
      exact ⟨hc, ho n hc⟩
    · simp only [hk, if_false] at hc ⊢
      exact h.acct_binding n k' hc
  · intro k' hd n ht
    by_cases hk : k' = k
    · simpa [St.assign, hk] using hx n ht
    · simpa [St.assign, hk] using h.exact k' hd n ht

theorem inv_deliver (s : St κ ν) (h : Inv s) (k : κ) (o : Option ν) (ho : ∀ n, o = some n → s.tracked n = true)
    (hx : ∀ n, s.tracked n = true → (o = some n ↔ assigned s.apiPod n k = true)) :
    Inv (setDirty (s.assign k o) k false) := by
  have h' := inv_assign s h k o ho hx
  refine ⟨h'.acct_binding, fun k' hd n ht => ?_⟩
  by_cases e : k' = k
  · simpa [St.assign, setDirty, e] using hx n ht
  · exact h'.exact k' (by simpa [setDirty, e] using hd) n ht

theorem completion_acct (s : St κ ν) (h : Inv s) (k : κ) (n : ν) (k' : κ) :
    (completion s k).acct n k' = if k' = k then false else s.acct n k' := by
  have := h.acct_binding n k'
  fun_cases completion s k <;> grind

theorem completion_binding (s : St κ ν) (k k' : κ) :
    (completion s k).binding k' = if k' = k then none else s.binding k' := by
  fun_cases completion s k <;> grind

theorem completion_tracked (s : St κ ν) (k : κ) : (completion s k).tracked = s.tracked := by
  unfold completion; split <;> rfl
theorem completion_apiPod (s : St κ ν) (k : κ) : (completion s k).apiPod = s.apiPod := by
  unfold completion; split <;> rfl
theorem completion_dirty (s : St κ ν) (k : κ) : (completion s k).dirty = s.dirty := by
  unfold completion; split <;> rfl
theorem completion_apiNode (s : St κ ν) (k : κ) : (completion s k).apiNode = s.apiNode := by
  unfold completion; split <;> rfl

theorem completion_eq (s : St κ ν) (h : Inv s) (k : κ) : completion s k = s.assign k none :=
  St.ext (completion_apiPod s k) (completion_apiNode s k) (completion_tracked s k)
    (funext fun n => funext fun k' => by rw [completion_acct s h]; simp [St.assign])
    (funext fun k' => completion_binding s k k') (completion_dirty s k)

theorem cleanupOld_acct (s : St κ ν) (k : κ) (node n' : ν) (k' : κ) :
    (cleanupOld s k node).acct n' k' =
      if k' = k ∧ n' ≠ node ∧ s.binding k = some n' ∧ s.tracked n' = true then false else s.acct n' k' := by
  fun_cases cleanupOld s k node <;> grind

theorem cleanupOld_tracked (s : St κ ν) (k : κ) (node : ν) : (cleanupOld s k node).tracked = s.tracked := by
  fun_cases cleanupOld s k node <;> rfl
theorem cleanupOld_apiPod (s : St κ ν) (k : κ) (node : ν) : (cleanupOld s k node).apiPod = s.apiPod := by
  fun_cases cleanupOld s k node <;> rfl
theorem cleanupOld_dirty (s : St κ ν) (k : κ) (node : ν) : (cleanupOld s k node).dirty = s.dirty := by
  fun_cases cleanupOld s k node <;> rfl
theorem cleanupOld_apiNode (s : St κ ν) (k : κ) (node : ν) : (cleanupOld s k node).apiNode = s.apiNode := by
  fun_cases cleanupOld s k node <;> rfl
theorem cleanupOld_binding_ne (s : St κ ν) (k k' : κ) (node : ν) (hk : k' ≠ k) : (cleanupOld s k node).binding k' = s.binding k' := by
  fun_cases cleanupOld s k node <;> simp [hk]

theorem usageFromPod_unbound (s : St κ ν) (k : κ) (r : PodRec ν) (hn : r.node = none) :
    usageFromPod s k r = (completion s k, true) := by
  simp [usageFromPod, hn]

theorem usageFromPod_tracked (s : St κ ν) (h : Inv s) (k : κ) (r : PodRec ν) (n : ν) (hn : r.node = some n)
    (ht : s.tracked n = true) : usageFromPod s k r = (s.assign k (some n), true) := by
  simp only [usageFromPod, hn, ht, if_true]
  congr 1
  refine St.ext (cleanupOld_apiPod _ k n) (cleanupOld_apiNode _ k n) (cleanupOld_tracked _ k n) ?_ ?_ (cleanupOld_dirty _ k n)
  · funext n' k'
    have := h.acct_binding n' k
    simp only [cleanupOld_acct, St.assign]
    grind
  · funext k'
    by_cases hk : k' = k
    · simp [St.assign, hk]
    · simp [St.assign, hk, cleanupOld_binding_ne _ _ _ _ hk]

/-- the pod's node is not tracked (the informer will retry): nothing changes, or the pod is released where an older
    binding had charged it -/
theorem usageFromPod_untracked (s : St κ ν) (k : κ) (r : PodRec ν) (n : ν) (hn : r.node = some n) (ht : s.tracked n = false) :
    (usageFromPod s k r).2 = false ∧ ((usageFromPod s k r).1 = s ∨ (usageFromPod s k r).1 = completion s k) := by
  simp only [usageFromPod, hn, ht, Bool.false_eq_true, if_false, true_and]
  cases s.binding k with
  | none => exact Or.inl rfl
  | some old => simp only; split <;> simp

/-- an API change of pod `k` to `o` (`none`: the object is removed) -/
theorem inv_apiPod (s : St κ ν) (h : Inv s) (k : κ) (o : Option (PodRec ν)) :
    Inv (setDirty { s with apiPod := fun k' => if k' = k then o else s.apiPod k' } k true) := by
  refine ⟨h.acct_binding, fun k' hd n ht => ?_⟩
  by_cases hk : k' = k
  · subst hk; simp [setDirty] at hd
  · have := h.exact k' (by simpa [setDirty, hk] using hd) n ht
    simpa [assigned, setDirty, hk] using this

theorem inv_deleteNode (s : St κ ν) (h : Inv s) (n : ν) : Inv (deleteNode s n) := by
  constructor
  · intro n' k hc
    have := h.acct_binding n' k
    simp only [deleteNode] at *
    grind
  · intro k hd n' ht
    have := h.exact k hd n'
    simp only [deleteNode] at *
    grind

theorem inv_updateNode (s : St κ ν) (h : Inv s) (n : ν) : Inv (updateNode s n) := by
  constructor
  · intro n' k hc
    have := h.acct_binding n' k
    simp only [updateNode, updateNodeBy] at *
    grind
  · intro k hd n' ht
    have h1 := h.exact k hd
    have h2 := h.acct_binding
    have hl := listed_eq_assigned s
    have hu := assigned_unique s.apiPod n n' k
    simp only [updateNode, updateNodeBy, listed] at *
    grind

theorem inv_seePod (s : St κ ν) (h : Inv s) (k : κ) : Inv (step s (.seePod k)) := by
  -- the object is gone, over or unbound: the pod is released and assigned nowhere
  have released : (∀ n, assigned s.apiPod n k = false) → Inv (setDirty (completion s k) k false) := fun hna => by
    rw [completion_eq s h]
    exact inv_deliver s h k none (by simp) (by simp [hna])
  simp only [step, stepBy, deletePod]
  cases hr : s.apiPod k with
  | none => exact released (by simp [assigned, hr])
  | some r =>
    cases hterm : r.terminal with
    | true =>
      simp only [updatePod, hterm, if_true]
      exact released (by simp [assigned, hr, hterm])
    | false =>
      simp only [updatePod, hterm, Bool.false_eq_true, if_false]
      cases hn : r.node with
      | none =>
        rw [usageFromPod_unbound s k r hn]
        exact released (by simp [assigned, hr, hn])
      | some n =>
        cases ht : s.tracked n with
        | true =>
          rw [usageFromPod_tracked s h k r n hn ht]
          exact inv_deliver s h k (some n) (by simp [ht]) (by simp [assigned, hr, hn, hterm])
        | false =>
          obtain ⟨h2, h1 | h1⟩ := usageFromPod_untracked s k r n hn ht
          · rw [h2, h1]; exact h
          · rw [h2, h1, completion_eq s h]
            refine inv_assign s h k none (by simp) fun n' ht' => ?_
            have : n ≠ n' := by intro e; subst e; rw [ht] at ht'; cases ht'
            simp [assigned, hr, hn, this]

theorem inv_step (s : St κ ν) (h : Inv s) (e : Ev κ ν) : Inv (step s e) := by
  cases e with
  | podSet k r => exact inv_apiPod s h k (some r)
  | podGone k => exact inv_apiPod s h k none
  | nodeSet n => exact ⟨h.acct_binding, h.exact⟩
  | nodeGone n => exact ⟨h.acct_binding, h.exact⟩
  | seePod k => exact inv_seePod s h k
  | seeNode n =>
    simp only [step, stepBy]
    split
    · exact inv_updateNode s h n
    · exact inv_deleteNode s h n

theorem inv_run (s : St κ ν) (h : Inv s) (evs : List (Ev κ ν)) : Inv (run s evs) :=
  List.foldlRecOn (motive := Inv) evs step h fun s hs e _ => inv_step s hs e

end Karp.PodAcct
