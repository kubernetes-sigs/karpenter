/-
`OrderByPrice` (C19): its `less` closure is a strict weak order, the price loop inside it computes the minimum over the
usable offerings, and the closure coincides with the specification's "strictly cheaper".
-/
import Karp.Proofs.WeightPriceLemmas
import Karp.Spec.WeightPrice

namespace Karp.PriceOrder
open Karp.WeightOrder Karp.Spec.WeightPrice

theorem priceLt_strictWeak : StrictWeak priceLt := by
  constructor
  · intro a b h
    cases a <;> cases b <;> simp_all [priceLt] <;> omega
  · intro a b c h1 h2
    cases a <;> cases b <;> cases c <;> simp_all [priceLt] <;> omega

theorem cheaper_strictWeak (reqs : List Req) : StrictWeak (cheaper reqs) :=
  priceLt_strictWeak.comap (effPrice reqs)

theorem has_eq_admits (r : Req) (v : String) : r.has v = admits r v := by
  unfold Req.has admits
  cases r.op
  · simp only [List.contains_eq_any_beq]
    congr 1; funext x; exact Bool.beq_comm
  · simp only [List.contains_eq_any_beq, List.all_eq_not_any_not]
    congr 2; funext x
    simp [bne, Bool.beq_comm]
  · rfl
  · rfl

theorem usable_eq (reqs : List Req) (o : Offering) :
    usable reqs o = (o.available && offeringCompat reqs o) := by
  unfold usable offeringCompat
  congr 2
  funext r
  simp only [offeringLabels, List.lookup]
  by_cases hz : r.key = zoneKey
  · simp [hz, has_eq_admits]
  · have hz' : (r.key == zoneKey) = false := by simpa using hz
    simp only [hz, hz', if_false]
    by_cases hc : r.key = ctKey
    · simp [hc, has_eq_admits]
    · have hc' : (r.key == ctKey) = false := by simpa using hc
      simp [hc, hc']

theorem minPriceLoop_eq_cheapestLoop (reqs : List Req) (os : List Offering) (acc : Option Nat) :
    minPriceLoop reqs acc os = cheapestLoop acc ((os.filter (·.available)).filter (offeringCompat reqs)) := by
  induction os generalizing acc with
  | nil => rfl
  | cons o os ih =>
    simp only [minPriceLoop]
    rw [ih, List.filter_cons]
    -- an offering that is unavailable or incompatible is skipped on both sides
    cases ha : o.available
    · rfl
    · rw [if_pos rfl, List.filter_cons]
      cases hc : offeringCompat reqs o
      · rfl
      · cases acc with
        | none => rfl
        | some p =>
          rw [if_pos rfl, cheapestLoop]
          by_cases hlt : o.price < p <;> simp [hlt]

theorem cheapestLoop_some (a : Nat) (l : List Offering) :
    cheapestLoop (some a) l = some ((l.map (·.price)).foldl min a) := by
  induction l generalizing a with
  | nil => rfl
  | cons o os ih =>
    rw [cheapestLoop, List.map_cons, List.foldl_cons]
    split
    · rw [ih, Nat.min_eq_right (by omega)]
    · rw [ih, Nat.min_eq_left (by omega)]

theorem cheapestLoop_none (l : List Offering) : cheapestLoop none l = (l.map (·.price)).min? := by
  cases l with
  | nil => rfl
  | cons o os => rw [cheapestLoop, cheapestLoop_some, List.map_cons, List.min?_cons']

theorem effPrice_eq (reqs : List Req) (t : IType) :
    effPrice reqs t = cheapestLoop none (t.offerings.filter (usable reqs)) := by
  rw [effPrice, minPriceLoop_eq_cheapestLoop, List.filter_filter]
  congr 2
  funext o
  rw [usable_eq, Bool.and_comm]

/-- comparing minima, `none` being `math.MaxFloat64`: the left one is smaller iff some element on the left undercuts
    every element on the right -/
theorem priceLt_min? (a b : List Nat) : priceLt a.min? b.min? = true ↔ ∃ x ∈ a, ∀ y ∈ b, x < y := by
  cases ha : a.min? with
  | none =>
    rw [List.min?_eq_none_iff.mp ha]
    simp [priceLt]
  | some p =>
    obtain ⟨hp, hpa⟩ := List.min?_eq_some_iff.mp ha
    cases hb : b.min? with
    | none =>
      rw [List.min?_eq_none_iff.mp hb]
      exact ⟨fun _ => ⟨p, hp, nofun⟩, fun _ => rfl⟩
    | some q =>
      obtain ⟨hq, hqb⟩ := List.min?_eq_some_iff.mp hb
      simp only [priceLt, decide_eq_true_eq]
      exact ⟨fun h => ⟨p, hp, fun y hy => Nat.lt_of_lt_of_le h (hqb y hy)⟩,
        fun ⟨x, hx, h⟩ => Nat.lt_of_le_of_lt (hpa x hx) (h q hq)⟩

theorem cheaper_eq_strictlyCheaper (reqs : List Req) (d k : IType) :
    cheaper reqs d k = strictlyCheaper reqs d k := by
  rw [Bool.eq_iff_iff, cheaper, effPrice_eq, effPrice_eq, cheapestLoop_none, cheapestLoop_none, priceLt_min?]
  simp only [strictlyCheaper, List.any_eq_true, List.all_eq_true, decide_eq_true_eq, List.forall_mem_map]
  constructor
  · rintro ⟨_, hx, h⟩
    obtain ⟨od, hod, rfl⟩ := List.mem_map.mp hx
    exact ⟨od, hod, h⟩
  · exact fun ⟨od, hod, h⟩ => ⟨_, List.mem_map_of_mem hod, h⟩

theorem eq_of_name_eq {l : List IType} (hnd : (l.map (·.name)).Nodup) {a b : IType}
    (ha : a ∈ l) (hb : b ∈ l) (h : a.name = b.name) : a = b := by
  induction l with
  | nil => cases ha
  | cons x xs ih =>
    simp only [List.map_cons, List.nodup_cons, List.mem_map, not_exists, not_and] at hnd
    rcases List.mem_cons.mp ha with rfl | ha' <;> rcases List.mem_cons.mp hb with rfl | hb'
    · rfl
    · exact absurd h.symm (hnd.1 b hb')
    · exact absurd h (hnd.1 a ha')
    · exact ih hnd.2 ha' hb'

theorem noDuplicates_iff (l : List String) : noDuplicates l = true ↔ l.Nodup := by
  induction l with
  | nil => simp [noDuplicates]
  | cons x xs ih => simp [noDuplicates, List.nodup_cons, ih]

end Karp.PriceOrder
