/-
Helper lemmas for C07 over histories: the cluster-state entry (`hstep`, in-memory windows and flags) refines the
specification's log (`specStep`), for every event sequence.  Core Lean only.
-/
import Karp.Proofs.CandidateLemmas
import Karp.Spec.ProtectedHistory

namespace Karp.CandidateHistory
open Karp.Candidate Karp.Spec.Protected Karp.Spec.ProtectedHistory Karp.CandidateLemmas

theorem selectedOn_env {w w' : World} (s : StateNode) (m : Method)
    (h1 : w.now = w'.now) (h2 : w.inQueue = w'.inQueue) (h3 : w.pods = w'.pods) (h4 : w.pdbs = w'.pdbs)
    (h5 : w.pool = w'.pool) (h6 : w.buffer = w'.buffer) : selectedOn w s m = selectedOn w' s m := by
  unfold selectedOn newCandidateOn poolResolves
  cases w; cases w'; simp only at h1 h2 h3 h4 h5 h6; subst h1 h2 h3 h4 h5 h6; cases m <;> rfl

theorem latest_ge : ∀ (l : List Int) (t : Int), t ∈ l → ∃ u, latest l = some u ∧ t ≤ u
  | a :: l, t, h => by
    unfold latest
    rcases List.mem_cons.mp h with rfl | h'
    · cases latest l with
      | none => exact ⟨t, rfl, Int.le_refl _⟩
      | some u => exact ⟨max t u, rfl, Int.le_max_left _ _⟩
    · obtain ⟨u, hu, hle⟩ := latest_ge l t h'
      rw [hu]
      exact ⟨max a u, rfl, Int.le_trans hle (Int.le_max_right _ _)⟩

theorem latest_append (l : List Int) (n : Int) (h : ∀ t ∈ l, t ≤ n) : latest (l ++ [n]) = some n := by
  induction l with
  | nil => rfl
  | cons a l ih =>
    rw [List.forall_mem_cons] at h
    simp only [List.cons_append, latest, ih h.2, Int.max_eq_right h.1]

theorem accepted_eq (n : Node) : accepted n = nodeTracked n := by
  unfold accepted nodeTracked
  simp only [bne, Bool.not_and, Bool.not_not]

theorem floor_eq (t : Int) : wholeSeconds t = floorSec t := rfl

theorem getLast_append {α} (l : List α) (a : α) : (l ++ [a]).getLast? = some a := by simp

theorem under_iff (ca t now : Int) : (¬ca = 0 ∧ now - t < ca) ↔ ¬elapsedSince ca t now = true := by
  simp only [elapsedSince, Bool.or_eq_true, beq_iff_eq, decide_eq_true_eq]
  omega

theorem consolidatableAfter_eq (pool : Pool) (c : Claim) (now : Int) (hs : pool.static = false) :
    consolidatableAfter pool c now = (if mayBeConsolidatable pool c now then Cond.true_ else Cond.absent) := by
  unfold consolidatableAfter mayBeConsolidatable underConsolidateAfter
  rw [hs]
  cases pool.consolidateAfter with
  | none => rfl
  | some ca =>
    cases hi : c.initialized == .true_ <;> cases c.lastPodEvent <;> simp [isTrue_eq, hi, under_iff]
    all_goals cases elapsedSince ca _ now <;> rfl

theorem afterController_eq (f : RFaults) (pool : Pool) (c : Claim) (now : Int) :
    afterController f pool c now = reconcileClaimF f pool c now := by
  unfold afterController reconcileClaimF controllerActs
  cases hs : pool.static with
  | true => simp
  | false =>
    rw [consolidatableAfter_eq pool c now hs]
    cases c.deleting <;> cases f.poolGet <;> cases f.patch <;> simp

def absState (b : Int) (l : Log) : HState :=
  { now := l.now,
    sn := if l.tracked then
            some { claim := l.claim, node := l.node, marked := l.marked,
                   nominatedUntil := (latest l.noms).map (fun t => t + nominationWindow b) }
          else none }

/-- holds of every log reached from an empty one -/
structure LogInv (l : Log) : Prop where
  past : ∀ t ∈ l.noms, t ≤ l.now
  clean : l.tracked = false → l.marks = [] ∧ l.noms = []
  visible : ∀ n, l.node = some n → nodeTracked n = true

theorem loginv_init (t : Int) : LogInv { now := t } :=
  ⟨(by intro t h; cases h), (fun _ => ⟨rfl, rfl⟩), (by intro n h; cases h)⟩

theorem getLast_snoc {α} (l : List α) (a : α) : (l ++ [a]).getLast? = some a := by simp

theorem step_abs_eq (b : Int) (pool : Pool) (l : Log) (e : Ev) (h : LogInv l) :
    hstep b pool (absState b l) e = absState b (specStep pool l e) := by
  obtain ⟨hpast, hclean, hvis⟩ := h
  have hl := latest_append l.noms l.now hpast
  obtain ⟨now, claim, node, marks, noms⟩ := l
  -- once the objects of the log are known (and that an untracked log has no records) both sides compute
  cases claim <;> cases node <;>
    (try (obtain ⟨rfl, rfl⟩ : marks = [] ∧ noms = [] := hclean rfl)) <;>
    cases e with
    | tick d => rfl
    | claim oc => cases oc <;> rfl
    | node on =>
      cases on with
      | none => rfl
      | some n => cases hnt : nodeTracked n <;> simp only [hstep, specStep, accepted_eq, hnt] <;> rfl
    | podEvent => rfl
    | reconcile f => simp only [specStep, Option.map, afterController_eq] <;> rfl
    | mark => simp [hstep, specStep, absState, Log.tracked, Log.marked]
    | unmark => simp [hstep, specStep, absState, Log.tracked, Log.marked]
    | nominate => simp [hstep, specStep, absState, Log.tracked, Log.marked, hl]

theorem LogInv.of_tracked {l : Log} (hp : ∀ t ∈ l.noms, t ≤ l.now) (ht : l.tracked = true)
    (hv : ∀ n, l.node = some n → nodeTracked n = true) : LogInv l :=
  ⟨hp, (fun h => nomatch ht.symm.trans h), hv⟩

theorem step_inv (pool : Pool) (l : Log) (e : Ev) (h : LogInv l) : LogInv (specStep pool l e) := by
  obtain ⟨hpast, hclean, hvis⟩ := h
  fun_cases specStep pool l e
  -- the log is as before (a removal of what is not there, a Node event not accepted, a write to an untracked node) …
  case case3 | case7 | case8 | case12 | case14 | case16 => exact ⟨hpast, hclean, hvis⟩
  -- … or forgotten
  case case4 | case9 => exact loginv_init _
  case case1 d => exact ⟨fun t ht => Int.le_trans (hpast t ht) (by simp; omega), hclean, hvis⟩
  -- deliveries and removals that leave the node tracked
  case case2 c => exact .of_tracked hpast rfl hvis
  case case5 _ hn => exact .of_tracked hpast (by simpa [Log.tracked, Option.isSome_iff_ne_none] using hn) hvis
  case case6 n hn => exact .of_tracked hpast (by simp [Log.tracked]) (fun n' hn' => by cases hn'; exact accepted_eq n ▸ hn)
  case case10 _ hc =>
    exact .of_tracked hpast (by simpa [Log.tracked, Option.isSome_iff_ne_none] using hc) (fun _ h => nomatch h)
  -- mark, unmark, nominate on a tracked node
  case case11 ht | case13 ht => exact .of_tracked hpast ht hvis
  case case15 ht =>
    refine .of_tracked (fun t h => ?_) ht hvis
    rcases List.mem_append.mp h with h | h
    · exact hpast t h
    · cases List.mem_singleton.mp h; exact Int.le_refl _
  -- a change of the NodeClaim's content only: tracked as before, records untouched
  case case17 | case18 => exact ⟨hpast, fun h => hclean (by simpa [Log.tracked] using h), hvis⟩

theorem run_abs (b : Int) (pool : Pool) (es : List Ev) : ∀ (l : Log), LogInv l →
    hrun b pool (absState b l) es = absState b (specRun pool l es) ∧ LogInv (specRun pool l es) := by
  induction es with
  | nil => intro l h; exact ⟨rfl, h⟩
  | cons e es ih =>
    intro l h
    simp only [hrun, specRun]
    rw [step_abs_eq b pool l e h]
    exact ih _ (step_inv pool l e h)

theorem filter_visible {l : Log} (hvis : ∀ n, l.node = some n → nodeTracked n = true) :
    l.node.filter nodeTracked = l.node := by
  cases hn : l.node with
  | none => rfl
  | some n => simp [Option.filter, hvis n hn]

theorem stateNode_world (env : World) (l : Log) (hvis : ∀ n, l.node = some n → nodeTracked n = true) :
    stateNode (l.world env) = (absState env.batchMax l).sn := by
  unfold stateNode Log.world absState Log.tracked
  simp only [filter_visible hvis]
  cases l.claim <;> cases l.node <;> rfl

theorem hselected_abs (env : World) (l : Log) (m : Method) (hvis : ∀ n, l.node = some n → nodeTracked n = true) :
    hselected env (absState env.batchMax l) m = selected (l.world env) m := by
  unfold hselected selected
  rw [stateNode_world env l hvis]
  cases (absState env.batchMax l).sn with
  | none => rfl
  | some s => exact selectedOn_env s m rfl rfl rfl rfl rfl rfl

theorem allowedAfter_iff {env : World} {l : Log} {m : Method} :
    allowedAfter env l m = true ↔
      l.tracked = true ∧ allowed (l.world env) m = true ∧ l.recentlyNominated (window env) = false := by
  simp only [allowedAfter, Bool.and_eq_true, Bool.not_eq_true', and_assoc]

theorem not_recent_of_latest {l : Log} {w : Int}
    (h : (match latest l.noms with | some t => decide (l.now < t + w) | none => false) = false) :
    l.recentlyNominated w = false := by
  unfold Log.recentlyNominated
  rw [Bool.eq_false_iff]
  intro hany
  rw [List.any_eq_true] at hany
  obtain ⟨t, ht, hlt⟩ := hany
  obtain ⟨u, hu, hle⟩ := latest_ge l.noms t ht
  rw [hu] at h
  simp only [decide_eq_true_eq, decide_eq_false_iff_not] at hlt h
  omega

theorem quiet_keeps_claim (pool : Pool) (l : Log) (e : Ev) (c : Claim) (hq : quiet e = true)
    (hc : l.claim = some c) : (specStep pool l e).claim = some c := by
  obtain ⟨now, _, node, marks, noms⟩ := l
  cases hc
  cases e with
  | tick d | mark | unmark | nominate => rfl
  | node on => cases on with
    | some n => simp only [specStep]; split <;> rfl
    | none => cases node <;> rfl
  | claim _ | podEvent | reconcile f => cases hq

theorem quiet_run_keeps_claim (pool : Pool) (es : List Ev) (l : Log) (c : Claim)
    (hq : ∀ e ∈ es, quiet e = true) (hc : l.claim = some c) : (specRun pool l es).claim = some c := by
  induction es generalizing l with
  | nil => exact hc
  | cons e es ih =>
    rw [List.forall_mem_cons] at hq
    exact ih _ hq.2 (quiet_keeps_claim pool l e c hq.1 hc)

theorem specRun_append (pool : Pool) (es₁ es₂ : List Ev) : ∀ (l : Log),
    specRun pool l (es₁ ++ es₂) = specRun pool (specRun pool l es₁) es₂ := by
  induction es₁ with
  | nil => intro l; rfl
  | cons e es ih => intro l; simp only [List.cons_append, specRun]; exact ih _

/-! ## Commands (c07.commands): the queue and Results.Record as writers of the entry -/

theorem hrun_append (b : Int) (pool : Pool) (es₁ es₂ : List Ev) : ∀ (st : HState),
    hrun b pool st (es₁ ++ es₂) = hrun b pool (hrun b pool st es₁) es₂ := by
  induction es₁ with
  | nil => intro st; rfl
  | cons e es ih => intro st; simp only [List.cons_append, hrun]; exact ih _

theorem qstep_h (env : World) (st : QState) (e : QEv) :
    (qstep env st e).h = hrun env.batchMax env.pool st.h (lower env st e) := by
  unfold qstep
  cases e with
  | base b => cases b <;> rfl
  | record r v n => rfl
  | start m => rfl
  | queue f => cases st.inQueue <;> cases f <;> rfl
  | sync => rfl

theorem qrun_h (env : World) (es : List QEv) : ∀ (st : QState),
    (qrun env st es).h = hrun env.batchMax env.pool st.h (lowerRun env st es) := by
  induction es with
  | nil => intro st; rfl
  | cons e es ih =>
    intro st
    simp only [qrun, lowerRun]
    rw [ih, hrun_append, qstep_h]

theorem queued_not_selected (env : World) (st : QState) (m : Method) (hq : st.inQueue = true) :
    qselected env st m = false := by
  unfold qselected hselected
  cases st.h.sn with
  | none => rfl
  | some s => simp [selectedOn, newCandidateOn, envAt, qenv, hq]

theorem qselected_hselected (env : World) (st : QState) (m : Method) (henv : env.inQueue = false)
    (h : qselected env st m = true) : st.inQueue = false ∧ hselected env st.h m = true := by
  cases hq : st.inQueue with
  | true => rw [queued_not_selected env st m hq] at h; cases h
  | false =>
    have : qenv env st = env := by
      unfold qenv; cases env; simp_all
    exact ⟨rfl, by rwa [qselected, this] at h⟩

def hmarked (st : HState) : Bool :=
  match st.sn with
  | some s => s.marked
  | none => false

def keepsMark : Ev → Bool
  | .unmark | .claim none | .node none => false
  | _ => true

theorem hstep_keeps_mark (b : Int) (pool : Pool) (st : HState) (e : Ev) (hk : keepsMark e = true)
    (hm : hmarked st = true) : hmarked (hstep b pool st e) = true := by
  obtain ⟨now, _ | ⟨cl, nd, mk, nom⟩⟩ := st
  · cases hm
  · obtain rfl : mk = true := hm
    -- the entry stays, and no event left writes `marked := false`
    cases e with
    | claim oc => cases oc with
      | some c => rfl
      | none => cases hk
    | node on => cases on with
      | some n => simp only [hstep]; split <;> rfl
      | none => cases hk
    | unmark => cases hk
    | tick d | mark | nominate => rfl
    | podEvent | reconcile f => cases cl <;> rfl

theorem hrun_keeps_mark (b : Int) (pool : Pool) (es : List Ev) (st : HState) (hk : es.all keepsMark = true)
    (hm : hmarked st = true) : hmarked (hrun b pool st es) = true := by
  induction es generalizing st with
  | nil => exact hm
  | cons e es ih =>
    rw [List.all_cons, Bool.and_eq_true] at hk
    exact ih _ hk.2 (hstep_keeps_mark b pool st e hk.1 hm)

theorem marked_not_selected (env : World) (st : HState) (m : Method) (hm : hmarked st = true) :
    hselected env st m = false := by
  unfold hmarked at hm
  unfold hselected
  cases hs : st.sn with
  | none => rfl
  | some s =>
    simp only [hs] at hm
    simp [selectedOn, newCandidateOn, StateNode.validateNode, StateNode.markedForDeletion, hm]

/-- a queue run in which a replacement is lost fails the command, which un-marks -/
def qkeepsMark : QEv → Bool
  | .base e => keepsMark e
  | .queue .replacementLost => false
  | _ => true

theorem syncEvs_keep (st : QState) : (syncEvs st).all keepsMark = true := by
  unfold syncEvs; cases apiClaim st <;> rfl

theorem lower_keeps (env : World) (st : QState) (e : QEv) (hk : qkeepsMark e = true) :
    (lower env st e).all keepsMark = true := by
  cases e with
  | base x =>
    have hpre : (if st.apiDeleting then syncEvs st else []).all keepsMark = true := by
      split
      · exact syncEvs_keep st
      · rfl
    cases x <;> simpa [lower, List.all_append, hpre, qkeepsMark] using hk
  | record r v n | start m => simp only [lower]; split <;> rfl
  | queue f =>
    simp only [lower]
    split
    · cases f <;> simp_all [qkeepsMark]
    · rfl
  | sync => exact syncEvs_keep st

theorem qrun_keeps_mark (env : World) (es : List QEv) (st : QState) (hk : ∀ e ∈ es, qkeepsMark e = true)
    (hm : hmarked st.h = true) : hmarked (qrun env st es).h = true := by
  induction es generalizing st with
  | nil => exact hm
  | cons e es ih =>
    rw [List.forall_mem_cons] at hk
    refine ih _ hk.2 ?_
    rw [qstep_h]
    exact hrun_keeps_mark _ _ _ _ (lower_keeps env st e hk.1) hm

end Karp.CandidateHistory
