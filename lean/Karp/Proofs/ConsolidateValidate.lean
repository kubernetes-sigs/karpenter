/-
Lemmas for C06's validation theorems: what an accepting `validateCommand` has tested, what the size comparison of
`requirementsAreSubset` (`l.Intersection(r).Len() == l.Len()`) says about the value sets, and when it carries over to the
offerings a requirement set admits.  Core Lean only.
-/
import Karp.Proofs.Consolidate

namespace Karp.Consolidate
open Karp.Req

theorem validateCommand_replace {R : Reqs} {names : List String} {re : Sim}
    (h : validateCommand (some (R, names)) re = true) :
    re.allScheduled = true ∧ ∃ c, re.claims = [c] ∧ (∀ n ∈ names, n ∈ c.its.map (·.name)) ∧ reqsSubset R c.reqs = true := by
  unfold validateCommand at h
  rw [Bool.and_eq_true] at h
  refine ⟨h.1, ?_⟩
  have h2 := h.2
  generalize re.claims = cl at h2
  match cl with
  | [] => cases h2
  | _ :: _ :: _ => cases h2
  | [c] =>
    rw [Bool.and_eq_true] at h2
    exact ⟨c, rfl, fun n hn => List.contains_iff_mem.mp (List.all_eq_true.mp h2.1 n hn), h2.2⟩

theorem validateCommand_delete {re : Sim} (h : validateCommand none re = true) :
    re.allScheduled = true ∧ re.claims = [] := by
  unfold validateCommand at h
  rw [Bool.and_eq_true] at h
  refine ⟨h.1, ?_⟩
  have h2 := h.2
  generalize re.claims = cl at h2 ⊢
  match cl with
  | [] => rfl
  | [_] => cases h2
  | _ :: _ :: _ => cases h2

/-! ### `card` (number of distinct values) -/

theorem card_nil : card ([] : List Val) = 0 := rfl

theorem card_cons (a : Val) (as : List Val) : card (a :: as) = 1 + card (as.filter (fun b => !b == a)) := by
  unfold card
  rw [List.eraseDups_cons, List.length_cons, Nat.add_comm]

/-- Filtering commutes with removing duplicates. `eraseDups` on `a :: as` keeps `a` and filters the tail by `≠ a`; the
    two filters commute, and where `p a` is false every `x` with `p x` is `≠ a` anyway. -/
theorem eraseDups_filter (p : Val → Bool) : ∀ A : List Val, (A.filter p).eraseDups = A.eraseDups.filter p
  | [] => rfl
  | a :: as => by
    have ih := eraseDups_filter p (as.filter (fun b => !b == a))
    rw [List.eraseDups_cons, List.filter_cons, List.filter_cons, ← ih, List.filter_filter]
    cases hp : p a with
    | true =>
      rw [if_pos rfl, if_pos rfl, List.eraseDups_cons, List.filter_filter]
      simp only [Bool.and_comm]
    | false =>
      -- `a` is filtered out, and with it every later occurrence
      rw [if_neg Bool.false_ne_true, if_neg Bool.false_ne_true]
      congr 1
      apply List.filter_congr
      intro x _
      cases hx : p x with
      | false => rfl
      | true =>
        have : (x == a) = false := beq_eq_false_iff_ne.mpr fun e => Bool.false_ne_true (hp.symm.trans (e ▸ hx))
        rw [this]; rfl
termination_by A => A.length
decreasing_by exact Nat.lt_succ_of_le (List.length_filter_le _ _)

theorem card_filter (p : Val → Bool) (A : List Val) : card (A.filter p) = (A.eraseDups.filter p).length := by
  unfold card
  rw [eraseDups_filter]

theorem card_filter_le (p : Val → Bool) (A : List Val) : card (A.filter p) ≤ card A := by
  rw [card_filter]
  exact List.length_filter_le _ _

theorem card_filter_eq {p : Val → Bool} {A : List Val} (h : card (A.filter p) = card A) : ∀ a ∈ A, p a = true := by
  rw [card_filter] at h
  exact fun a ha => List.length_filter_eq_length_iff.mp h a (List.mem_eraseDups.mpr ha)

theorem card_append_eq {A B : List Val} (h : card (A ++ B) = card A) : ∀ b ∈ B, b ∈ A := by
  unfold card at h
  rw [List.eraseDups_append, List.length_append] at h
  have hnil := (card_eq_zero (B.removeAll A)).mp (by unfold card; omega)
  intro b hb
  refine Decidable.by_contra fun hm => ?_
  have : b ∈ B.removeAll A := List.mem_filter.mpr ⟨hb, by simpa using hm⟩
  rw [hnil] at this
  cases this

/-! ### the size test of `requirementsAreSubset` on one key -/

/-- the requirement carries no numeric bound (`Gt`/`Lt`/`Gte`/`Lte` never contributed to it) -/
def boundFree (r : Req) : Bool := r.gte.isNone && r.lte.isNone

theorem boundFree_iff (r : Req) : boundFree r = true ↔ r.gte = none ∧ r.lte = none := by
  unfold boundFree
  rw [Bool.and_eq_true, Option.isNone_iff_eq_none, Option.isNone_iff_eq_none]

/-- For bound-free requirements whose value sets are not astronomically large (a Go set cannot hold 2^63 strings),
    `l.Intersection(r).Len() == l.Len()` says that every value `l` admits `r` admits. The size bound `hsz` is for
    the two cases with `l` a complement, whose `len` is `maxInt - card …`: there the equation only determines the
    cardinalities while `card l.values + card r.values` stays below `maxInt`. -/
theorem lenTest_has {l r : Req} (hl : boundFree l = true) (hr : boundFree r = true)
    (hsz : (card l.values : Int) + (card r.values : Int) < maxInt)
    (h : (l.inter r).len = l.len) {v : Val} (hv : l.has v = true) : r.has v = true := by
  obtain ⟨hlg, hll⟩ := (boundFree_iff l).mp hl
  obtain ⟨hrg, hrl⟩ := (boundFree_iff r).mp hr
  unfold Req.inter at h
  simp only [hlg, hll, hrg, hrl, maxOpt, minOpt, boundsEmpty, Bool.false_eq_true, if_false, filter_withinBounds_none] at h
  unfold Req.has at hv ⊢
  simp only [hlg, hll, hrg, hrl, withinBounds, Bool.and_true] at hv ⊢
  cases hcl : l.complement <;> cases hcr : r.complement <;>
    simp only [hcl, hcr, Bool.and_self, Bool.and_true, Bool.and_false, Bool.not_true, Bool.not_false,
      Bool.false_eq_true, if_false, if_true, Req.len] at h hv ⊢
  · -- In A, In B: A ⊆ B
    exact card_filter_eq (Int.ofNat_inj.mp h) v (List.contains_iff_mem.mp hv)
  · -- In A, NotIn B: A ∩ B = ∅
    exact card_filter_eq (Int.ofNat_inj.mp h) v (List.contains_iff_mem.mp hv)
  · -- NotIn A, In B: sizes cannot match
    exfalso
    have := card_filter_le (fun v => !l.values.contains v) r.values
    omega
  · -- NotIn A, NotIn B: B ⊆ A
    have hsub := card_append_eq (by omega : card (l.values ++ r.values) = card l.values)
    rw [Bool.not_eq_true'] at hv ⊢
    exact Bool.eq_false_iff.mpr fun hb =>
      Bool.false_ne_true (hv.symm.trans (List.contains_iff_mem.mpr (hsub v (List.contains_iff_mem.mp hb))))

/-! ### from the size test to the offerings a requirement set admits -/

/-- the size test is exact at key `k` of the pair (command requirements `L`, re-simulated requirements `R`) -/
def lenExactAt (L R : Reqs) (k : String) : Bool :=
  boundFree (L.get k) && boundFree (R.get k) &&
  decide ((card (L.get k).values : Int) + (card (R.get k).values : Int) < maxInt)

/-- the re-simulated capacity-type requirement is a plain `In` set naming nothing but `reserved`
    (what `FinalizeScheduling` leaves behind when it pins a claim to its reservations) -/
def reservedOnly (R : Reqs) : Bool :=
  match R.lookup ctKey with
  | some r => !r.complement && r.values.all (· == reserved) && boundFree r
  | none => false

/-- The hypotheses under which `requirementsAreSubset`'s size test decides "every launch `L` permits, `R` permits":
    no numeric bounds and no astronomically large sets on the three offering keys, and — because the test cannot see
    whether a label may be ABSENT — the re-simulated claim either tolerates an absent reservation id or is pinned to
    reserved capacity (then no launch without a reservation id is in question). -/
def lenExact (ridKey : String) (L R : Reqs) : Bool :=
  lenExactAt L R zoneKey && lenExactAt L R ctKey && lenExactAt L R ridKey &&
  (admitsAbsent R ridKey || reservedOnly R)

theorem reqsSubset_at {L R : Reqs} (h : reqsSubset L R = true) {k : String} {r : Req} (hk : R.lookup k = some r) :
    ((L.get k).inter r).len = (L.get k).len := by
  obtain ⟨l₁, l₂, rfl, _⟩ := List.lookup_eq_some_iff.mp hk
  exact beq_iff_eq.mp (List.all_eq_true.mp h (k, r) (List.mem_append_right _ List.mem_cons_self))

theorem reqsSubset_admitsIn {L R : Reqs} (h : reqsSubset L R = true) {k : String} (hex : lenExactAt L R k = true)
    {v : String} (hv : admitsIn L k v = true) : admitsIn R k v = true := by
  cases hk : R.lookup k with
  | none => unfold admitsIn; rw [hk]
  | some r =>
    have hget : R.get k = r := by unfold Reqs.get; rw [hk]
    unfold lenExactAt at hex
    rw [hget, Bool.and_eq_true, Bool.and_eq_true, decide_eq_true_eq] at hex
    rw [admitsIn_get] at hv ⊢
    rw [hget]
    exact lenTest_has hex.1.1 hex.1.2 hex.2 (reqsSubset_at h hk) hv

theorem reservedOnly_ct {R : Reqs} (h : reservedOnly R = true) {v : String} (hv : admitsIn R ctKey v = true) :
    v = reserved := by
  unfold reservedOnly at h
  unfold admitsIn at hv
  cases hk : R.lookup ctKey with
  | none => rw [hk] at h; cases h
  | some r =>
    rw [hk] at h hv
    rw [Bool.and_eq_true, Bool.and_eq_true, Bool.not_eq_true'] at h
    dsimp only at hv
    unfold Req.has at hv
    rw [h.1.1, if_neg Bool.false_ne_true, Bool.and_eq_true] at hv
    exact beq_iff_eq.mp (List.all_eq_true.mp h.1.2 v (List.contains_iff_mem.mp hv.1))

theorem reqsSubset_offeringCompat {ridKey : String} {L R : Reqs} (h : reqsSubset L R = true)
    (hex : lenExact ridKey L R = true) {o : Offering} (ho : offeringCompat ridKey L o = true) :
    offeringCompat ridKey R o = true := by
  unfold lenExact at hex
  rw [Bool.and_eq_true, Bool.and_eq_true, Bool.and_eq_true, Bool.or_eq_true] at hex
  obtain ⟨⟨⟨hz, hc⟩, hr⟩, habs⟩ := hex
  unfold offeringCompat at ho ⊢
  rw [Bool.and_eq_true, Bool.and_eq_true] at ho ⊢
  obtain ⟨⟨hoz, hoc⟩, hor⟩ := ho
  have hRc := reqsSubset_admitsIn h hc hoc
  refine ⟨⟨reqsSubset_admitsIn h hz hoz, hRc⟩, ?_⟩
  by_cases hres : (o.ct == reserved) = true
  · rw [if_pos hres] at hor ⊢
    exact reqsSubset_admitsIn h hr hor
  · rw [if_neg hres]
    -- pinned to reserved: a launch of another capacity type is not admitted by the command either
    exact habs.elim id fun hro => absurd (beq_iff_eq.mpr (reservedOnly_ct hro hRc)) hres

end Karp.Consolidate
