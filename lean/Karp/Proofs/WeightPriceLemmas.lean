/-
`sort.Slice` as a relation (C19): insertion sort returns a sorted permutation for every strict weak order, and the only
one when the order is total.  The comparator of `OrderByWeight` is such an order on (weight, name); a list sorted by it
passes the specification's adjacency test.
-/
import Karp.Model.WeightOrder
import Karp.Spec.WeightPrice

namespace Karp.WeightOrder
open List

variable {α : Type}

structure StrictWeak (lt : α → α → Bool) : Prop where
  asymm : ∀ a b, lt a b = true → lt b a = false
  negTrans : ∀ a b c, lt a b = false → lt b c = false → lt a c = false

theorem StrictWeak.comap {β : Type} {lt : α → α → Bool} (h : StrictWeak lt) (f : β → α) :
    StrictWeak (fun a b => lt (f a) (f b)) :=
  ⟨fun _ _ => h.asymm _ _, fun _ _ _ => h.negTrans _ _ _⟩

def Sorted (lt : α → α → Bool) (l : List α) : Prop := l.Pairwise (fun a b => lt b a = false)

theorem sortedBy_iff (lt : α → α → Bool) (l : List α) : sortedBy lt l = true ↔ Sorted lt l := by
  induction l with
  | nil => simp [sortedBy, Sorted]
  | cons x xs ih =>
    simp only [sortedBy, Sorted, Bool.and_eq_true, List.all_eq_true, Bool.not_eq_eq_eq_not, Bool.not_true,
      pairwise_cons, ih]

theorem insertBy_perm (lt : α → α → Bool) (x : α) (l : List α) : insertBy lt x l ~ x :: l := by
  fun_induction insertBy lt x l with
  | case1 => exact Perm.refl _
  | case2 y ys _ => exact Perm.refl _
  | case3 y ys _ ih => exact (Perm.cons y ih).trans (Perm.swap x y ys)

theorem sortBy_perm (lt : α → α → Bool) (l : List α) : sortBy lt l ~ l := by
  induction l with
  | nil => simp [sortBy]
  | cons x xs ih => exact (insertBy_perm lt x _).trans (Perm.cons x ih)

theorem insertBy_sorted {lt : α → α → Bool} (h : StrictWeak lt) (x : α) (l : List α)
    (hl : Sorted lt l) : Sorted lt (insertBy lt x l) := by
  unfold Sorted at hl ⊢
  fun_induction insertBy lt x l with
  | case1 => simp
  | case2 y ys hxy =>
    -- `x` goes in front: it is not after `y`, nor after anything `y` is not after
    obtain ⟨hy, _⟩ := pairwise_cons.mp hl
    refine pairwise_cons.mpr ⟨fun z hz => ?_, hl⟩
    rcases mem_cons.mp hz with rfl | hz
    · exact h.asymm _ _ hxy
    · exact h.negTrans _ _ _ (hy z hz) (h.asymm _ _ hxy)
  | case3 y ys hxy ih =>
    obtain ⟨hy, hys⟩ := pairwise_cons.mp hl
    refine pairwise_cons.mpr ⟨fun z hz => ?_, ih hys⟩
    rcases mem_cons.mp ((insertBy_perm lt x ys).mem_iff.mp hz) with rfl | hz
    · simpa using hxy
    · exact hy z hz

theorem sortBy_sorted {lt : α → α → Bool} (h : StrictWeak lt) (l : List α) : Sorted lt (sortBy lt l) := by
  induction l with
  | nil => simp [sortBy, Sorted]
  | cons x xs ih => exact insertBy_sorted h x _ ih

theorem exists_index_lt_of_lt {lt : α → α → Bool} (h : StrictWeak lt) {l : List α} (hs : Sorted lt l)
    {i : Nat} {q r : α} (hi : l[i]? = some q) (hr : r ∈ l) (hlt : lt r q = true) :
    ∃ j, j < i ∧ l[j]? = some r := by
  obtain ⟨j, hj⟩ := getElem?_of_mem hr
  refine ⟨j, ?_, hj⟩
  obtain ⟨hi', hq⟩ := List.getElem?_eq_some_iff.mp hi
  obtain ⟨hj', hr'⟩ := List.getElem?_eq_some_iff.mp hj
  rcases Nat.lt_trichotomy j i with hji | hji | hji
  · exact hji
  · subst hji
    rw [hq] at hr'; subst hr'
    rw [h.asymm _ _ hlt] at hlt; cases hlt
  · have := (pairwise_iff_getElem.mp hs) i j hi' hj' hji
    rw [hq, hr', hlt] at this; cases this

theorem allowedSort_iff [BEq α] [LawfulBEq α] (lt : α → α → Bool) (input output : List α) :
    allowedSort lt input output = true ↔ input ~ output ∧ Sorted lt output := by
  rw [allowedSort, Bool.and_eq_true, isPerm_iff, sortedBy_iff]

theorem allowedSort_unique [BEq α] [LawfulBEq α] {lt : α → α → Bool} (h : StrictWeak lt)
    (htotal : ∀ a b, lt a b = false → lt b a = false → a = b) {input out : List α}
    (hs : allowedSort lt input out = true) : out = sortBy lt input := by
  obtain ⟨hperm, hsorted⟩ := (allowedSort_iff _ _ _).mp hs
  refine Perm.eq_of_pairwise (le := fun a b => lt b a = false) (fun a b _ _ h1 h2 => htotal a b h2 h1) hsorted
    (sortBy_sorted h input) (hperm.symm.trans (sortBy_perm lt input).symm)

/-- Go's `<` on strings, carried as byte lists, is the lexicographic order of the lists -/
theorem lexLt_iff (a b : List Nat) : lexLt a b = true ↔ a < b := by
  fun_induction lexLt a b with
  | case1 => simp
  | case2 => simp
  | case3 => simp
  | case4 a as b bs h => simp [List.cons_lt_cons_iff, h]
  | case5 a as b bs h _ =>
    have : ¬ a = b := by omega
    simp [List.cons_lt_cons_iff, h, this]
  | case6 a as b bs _ _ ih =>
    obtain rfl : a = b := by omega
    simp [ih]

theorem lexLt_false_iff (a b : List Nat) : lexLt a b = false ↔ b ≤ a := by
  rw [← Bool.not_eq_true, lexLt_iff, List.not_lt]

theorem lexLt_irrefl : ∀ a : List Nat, lexLt a a = false :=
  fun a => (lexLt_false_iff a a).mpr (List.le_refl a)

theorem lexLt_asymm (a b : List Nat) (h : lexLt a b = true) : lexLt b a = false :=
  (lexLt_false_iff b a).mpr (List.le_of_lt ((lexLt_iff a b).mp h))

theorem lexLt_total (a b : List Nat) (h1 : lexLt a b = false) (h2 : lexLt b a = false) : a = b :=
  List.le_antisymm ((lexLt_false_iff b a).mp h2) ((lexLt_false_iff a b).mp h1)

theorem lexLt_negTrans (a b c : List Nat) (h1 : lexLt a b = false) (h2 : lexLt b c = false) : lexLt a c = false :=
  (lexLt_false_iff a c).mpr (List.le_trans ((lexLt_false_iff b c).mp h2) ((lexLt_false_iff a b).mp h1))

theorem before_iff (a b : Pool) :
    before a b = true ↔ b.weight < a.weight ∨ (a.weight = b.weight ∧ lexLt b.name a.name = true) := by
  fun_cases before a b <;> simp [*]

theorem before_false_iff (a b : Pool) :
    before a b = false ↔ a.weight < b.weight ∨ (b.weight = a.weight ∧ lexLt b.name a.name = false) := by
  fun_cases before a b
  · simp [*]
  · rename_i hw
    have hw' : ¬ b.weight = a.weight := fun e => hw e.symm
    simp only [hw', decide_eq_false_iff_not, false_and, or_false]
    omega

theorem before_of_weight {p q : Pool} (h : p.weight < q.weight) : before q p = true :=
  (before_iff q p).mpr (Or.inl h)

theorem before_strictWeak : StrictWeak before := by
  constructor
  · intro a b h
    rw [before_iff] at h
    rw [before_false_iff]
    exact h.imp id (fun ⟨e, h'⟩ => ⟨e, lexLt_asymm _ _ h'⟩)
  · intro a b c h1 h2
    rw [before_false_iff] at h1 h2 ⊢
    rcases h1 with h1 | ⟨e1, h1⟩
    · rcases h2 with h2 | ⟨e2, _⟩ <;> left <;> omega
    · rcases h2 with h2 | ⟨e2, h2⟩
      · left; omega
      · exact Or.inr ⟨e2.trans e1, lexLt_negTrans _ _ _ h2 h1⟩

theorem before_antisymm (a b : Pool) (h1 : before a b = false) (h2 : before b a = false) : a = b := by
  rw [before_false_iff] at h1 h2
  rcases h1 with h1 | ⟨e1, h1⟩
  · rcases h2 with h2 | ⟨e2, _⟩ <;> omega
  · rcases h2 with h2 | ⟨_, h2⟩
    · omega
    · have hn := lexLt_total _ _ h2 h1
      cases a; cases b; simp_all

open Karp.Spec.WeightPrice

theorem mayPrecede_iff (a b : Pool) : mayPrecede a b = true ↔ before b a = false := by
  simp [mayPrecede, before_false_iff]

theorem adjacentOk_of_sorted : ∀ (l : List Pool), Sorted before l → adjacentOk l = true
  | [], _ => rfl
  | [_], _ => rfl
  | a :: b :: rest, h => by
    obtain ⟨hab, hrest⟩ := pairwise_cons.mp h
    rw [adjacentOk, Bool.and_eq_true, mayPrecede_iff]
    exact ⟨hab b mem_cons_self, adjacentOk_of_sorted (b :: rest) hrest⟩

end Karp.WeightOrder
