/-
C11 helper lemmas: the pod-layer invariant is preserved by every operation of the cache (with the repairs).
-/
import Karp.Proofs.ClusterStatePods

namespace Karp.ClusterState
open Cluster Karp.Spec.ClusterAbs

theorem good_congr {fx : Fixes} {dsOf : String → Bool} {b : Map String} {api : Api} {d : List (String × String)} {s s' : SNode} {R : Map PodObj}
    (hn : s'.node = s.node) (ha : s'.aggs = s.aggs) (h : Good fx dsOf b api d s R) : Good fx dsOf b api d s' R := by
  have hl : s'.limits = s.limits := congrArg (·.2.2.2.2.2.2.2.2) ha
  exact ⟨agg_congr ha h.agg, h.tab, by rw [hn]; exact h.t1, by rw [hn]; exact h.t2, h.t3, by rw [hn]; exact h.t4,
    by rw [hl, hn]; exact h.lim, fun hf => volExact_congr ha (h.exact hf)⟩

theorem good_empty {fx : Fixes} {dsOf : String → Bool} {b : Map String} {api : Api} {d : List (String × String)} {s : SNode}
    (hn : s.node = none) (ha : s.aggs = SNode.new.aggs) : Good fx dsOf b api d s [] := by
  have hl : s.limits = [] := congrArg (·.2.2.2.2.2.2.2.2) ha
  exact ⟨agg_congr ha agg_new.1, tableOK_nil dsOf, fun _ => rfl, by intro k p h; simp at h,
   by intro k p h; simp at h, by intro k p v hv; rw [hn] at hv; simp at hv, by rw [hl, hn], fun _ => volExact_congr ha agg_new.2⟩

theorem nameOK_of_struct {w : Owners} {c : Cluster} {o : OC} (he : (proj c).Eqv o) (h : Struct w o) : NameOK c ∧ NoEmptyKey c := by
  have hnn : c.nodeNameToPid = o.nn := he.nn
  refine ⟨⟨?_, ?_⟩, ?_⟩
  · intro id s v hs hv
    have ho : Map.get o.nodes id = some s.objs := by rw [eqv_get he, hs]; rfl
    have := h.nb id s.objs v ho hv
    rw [hnn]; exact ⟨this.1, this.2.2.2⟩
  · intro name id hg
    rw [hnn] at hg
    obtain ⟨so, v, hso, hv, hvn⟩ := h.nf name id hg
    rw [eqv_get he] at hso
    obtain ⟨s, hs, hso⟩ := Option.map_eq_some_iff.mp hso
    exact ⟨s, v, hs, by rw [← hv, ← hso]; rfl, hvn⟩
  · show Map.get c.nodes "" = none
    have := h.k0
    rw [eqv_get he] at this
    cases hs : Map.get c.nodes "" with
    | none => rfl
    | some s => rw [hs] at this; simp at this

theorem podInv_api {fx : Fixes} {dsOf : String → Bool} {c : Cluster} {api api' : Api} {d d' : List (String × String)}
    (h3 : ∀ k, ("p", k) ∉ d' → ("p", k) ∉ d ∧ Map.get api'.pods k = Map.get api.pods k) (h : PodInv fx dsOf c api d) :
    PodInv fx dsOf c api' d' := by
  refine ⟨h.names, ?_⟩
  intro id s hs
  obtain ⟨R, hR⟩ := h.good id s hs
  exact ⟨R, good_mono hR (fun _ _ _ => rfl) h3⟩

/-- what an operation on Nodes / NodeClaims / marks may leave as a state node: one from before with the same Node and
    aggregates, or one that has neither Node nor aggregates -/
def FromOld (c : Cluster) (s' : SNode) : Prop :=
  (∃ id0 s, Map.get c.nodes id0 = some s ∧ s'.node = s.node ∧ s'.aggs = s.aggs) ∨ (s'.node = none ∧ s'.aggs = SNode.new.aggs)

/-- `c'` arises from `c` by an operation on Nodes / NodeClaims / marks only -/
structure ObjOp (c c' : Cluster) : Prop where
  b : c'.bindings = c.bindings
  nodes : ∀ id s', Map.get c'.nodes id = some s' → FromOld c s'

theorem ObjOp.refl (c : Cluster) : ObjOp c c := ⟨rfl, fun id s' hs => Or.inl ⟨id, s', hs, rfl, rfl⟩⟩

theorem ObjOp.trans {a b c : Cluster} (h1 : ObjOp a b) (h2 : ObjOp b c) : ObjOp a c := by
  refine ⟨h2.b.trans h1.b, ?_⟩
  intro id s'' hs''
  rcases h2.nodes id s'' hs'' with ⟨id0, s', hs', hn, ha⟩ | h
  · rcases h1.nodes id0 s' hs' with ⟨id1, s, hs, hn1, ha1⟩ | ⟨hn1, ha1⟩
    · exact Or.inl ⟨id1, s, hs, hn.trans hn1, ha.trans ha1⟩
    · exact Or.inr ⟨hn.trans hn1, ha.trans ha1⟩
  · exact Or.inr h

theorem good_fromOld {fx : Fixes} {dsOf : String → Bool} {c : Cluster} {api : Api} {d : List (String × String)} (h : PodInv fx dsOf c api d)
    {s' : SNode} (hs' : FromOld c s') : ∃ R, Good fx dsOf c.bindings api d s' R := by
  rcases hs' with ⟨id0, s, hs, hn, ha⟩ | ⟨hn, ha⟩
  · obtain ⟨R, hR⟩ := h.good id0 s hs
    exact ⟨R, good_congr hn ha hR⟩
  · exact ⟨[], good_empty hn ha⟩

theorem podInv_objOp {fx : Fixes} {dsOf : String → Bool} {c c' : Cluster} {api : Api} {d : List (String × String)} (h : PodInv fx dsOf c api d)
    (hN : NameOK c') (ho : ObjOp c c') : PodInv fx dsOf c' api d :=
  ⟨hN, fun id s' hs' => ho.b ▸ good_fromOld h (ho.nodes id s' hs')⟩

theorem ObjOp.write {c c2 : Cluster} (h : ObjOp c c2) (id : String) (old new : Option SNode) (nn cn : Map String) (np : NPState)
    (hs : ∀ s', new = some s' → FromOld c s') : ObjOp c (c2.write id old new nn cn np) := by
  refine ⟨h.b, fun id' x hx => ?_⟩
  rw [get_write] at hx
  split at hx
  · exact hs x hx
  · exact h.nodes id' x hx

theorem ObjOp.frame {c c' : Cluster} (h : ObjOp c c') (nn cn : Map String) (np : NPState) :
    ObjOp c ⟨c'.nodes, c'.bindings, nn, cn, c'.poolRes, np⟩ :=
  ⟨h.b, h.nodes⟩

theorem fromOld_self {c : Cluster} {id : String} {sn s' : SNode} (hsn : Map.get c.nodes id = some sn) (hn : s'.node = sn.node)
    (ha : s'.aggs = sn.aggs) : FromOld c s' :=
  Or.inl ⟨id, sn, hsn, hn, ha⟩

theorem objOp_setMark (c : Cluster) (pid : String) (b : Bool) : ObjOp c (c.setMark pid b) := by
  rcases setMark_cases c pid b with ⟨_, e⟩ | ⟨sn, np', hsn, e⟩
  · rw [e]; exact ObjOp.refl c
  · rw [e]; exact (ObjOp.refl c).write _ _ _ _ _ _ (fun s' hs' => fromOld_self hsn (Option.some.inj hs' ▸ rfl) (Option.some.inj hs' ▸ rfl))

theorem objOp_nominate (c : Cluster) (pid : String) : ObjOp c (c.nominate pid) := by
  unfold Cluster.nominate
  cases hs : Map.get c.nodes pid with
  | none => exact ObjOp.refl c
  | some sn =>
    refine ⟨rfl, fun id' x hx => ?_⟩
    have hx' : Map.get (Map.put c.nodes pid { sn with nominated := true }) id' = some x := hx
    rw [Map.get_put] at hx'
    split at hx'
    · exact fromOld_self hs (Option.some.inj hx' ▸ rfl) (Option.some.inj hx' ▸ rfl)
    · exact fromOld_self hx' rfl rfl

theorem objOp_cleanupNodeClaim {c c' : Cluster} {name : String} (hr : c.cleanupNodeClaim name = .ok c') : ObjOp c c' := by
  rcases cleanupNodeClaim_ok hr with rfl | ⟨id, sn, _, hsn, rfl⟩
  · exact (ObjOp.refl c).frame _ _ _
  · rw [detachClaim_eq]
    refine (ObjOp.refl c).write _ _ _ _ _ _ (fun s' hs' => ?_)
    unfold SNode.dropClaim at hs'
    split at hs'
    · simp at hs'
    · exact fromOld_self hsn (Option.some.inj hs' ▸ rfl) (Option.some.inj hs' ▸ rfl)

theorem objOp_updateNodeClaim {fx : Fixes} (hf : PodFix fx) {c c' : Cluster} {claim : ClaimObj}
    (hr : c.updateNodeClaim fx claim = .ok c') : ObjOp c c' := by
  rw [updateNodeClaim_eq] at hr
  obtain ⟨c2, hc2, rfl⟩ := map_ok hr
  refine ObjOp.frame (c' := c2) ?_ _ _ _
  split at hc2
  · rw [installClaim_eq] at hc2
    obtain ⟨c3, hc3, rfl⟩ := map_ok hc2
    have h3 : ObjOp c c3 := by
      split at hc3
      · exact objOp_cleanupNodeClaim hc3
      · exact Except.ok.inj hc3 ▸ ObjOp.refl c
    refine h3.write _ _ _ _ _ _ (fun s' hs' => ?_)
    have hl := aggs_claimLiteral fx hf.a claim ((Map.get c.nodes claim.pid).getD SNode.new)
    rw [Option.some.inj hs'] at hl
    cases hs : Map.get c.nodes claim.pid with
    | none => rw [hs] at hl; exact Or.inr ⟨hl.2, hl.1⟩
    | some s => rw [hs] at hl; exact fromOld_self hs hl.2 hl.1
  · exact Except.ok.inj hc2 ▸ ObjOp.refl c

theorem objOp_detachNode {fx : Fixes} (hf : PodFix fx) (c : Cluster) (name id : String) (sn : SNode) :
    ObjOp c (c.detachNode fx name id sn) := by
  rw [detachNode_eq]
  refine (ObjOp.refl c).write _ _ _ _ _ _ (fun s' hs' => ?_)
  unfold SNode.dropNode at hs'
  rw [hf.d] at hs'
  split at hs'
  · simp at hs'
  · exact Or.inr (Option.some.inj hs' ▸ ⟨rfl, rfl⟩)

theorem objOp_cleanupNode {fx : Fixes} (hf : PodFix fx) {c c' : Cluster} {name : String} (hr : c.cleanupNode fx name = .ok c') :
    ObjOp c c' := by
  rcases cleanupNode_ok hr with rfl | ⟨id, sn, _, _, rfl⟩
  · exact ObjOp.refl _
  · exact objOp_detachNode hf c name id sn

theorem PodUpd.limits {fx : Fixes} {s s' : SNode} (h : PodUpd fx s s') : s'.limits = s.limits := by
  induction h with
  | refl => rfl
  | upd p _ ih => exact ih
  | del k _ ih => exact ih

/-- `UpdateNode` on an accepted Node version -/
theorem podInv_newStateFromNode {dsOf : String → Bool} {c c' : Cluster} {api : Api} {d : List (String × String)} (fx : Fixes)
    (hf : PodFix fx) (h : PodInv fx dsOf c api d) (h0 : NoEmptyKey c) (hapi : PodsOK dsOf api) (node : NodeObj)
    (hr : c.newStateFromNode fx api node = .ok c') (hN : NameOK c') : PodInv fx dsOf c' api d := by
  rw [newStateFromNode_eq] at hr
  obtain ⟨c2, hc2, rfl⟩ := map_ok hr
  generalize (Map.get c.nodes node.pid).getD SNode.new = old at hc2 hN ⊢
  have hnamed : ∀ k p, Map.get api.pods k = some p → p.name = k := fun k p hg => (hapi.named k p hg).1
  have hp := podInv_populate (d := d) fx hapi node.name api.pods.vals (fun _ hp => hp) (vals_names_nodup hapi.nd hnamed) c
    (nodeLiteral node old) h h0
  have hl := agg_nodeLiteral node old
  obtain ⟨R, hagg, htab, hget, hvol⟩ := populate_agg fx dsOf c api _ node.name hapi hl.1 hl.2
  have hu := (populate_podOnly fx node.name api.pods.vals c (nodeLiteral node old)).2
  have hnode : (c.populate fx (nodeLiteral node old) node.name api.pods.vals).2.node = some node := hu.fields.1
  have hlim : (c.populate fx (nodeLiteral node old) node.name api.pods.vals).2.limits = limitsOf node [] := by
    rw [hu.limits]
    have := carriedN_aggregates.2.2.2.2.2.2
    simp [nodeLiteral, this]
  clear hu
  generalize c.populate fx (nodeLiteral node old) node.name api.pods.vals = cn at hc2 hp hagg hvol hnode hlim hN ⊢
  have h2 : ObjOp cn.1 c2 := by
    rcases rekeyed_cleanupNode_ok hc2 with rfl | ⟨id, sn, _, _, rfl⟩
    · exact ObjOp.refl _
    · exact objOp_detachNode hf _ _ _ _
  refine ⟨hN, ?_⟩
  intro id s' hs'
  rw [installNode_eq] at hs' ⊢
  rw [get_write] at hs'
  show ∃ R, Good fx dsOf c2.bindings api d s' R
  rw [h2.b]
  by_cases he : id = node.pid
  · rw [if_pos he] at hs'
    rw [← Option.some.inj hs']
    refine ⟨R, hagg, htab, ?_, ?_, ?_, ?_, ?_, hvol⟩
    rotate_right
    · rw [hnode, hlim]
    · intro hn; rw [hnode] at hn; simp at hn
    · intro k p hg
      rw [hget, Option.filter_eq_some_iff] at hg
      have hon := (onNode_iff _ _).mp hg.2
      refine ⟨hon.2, node, hnode, hon.1, ?_⟩
      have := hp.2.2.1 p (Map.mem_vals_of_get hg.1) hg.2
      rw [hnamed k p hg.1] at this
      exact this
    · intro k p hg _
      rw [hget, Option.filter_eq_some_iff] at hg
      exact hg.1
    · intro k p v hv hg _ ht hn
      rw [hnode] at hv
      rw [hget, Option.filter_eq_some_iff]
      rw [← Option.some.inj hv] at hn
      exact ⟨hg, (onNode_iff _ _).mpr ⟨hn, ht⟩⟩
  · rw [if_neg he] at hs'
    exact good_fromOld hp.1 (h2.nodes id s' hs')

/-- pods in events respect the "always / never a DaemonSet pod" rule -/
def podEventOK (dsOf : String → Bool) : Event → Prop
  | .setPod p => dsOf p.name = p.ds
  | _ => True

theorem podsOK_step {dsOf : String → Bool} {api : Api} (h : PodsOK dsOf api) (e : Event) (he : podEventOK dsOf e) :
    PodsOK dsOf (api.step e) := by
  cases e with
  | setPod p => exact ⟨Map.noDup_put h.nd _ _, Map.forall_put h.named ⟨rfl, he⟩⟩
  | delPod k0 => exact ⟨Map.noDup_erase h.nd _, Map.forall_erase h.named k0⟩
  | setNode _ | delNode _ | setClaim _ | delClaim _ | recNode _ | recClaim _ | recPod _ | mark _ | unmark _ | nominate _ =>
    exact ⟨h.nd, h.named⟩

theorem mem_p_clean (g : Ghost) (kind name k : String) (hk : kind ≠ "p") :
    ("p", k) ∉ (g.clean kind name).dirty → ("p", k) ∉ g.dirty := by
  intro h hm
  apply h
  rw [mem_clean]
  exact ⟨hm, fun e => hk (Prod.mk.inj e).1.symm⟩

theorem podInv_recPod {dsOf : String → Bool} {c : Cluster} {api : Api} {g : Ghost} (fx : Fixes) (hf : PodFix fx)
    (h : PodInv fx dsOf c api g.dirty) (h0 : NoEmptyKey c) (hapi : PodsOK dsOf api) (name : String) (c' : Cluster) (r : RecResult)
    (hr : c.step fx api (.recPod name) = .ok (c', r)) :
    PodInv fx dsOf c' api (g.clean "p" name).dirty := by
  have hd : (g.clean "p" name).dirty = g.dirty.filter (· ≠ ("p", name)) := rfl
  rw [hd]
  simp only [Cluster.step] at hr
  cases hg : Map.get api.pods name with
  | none =>
    rw [hg] at hr
    simp only [Except.ok.injEq, Prod.mk.injEq] at hr
    rw [← hr.1]
    exact podInv_forget h h0 name (fun id s v p _ _ hp => by rw [hg] at hp; cases hp)
  | some p =>
    rw [hg] at hr
    simp only [Except.ok.injEq, Prod.mk.injEq] at hr
    rw [← hr.1]
    have hpn : p.name = name := (hapi.named name p hg).1
    have hpd : dsOf p.name = p.ds := by rw [hpn]; exact (hapi.named name p hg).2
    -- "no state node has to account the pod" is a statement about `p`, the API's version of it
    have nobody : (∀ id s v, Map.get c.nodes id = some s → s.node = some v → p.terminal = false → p.node ≠ v.name) →
        ∀ id s v q, Map.get c.nodes id = some s → s.node = some v → Map.get api.pods name = some q → q.terminal = false →
          q.node ≠ v.name := by
      intro hp id s v q hs hv hq hqt
      rw [hg] at hq
      cases hq
      exact hp id s v hs hv hqt
    unfold Cluster.updatePod
    by_cases ht : p.terminal = true
    · rw [if_pos ht, hpn]
      exact podInv_forget h h0 name (nobody fun _ _ _ _ _ hpt => by rw [ht] at hpt; cases hpt)
    · rw [if_neg ht]
      unfold Cluster.podUsage
      by_cases hpe : p.node = ""
      · rw [if_pos hpe, hf.e, if_pos rfl, hpn]
        exact podInv_forget h h0 name (nobody fun id s v hs hv _ e => (h.names.fwd id s v hs hv).2 (by rw [← e, hpe]))
      · rw [if_neg hpe]
        rcases nodeByName_cases h.names h0 p.node with ⟨hnb, hun⟩ | ⟨id, sn, vN, hnb, hsn, hvN, hvNn⟩
        · rw [hnb]
          dsimp only
          have hck := nobody fun id s v hs hv _ e => by rw [e, (h.names.fwd id s v hs hv).1] at hun; cases hun
          rw [hf.e, hpn]
          -- the old binding is forgotten if it names another node; otherwise nobody accounts the pod
          cases hb : Map.get c.bindings name with
          | none =>
            simp only [Bool.true_and, Bool.false_eq_true, if_false]
            exact podInv_clean_noentry h name (noEntry_of_binding h name (Or.inl hb)) hck
          | some M =>
            simp only [Bool.true_and]
            by_cases hM : M = p.node
            · rw [show decide (M ≠ p.node) = false by simp [hM], if_neg Bool.false_ne_true]
              exact podInv_clean_noentry h name (noEntry_of_binding h name (Or.inr ⟨M, hb, by rw [hM]; exact hun⟩)) hck
            · rw [show decide (M ≠ p.node) = true by simp [hM], if_pos rfl]
              exact podInv_forget h h0 name hck
        · rw [hnb]
          dsimp only
          have := (podInv_update fx h h0 p (by rw [hpn]; exact hg) (Bool.not_eq_true _ ▸ ht) hpd id sn vN hsn hvN hvNn).1
          rw [show (g.dirty.filter (· ≠ ("p", name))) = g.dirty.filter (· ≠ ("p", p.name)) from by rw [hpn]]
          exact this

end Karp.ClusterState
