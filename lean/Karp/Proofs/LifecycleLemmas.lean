/-
Helper lemmas for C14: what each phase of the modelled `Controller.Reconcile` does to the parts of the
world and of the in-memory NodeClaim that the invariants talk about; last, the byte cut of `truncateMessage`.
-/
import Karp.Model.Lifecycle
namespace Karp.Lifecycle

section ctx
variable (c : Ctx) (s : Site) (o : Outcome) (st : Tri) (r : Reason)
@[simp] theorem call_w : (c.call s o).w = c.w := rfl
@[simp] theorem call_mem : (c.call s o).mem = c.mem := rfl
@[simp] theorem call_errs : (c.call s o).errs = c.errs := rfl
@[simp] theorem call_errsNF : (c.call s o).errsNF = c.errsNF := rfl
@[simp] theorem call_results : (c.call s o).results = c.results := rfl
@[simp] theorem call_calls : (c.call s o).calls = c.calls ++ [⟨s, o⟩] := rfl
@[simp] theorem setL_w : (c.setL st r).w = c.w := rfl
@[simp] theorem setR_w : (c.setR st r).w = c.w := rfl
@[simp] theorem setI_w : (c.setI st r).w = c.w := rfl
@[simp] theorem setL_calls : (c.setL st r).calls = c.calls := rfl
@[simp] theorem setR_calls : (c.setR st r).calls = c.calls := rfl
@[simp] theorem setI_calls : (c.setI st r).calls = c.calls := rfl
@[simp] theorem setL_errs : (c.setL st r).errs = c.errs := rfl
@[simp] theorem setR_errs : (c.setR st r).errs = c.errs := rfl
@[simp] theorem setI_errs : (c.setI st r).errs = c.errs := rfl
@[simp] theorem setL_errsNF : (c.setL st r).errsNF = c.errsNF := rfl
@[simp] theorem setR_errsNF : (c.setR st r).errsNF = c.errsNF := rfl
@[simp] theorem setI_errsNF : (c.setI st r).errsNF = c.errsNF := rfl
@[simp] theorem setL_results : (c.setL st r).results = c.results := rfl
@[simp] theorem setR_results : (c.setR st r).results = c.results := rfl
@[simp] theorem setI_results : (c.setI st r).results = c.results := rfl
@[simp] theorem setL_mem : (c.setL st r).mem = { c.mem with conds := { c.mem.conds with l := c.mem.conds.l.set st r c.w.now } } := rfl
@[simp] theorem setR_mem : (c.setR st r).mem = { c.mem with conds := { c.mem.conds with r := c.mem.conds.r.set st r c.w.now } } := rfl
@[simp] theorem setI_mem : (c.setI st r).mem = { c.mem with conds := { c.mem.conds with i := c.mem.conds.i.set st r c.w.now } } := rfl
end ctx

def poolCalls (f : Faults) : List Call :=
  if f.poolGet = .unlabelled then [] else [⟨.poolGet, f.poolGet.toOutcome⟩]

@[simp] theorem poolRead_eq (f : Faults) (c : Ctx) : poolRead f c = { c with calls := c.calls ++ poolCalls f } := by
  unfold poolRead poolCalls; split <;> simp [Ctx.call]

@[simp] theorem poolHealth_eq (f : Faults) (c : Ctx) : poolHealth f c =
    ({ c with calls := c.calls ++ poolCalls f,
              results := if f.poolGet.verdict = .requeue then c.results ++ [0] else c.results,
              errs := c.errs || decide (f.poolGet.verdict = .fail) }, f.poolGet.verdict) := by
  unfold poolHealth; cases f.poolGet.verdict <;> simp

theorem poolHealth_proceed (f : Faults) (c : Ctx) (h : (poolHealth f c).2 = .proceed) :
    (poolHealth f c).1.errs = c.errs ∧ (poolHealth f c).1.results = c.results := by
  simp at h; simp [h]

@[simp] theorem Cond.set_status (c : Cond) (st : Tri) (r : Reason) (now : Nat) : (c.set st r now).status = st := rfl

/-- the part of the world the invariants talk about -/
structure Core where
  cache : Bool
  instances : Nat
  finEver : Bool
  views : List Claim
  conds : Conds
  pid : Bool
  plabels : Bool
  fin : Bool

def World.core (w : World) : Core :=
  ⟨w.cache, w.instances, w.finEver, w.views, w.claim.conds, w.claim.providerID, w.claim.provLabels, w.claim.finalizer⟩

theorem deleted_core (c : Claim) : c.deleted.conds = c.conds ∧ c.deleted.providerID = c.providerID ∧
    c.deleted.provLabels = c.provLabels ∧ c.deleted.finalizer = c.finalizer := by
  unfold Claim.deleted; split <;> simp

def MaybeDeleted (a b : Claim) : Prop := b = a ∨ b = a.deleted

theorem deleted_deleted (c : Claim) : c.deleted.deleted = c.deleted := by
  unfold Claim.deleted; split <;> simp [*]

theorem MaybeDeleted.refl (a : Claim) : MaybeDeleted a a := Or.inl rfl

theorem MaybeDeleted.core {a b : Claim} (h : MaybeDeleted a b) : b.conds = a.conds ∧ b.providerID = a.providerID ∧
    b.provLabels = a.provLabels ∧ b.finalizer = a.finalizer := by
  rcases h with rfl | rfl
  · exact ⟨rfl, rfl, rfl, rfl⟩
  · exact deleted_core a

theorem MaybeDeleted.trans {a b c : Claim} (h1 : MaybeDeleted a b) (h2 : MaybeDeleted b c) : MaybeDeleted a c := by
  rcases h1 with rfl | rfl <;> rcases h2 with rfl | rfl
  · exact Or.inl rfl
  · exact Or.inr rfl
  · exact Or.inr rfl
  · exact Or.inr (deleted_deleted a)

def Claim.gone (c : Claim) : Prop := c.deleting = true ∨ c.present = false

theorem deleted_gone (c : Claim) : (c.present = false → c.deleted.present = false) ∧ (c.gone → c.deleted.gone) ∧
    (c.present = true → c.deleted.gone) := by
  unfold Claim.deleted Claim.gone
  split <;> simp <;> (try intro h; try simp [h])
  all_goals (intro h; exact Or.inl h)

/-- `b` is a later state of the NodeClaim object `a` as far as deletion goes -/
def Later (a b : Claim) : Prop := (a.present = false → b.present = false) ∧ (a.gone → b.gone)

theorem Later.refl (a : Claim) : Later a a := ⟨id, id⟩
theorem Later.trans {a b c : Claim} (h1 : Later a b) (h2 : Later b c) : Later a c :=
  ⟨fun h => h2.1 (h1.1 h), fun h => h2.2 (h1.2 h)⟩

theorem Later.present {a b : Claim} (h : Later a b) (hb : b.present = true) : a.present = true := by
  cases ha : a.present
  · rw [h.1 ha] at hb; cases hb
  · rfl

theorem later_deleted (a : Claim) : Later a a.deleted := ⟨(deleted_gone a).1, (deleted_gone a).2.1⟩

theorem MaybeDeleted.later {a b : Claim} (h : MaybeDeleted a b) : Later a b := by
  rcases h with rfl | rfl
  · exact Later.refl _
  · exact later_deleted _

def DeletesOnly (w w' : World) : Prop := w' = w ∨ w' = { w with claim := w.claim.deleted }

theorem DeletesOnly.refl (w : World) : DeletesOnly w w := Or.inl rfl

theorem DeletesOnly.claim {w w' : World} (h : DeletesOnly w w') : MaybeDeleted w.claim w'.claim :=
  h.imp (congrArg World.claim) (congrArg World.claim)

theorem DeletesOnly.trans {a b c : World} (h1 : DeletesOnly a b) (h2 : DeletesOnly b c) : DeletesOnly a c := by
  rcases h1 with rfl | rfl <;> rcases h2 with rfl | rfl
  · exact Or.inl rfl
  · exact Or.inr rfl
  · exact Or.inr rfl
  · exact Or.inr (by simp [deleted_deleted])

theorem DeletesOnly.frame {w w' : World} (h : DeletesOnly w w') :
    w'.core = w.core ∧ w'.nodes = w.nodes ∧ w'.now = w.now := by
  rcases h with rfl | rfl
  · exact ⟨rfl, rfl, rfl⟩
  · exact ⟨by simp [World.core, deleted_core], rfl, rfl⟩

theorem deletesOnly_ite (w : World) (p : Prop) [Decidable p] :
    DeletesOnly w { w with claim := if p then w.claim.deleted else w.claim } := by
  split
  · exact Or.inr rfl
  · exact Or.inl rfl

theorem deleteClaim_eq (f : Faults) (c : Ctx) : deleteClaim f c =
    { c with w := { c.w with claim := if claimDeleteOutcome f c.w = .ok then c.w.claim.deleted else c.w.claim },
             calls := c.calls ++ [⟨.claimDelete, claimDeleteOutcome f c.w⟩] } := by
  unfold deleteClaim
  by_cases h : claimDeleteOutcome f c.w = .ok
  · simp only [call_w, if_pos h]; rfl
  · simp only [call_w, if_neg h]; rfl

theorem capacityError_eq (f : Faults) (o : Outcome) (c : Ctx) : capacityError f o c =
    { c with w := { c.w with claim := if claimDeleteOutcome f c.w = .ok then c.w.claim.deleted else c.w.claim },
             calls := c.calls ++ [⟨.create, o⟩, ⟨.claimDelete, claimDeleteOutcome f c.w⟩],
             errs := if claimDeleteOutcome f c.w = .ok ∨ claimDeleteOutcome f c.w = .notFound then c.errs else true } := by
  unfold capacityError
  simp only [deleteClaim_eq, call_w]
  by_cases h : claimDeleteOutcome f c.w = .ok ∨ claimDeleteOutcome f c.w = .notFound
  · simp only [if_pos h, Ctx.call, List.append_assoc]; rfl
  · simp only [if_neg h, Ctx.call, List.append_assoc]; rfl

theorem capacityError_world (f : Faults) (o : Outcome) (c : Ctx) : DeletesOnly c.w (capacityError f o c).w := by
  rw [capacityError_eq]; exact deletesOnly_ite _ _

theorem timeoutDelete_eq (f : Faults) (c : Ctx) : timeoutDelete f c =
    if f.poolGet.verdict = .proceed then
      { c with w := { c.w with claim := if claimDeleteOutcome f c.w = .ok then c.w.claim.deleted else c.w.claim },
               calls := c.calls ++ poolCalls f ++ [⟨.claimDelete, claimDeleteOutcome f c.w⟩],
               errs := if claimDeleteOutcome f c.w = .ok ∨ claimDeleteOutcome f c.w = .notFound then c.errs else true }
    else (poolHealth f c).1 := by
  unfold timeoutDelete
  simp only [deleteClaim_eq, poolHealth_eq]
  by_cases hp : f.poolGet.verdict = .proceed
  · by_cases h : claimDeleteOutcome f c.w = .ok ∨ claimDeleteOutcome f c.w = .notFound
    · simp [if_pos h, hp]
    · simp [if_neg h, hp]
  · simp only [ne_eq, hp, not_false_eq_true, if_true, if_false]

theorem timeoutDelete_frame (f : Faults) (c : Ctx) :
    DeletesOnly c.w (timeoutDelete f c).w ∧ (timeoutDelete f c).mem = c.mem := by
  rw [timeoutDelete_eq]
  split
  · exact ⟨deletesOnly_ite _ _, rfl⟩
  · simpa using DeletesOnly.refl c.w

/-- what `Launch.Reconcile` did, by case -/
inductive LaunchCase | keptTrue | keptFalse | cacheHit | created | failed
deriving DecidableEq

def launchCase (co : CreateOutcome) (c : Ctx) : LaunchCase :=
  match c.mem.conds.l.status with
  | .true_ => .keptTrue
  | .false_ => .keptFalse
  | .unknown => if c.w.cache then .cacheHit else if co = .ok then .created else .failed

/-- the launch cache after `Launch.Reconcile`: a launch stores the entry, a cache hit keeps it, and a NodeClaim whose
    in-memory copy already says Launched has its entry dropped -/
def launchCache : LaunchCase → Bool → Bool
  | .keptTrue, _ => false
  | .created, _ => true
  | .cacheHit, _ => true
  | _, b => b

def launchInst : LaunchCase → Nat → Nat
  | .created, n => n + 1
  | _, n => n

/-- the in-memory NodeClaim after `Launch.Reconcile`, as far as `Launched`, the provider id and labels go -/
def LaunchMem (lc : LaunchCase) (m0 m : Claim) : Prop :=
  match lc with
  | .keptTrue | .keptFalse => m.conds.l = m0.conds.l ∧ m.providerID = m0.providerID ∧ m.provLabels = m0.provLabels
  | .cacheHit | .created => m.conds.l.status = .true_ ∧ m.providerID = true ∧ m.provLabels = true
  | .failed => m.conds.l.status = .unknown ∧ m.providerID = m0.providerID ∧ m.provLabels = m0.provLabels

/-- the first `nodeClaim.StatusConditions()` of `Launch.Reconcile` initialises an empty condition list -/
def Ctx.initConds (c : Ctx) : Ctx := { c with mem := { c.mem with conds := { c.mem.conds with init := true } } }

@[simp] theorem initConds_w (c : Ctx) : c.initConds.w = c.w := rfl
@[simp] theorem initConds_calls (c : Ctx) : c.initConds.calls = c.calls := rfl
@[simp] theorem initConds_errs (c : Ctx) : c.initConds.errs = c.errs := rfl
@[simp] theorem initConds_errsNF (c : Ctx) : c.initConds.errsNF = c.errsNF := rfl
@[simp] theorem initConds_mem (c : Ctx) :
    c.initConds.mem = { c.mem with conds := { c.mem.conds with init := true } } := rfl

theorem launch_cases (f : Faults) (co : CreateOutcome) (c : Ctx) :
    (launchCase co c = .failed ∧ (co = .ice ∨ co = .ncnr) ∧ launch f co c = capacityError f co.toOutcome c.initConds) ∨
    (launchCase co c = .keptTrue ∧ launch f co c = { c.initConds with w := { c.w with cache := false } }) ∨
    (launchCase co c = .keptFalse ∧ launch f co c = c.initConds) ∨
    (launchCase co c = .cacheHit ∧ launch f co c = launchSuccess c.initConds) ∨
    (launchCase co c = .created ∧ co = .ok ∧ launch f co c =
      launchSuccess ({ c.initConds with w := { c.w with instances := c.w.instances + 1 } }.call .create .ok)) ∨
    (launchCase co c = .failed ∧ (co = .generic ∨ co = .createErr) ∧
      ∃ r, launch f co c = { (c.initConds.call .create co.toOutcome).setL .unknown r with errs := true }) := by
  unfold launch launchCase
  simp only []
  cases hs : c.mem.conds.l.status
  · cases hc : c.w.cache
    · cases co
      · exact .inr (.inr (.inr (.inr (.inl ⟨rfl, rfl, rfl⟩))))
      · exact .inl ⟨rfl, .inl rfl, rfl⟩
      · exact .inl ⟨rfl, .inr rfl, rfl⟩
      · exact .inr (.inr (.inr (.inr (.inr ⟨rfl, .inl rfl, _, rfl⟩))))
      · exact .inr (.inr (.inr (.inr (.inr ⟨rfl, .inr rfl, _, rfl⟩))))
    · exact .inr (.inr (.inr (.inl ⟨rfl, rfl⟩)))
  · exact .inr (.inl ⟨rfl, rfl⟩)
  · exact .inr (.inr (.inl ⟨rfl, rfl⟩))

theorem launch_world (f : Faults) (co : CreateOutcome) (c : Ctx) :
    (launch f co c).w.finEver = c.w.finEver ∧ (launch f co c).w.views = c.w.views ∧
    (launch f co c).w.cache = launchCache (launchCase co c) c.w.cache ∧
    (launch f co c).w.instances = launchInst (launchCase co c) c.w.instances := by
  rcases launch_cases f co c with ⟨hl, _, e⟩ | ⟨hl, e⟩ | ⟨hl, e⟩ | ⟨hl, e⟩ | ⟨hl, _, e⟩ | ⟨hl, _, r, e⟩ <;> rw [hl, e]
  · have := (capacityError_world f co.toOutcome c.initConds).frame.1
    simp [World.core] at this
    simp [launchCache, launchInst, this]
  all_goals simp [launchSuccess, launchCache, launchInst]

theorem launch_nodes (f : Faults) (co : CreateOutcome) (c : Ctx) :
    (launch f co c).w.nodes = c.w.nodes ∧ (launch f co c).w.now = c.w.now := by
  rcases launch_cases f co c with ⟨_, _, e⟩ | ⟨_, e⟩ | ⟨_, e⟩ | ⟨_, e⟩ | ⟨_, _, e⟩ | ⟨_, _, r, e⟩ <;> rw [e]
  · exact (capacityError_world f _ c.initConds).frame.2
  all_goals simp [launchSuccess]

theorem launch_mem (f : Faults) (co : CreateOutcome) (c : Ctx) :
    (launch f co c).mem.conds.r = c.mem.conds.r ∧ (launch f co c).mem.conds.i = c.mem.conds.i ∧
    LaunchMem (launchCase co c) c.mem (launch f co c).mem := by
  rcases launch_cases f co c with ⟨hl, _, e⟩ | ⟨hl, e⟩ | ⟨hl, e⟩ | ⟨hl, e⟩ | ⟨hl, _, e⟩ | ⟨hl, _, r, e⟩ <;> rw [hl, e] <;>
    simp [LaunchMem, launchSuccess, capacityError_eq]
  -- a capacity error leaves `Launched` as it was: Unknown
  unfold launchCase at hl
  cases hs : c.mem.conds.l.status <;> simp [hs] at hl ⊢

theorem launch_claim (f : Faults) (co : CreateOutcome) (c : Ctx) : MaybeDeleted c.w.claim (launch f co c).w.claim := by
  rcases launch_cases f co c with ⟨_, _, e⟩ | ⟨_, e⟩ | ⟨_, e⟩ | ⟨_, e⟩ | ⟨_, _, e⟩ | ⟨_, _, r, e⟩ <;> rw [e]
  · exact (capacityError_world f _ c.initConds).claim
  all_goals exact Or.inl (by simp [launchSuccess])

theorem regSuccess_facts (f : Faults) (c : Ctx) : (regSuccess f c).w = c.w ∧ (regSuccess f c).mem.conds.r.status = .true_ ∧
    (regSuccess f c).mem.conds.l = c.mem.conds.l ∧ (regSuccess f c).mem.conds.i = c.mem.conds.i ∧
    (regSuccess f c).mem.conds.init = c.mem.conds.init ∧ (regSuccess f c).mem.finalizer = c.mem.finalizer ∧
    (regSuccess f c).mem.deleting = c.mem.deleting ∧ (regSuccess f c).mem.present = c.mem.present ∧
    (regSuccess f c).mem.providerID = c.mem.providerID ∧ (regSuccess f c).mem.provLabels = c.mem.provLabels := by
  simp [regSuccess]

theorem frame_nodes {w w' : World} (h : w' = { w with nodes := w'.nodes }) :
    w'.core = w.core ∧ w'.claim = w.claim := by
  rw [h]; exact ⟨rfl, rfl⟩

theorem registerOne_frame (sp : Spec) (f : Faults) (c : Ctx) (n : Node) :
    (registerOne sp f c n).w = { c.w with nodes := (registerOne sp f c n).w.nodes } ∧
    (registerOne sp f c n).mem = { c.mem with conds := { c.mem.conds with r := (registerOne sp f c n).mem.conds.r },
                                              nodeName := (registerOne sp f c n).mem.nodeName } := by
  unfold registerOne; simp only []
  split; · simp [regSuccess]
  split <;> simp [regSuccess]

theorem registerOne_true (sp : Spec) (f : Faults) (c : Ctx) (n : Node) (hn : c.w.nodes = [n])
    (h : (registerOne sp f c n).mem.conds.r.status = .true_) (h0 : c.mem.conds.r.status ≠ .true_) :
    (registerOne sp f c n).w.nodes = [registerNode sp c.mem n] := by
  unfold registerOne at h ⊢
  simp only [] at h ⊢
  by_cases he : registerNode sp c.mem n = n
  · simp [he, hn, regSuccess]
  · simp only [he, if_false] at h ⊢
    split at h <;> simp_all [regSuccess]

theorem registration_cases (sp : Spec) (f : Faults) (c : Ctx) :
    registration sp f c = c ∨ (∃ st r, st ≠ .true_ ∧ registration sp f c = c.setR st r) ∨
    registration sp f c = { c with errs := true } ∨
    (c.mem.providerID = true ∧ ∃ n, c.w.nodes = [n] ∧ registration sp f c = registerOne sp f c n) := by
  unfold registration
  by_cases hr : c.mem.conds.r.status ≠ .unknown
  · rw [if_pos hr]; exact .inl rfl
  rw [if_neg hr]
  cases hp : c.mem.providerID
  · exact .inr (.inl ⟨_, _, by simp, rfl⟩)
  cases hl : f.nodeList
  · match hn : c.w.nodes with
    | [] => exact .inr (.inl ⟨_, _, by simp, rfl⟩)
    | [n] => exact .inr (.inr (.inr ⟨rfl, n, rfl, rfl⟩))
    | _ :: _ :: _ => exact .inr (.inl ⟨_, _, by simp, rfl⟩)
  · exact .inr (.inr (.inl rfl))

theorem registration_frame (sp : Spec) (f : Faults) (c : Ctx) :
    (registration sp f c).w = { c.w with nodes := (registration sp f c).w.nodes } ∧
    (registration sp f c).mem = { c.mem with conds := { c.mem.conds with r := (registration sp f c).mem.conds.r },
                                              nodeName := (registration sp f c).mem.nodeName } := by
  rcases registration_cases sp f c with e | ⟨_, _, _, e⟩ | e | ⟨_, n, _, e⟩ <;> rw [e]
  · exact ⟨rfl, rfl⟩
  · exact ⟨rfl, rfl⟩
  · exact ⟨rfl, rfl⟩
  · exact registerOne_frame sp f c n

theorem registration_skip (sp : Spec) (f : Faults) (c : Ctx) (h : c.mem.conds.r.status ≠ .unknown) :
    registration sp f c = c := by
  unfold registration; simp [h]

theorem registration_true (sp : Spec) (f : Faults) (c : Ctx)
    (h : (registration sp f c).mem.conds.r.status = .true_) (h0 : c.mem.conds.r.status ≠ .true_) :
    c.mem.providerID = true ∧ ∃ n, c.w.nodes = [n] ∧ (registration sp f c).w.nodes = [registerNode sp c.mem n] := by
  rcases registration_cases sp f c with e | ⟨st, _, hst, e⟩ | e | ⟨hp, n, hn, e⟩ <;> rw [e] at h ⊢
  · exact absurd h h0
  · exact absurd h hst
  · exact absurd h h0
  · exact ⟨hp, n, hn, registerOne_true sp f c n hn h h0⟩

theorem initOne_frame (f : Faults) (c : Ctx) (n : Node) :
    (initOne f c n).w = { c.w with nodes := (initOne f c n).w.nodes } ∧
    (initOne f c n).mem = { c.mem with conds := { c.mem.conds with i := (initOne f c n).mem.conds.i } } := by
  unfold initOne
  split; · simp [initSuccess]
  split <;> simp [initSuccess]

theorem initOne_nodes (f : Faults) (c : Ctx) (n : Node) (hn : c.w.nodes = [n]) :
    (initOne f c n).w.nodes = [n] ∨ (initOne f c n).w.nodes = [{ n with initLabel := true }] := by
  unfold initOne
  split; · simp [initSuccess, hn]
  split <;> simp [initSuccess, hn]

theorem initOne_true (f : Faults) (c : Ctx) (n : Node) (hn : c.w.nodes = [n])
    (h : (initOne f c n).mem.conds.i.status = .true_) (h0 : c.mem.conds.i.status ≠ .true_) :
    (initOne f c n).w.nodes = [{ n with initLabel := true }] := by
  unfold initOne at h ⊢
  by_cases hl : n.initLabel = true
  · have : { n with initLabel := true } = n := by cases n; simp_all
    simp [hl, initSuccess, hn, this]
  · simp only [hl] at h ⊢
    cases hf : f.nodePatch with
    | none => simp [initSuccess]
    | some e => cases e <;> simp_all

theorem initialization_cases (sp : Spec) (f : Faults) (c : Ctx) :
    initialization sp f c = c ∨ (∃ r, initialization sp f c = c.setI .unknown r) ∨
    (c.mem.conds.r.status = .true_ ∧ ∃ n, c.w.nodes = [n] ∧ initBlocker sp n = none ∧
      initialization sp f c = initOne f c n) := by
  unfold initialization nodeForInit
  by_cases hi : c.mem.conds.i.status ≠ .unknown
  · rw [if_pos hi]; exact .inl rfl
  by_cases hr : c.mem.conds.r.status ≠ .true_
  · rw [if_neg hi, if_pos hr]; exact .inl rfl
  rw [if_neg hi, if_neg hr]
  cases hp : c.mem.providerID
  · exact .inr (.inl ⟨_, rfl⟩)
  cases hl : f.nodeList
  · match hn : c.w.nodes with
    | [] => exact .inr (.inl ⟨_, rfl⟩)
    | [n] =>
      cases hb : initBlocker sp n
      · exact .inr (.inr ⟨Decidable.not_not.mp hr, n, rfl, hb, by simp [hb]⟩)
      · exact .inr (.inl ⟨_, by simp [hb]; rfl⟩)
    | _ :: _ :: _ => exact .inr (.inl ⟨_, rfl⟩)
  · exact .inr (.inl ⟨_, rfl⟩)

theorem initialization_frame (sp : Spec) (f : Faults) (c : Ctx) :
    (initialization sp f c).w = { c.w with nodes := (initialization sp f c).w.nodes } ∧
    (initialization sp f c).mem =
      { c.mem with conds := { c.mem.conds with i := (initialization sp f c).mem.conds.i } } := by
  rcases initialization_cases sp f c with e | ⟨_, e⟩ | ⟨_, n, _, _, e⟩ <;> rw [e]
  · exact ⟨rfl, rfl⟩
  · exact ⟨rfl, rfl⟩
  · exact initOne_frame f c n

theorem initialization_skip (sp : Spec) (f : Faults) (c : Ctx) (h : c.mem.conds.i.status ≠ .unknown) :
    initialization sp f c = c := by
  unfold initialization; simp [h]

theorem initialization_nodes (sp : Spec) (f : Faults) (c : Ctx) :
    (initialization sp f c).w.nodes = c.w.nodes ∨
    ∃ n, c.w.nodes = [n] ∧ (initialization sp f c).w.nodes = [{ n with initLabel := true }] := by
  rcases initialization_cases sp f c with e | ⟨_, e⟩ | ⟨_, n, hn, _, e⟩ <;> rw [e]
  · exact .inl rfl
  · exact .inl rfl
  · exact (initOne_nodes f c n hn).imp (fun h => h.trans hn.symm) fun h => ⟨n, hn, h⟩

theorem initialization_true (sp : Spec) (f : Faults) (c : Ctx)
    (h : (initialization sp f c).mem.conds.i.status = .true_) (h0 : c.mem.conds.i.status ≠ .true_) :
    c.mem.conds.r.status = .true_ ∧
    ∃ n, c.w.nodes = [n] ∧ initBlocker sp n = none ∧ (initialization sp f c).w.nodes = [{ n with initLabel := true }] := by
  rcases initialization_cases sp f c with e | ⟨_, e⟩ | ⟨hr, n, hn, hb, e⟩ <;> rw [e] at h ⊢
  · exact absurd h h0
  · cases h
  · exact ⟨hr, n, hn, hb, initOne_true f c n hn h h0⟩

theorem livenessLaunch_frame (f : Faults) (c : Ctx) :
    DeletesOnly c.w (livenessLaunch f c).1.w ∧ (livenessLaunch f c).1.mem = c.mem := by
  unfold livenessLaunch
  split; · exact ⟨.refl _, rfl⟩
  split; · exact ⟨.refl _, rfl⟩
  exact timeoutDelete_frame f c

theorem liveness_frame (f : Faults) (c : Ctx) : DeletesOnly c.w (liveness f c).w ∧ (liveness f c).mem = c.mem := by
  unfold liveness
  split; · exact ⟨.refl _, rfl⟩
  simp only []
  have h := livenessLaunch_frame f c
  split; · exact h
  split; · exact h
  have h' := timeoutDelete_frame f (livenessLaunch f c).1
  exact ⟨h.1.trans h'.1, h'.2.trans h.2⟩

theorem persist_cases (stored : Claim) (f : Faults) (c : Ctx) :
    (c.mem = stored ∧ persist stored f c = ⟨c.w, c.calls, finish c⟩) ∨
    (∃ o, o ≠ .ok ∧
      persist stored f c = ⟨c.w, c.calls ++ [⟨.metaPatch, o⟩], patchFailResult (c.call .metaPatch o) o⟩) ∨
    (∃ o, o ≠ .ok ∧
      persist stored f c = ⟨{ c.w with claim := mergeMeta stored c.mem c.w.claim },
        c.calls ++ [⟨.metaPatch, .ok⟩, ⟨.statusPatch, o⟩], patchFailResult ((c.call .metaPatch .ok).call .statusPatch o) o⟩) ∨
    persist stored f c = ⟨{ c.w with claim := mergeStatus stored c.mem (mergeMeta stored c.mem c.w.claim),
                                     now := c.w.now + Karp.Gen.Lifecycle.postPatchSleepSecs },
      c.calls ++ [⟨.metaPatch, .ok⟩, ⟨.statusPatch, .ok⟩], finish c⟩ := by
  unfold persist
  by_cases hm : c.mem = stored
  · rw [if_pos hm]; exact .inl ⟨hm, rfl⟩
  rw [if_neg hm]
  by_cases h1 : claimPatchOutcome f.metaPatch c.w ≠ .ok
  · exact .inr (.inl ⟨_, h1, by simp [h1]⟩)
  have h1' := Decidable.not_not.mp h1
  by_cases h2 : claimPatchOutcome f.statusPatch { c.w with claim := mergeMeta stored c.mem c.w.claim } ≠ .ok
  · exact .inr (.inr (.inl ⟨_, h2, by simp [h1', h2]⟩))
  · exact .inr (.inr (.inr (by simp [h1', Decidable.not_not.mp h2, finish])))

theorem persist_world (stored : Claim) (f : Faults) (c : Ctx) :
    (persist stored f c).w.views = c.w.views ∧ (persist stored f c).w.cache = c.w.cache ∧
    (persist stored f c).w.instances = c.w.instances ∧ (persist stored f c).w.finEver = c.w.finEver ∧
    (persist stored f c).w.nodes = c.w.nodes ∧
    ((persist stored f c).w.claim = c.w.claim ∨ (persist stored f c).w.claim = mergeMeta stored c.mem c.w.claim ∨
      (persist stored f c).w.claim = mergeStatus stored c.mem (mergeMeta stored c.mem c.w.claim)) := by
  rcases persist_cases stored f c with ⟨_, e⟩ | ⟨_, _, e⟩ | ⟨_, _, e⟩ | e <;> rw [e]
  · exact ⟨rfl, rfl, rfl, rfl, rfl, .inl rfl⟩
  · exact ⟨rfl, rfl, rfl, rfl, rfl, .inl rfl⟩
  · exact ⟨rfl, rfl, rfl, rfl, rfl, .inr (.inl rfl)⟩
  · exact ⟨rfl, rfl, rfl, rfl, rfl, .inr (.inr rfl)⟩

def subs (sp : Spec) (f : Faults) (c : Ctx) : Ctx := liveness f (initialization sp f (registration sp f c))

theorem subs_frame (sp : Spec) (f : Faults) (c : Ctx) :
    (subs sp f c).w.core = c.w.core ∧
    (subs sp f c).mem = { c.mem with conds := { c.mem.conds with r := (subs sp f c).mem.conds.r,
                                                                  i := (subs sp f c).mem.conds.i },
                                     nodeName := (subs sp f c).mem.nodeName } := by
  unfold subs
  constructor
  · rw [(liveness_frame f _).1.frame.1, (frame_nodes (initialization_frame sp f _).1).1,
      (frame_nodes (registration_frame sp f c).1).1]
  · rw [(liveness_frame f _).2, (initialization_frame sp f _).2, (registration_frame sp f c).2]

/-- which phase has the last word on `Registered` and on `Initialized` -/
theorem subs_conds (sp : Spec) (f : Faults) (c : Ctx) :
    (subs sp f c).mem.conds.r = (registration sp f c).mem.conds.r ∧
    (subs sp f c).mem.conds.i = (initialization sp f (registration sp f c)).mem.conds.i ∧
    (registration sp f c).mem.conds.i = c.mem.conds.i := by
  unfold subs
  refine ⟨?_, ?_, ?_⟩
  · rw [(liveness_frame f _).2, (initialization_frame sp f _).2]
  · rw [(liveness_frame f _).2]
  · rw [(registration_frame sp f c).2]

theorem subs_flips (sp : Spec) (f : Faults) (c : Ctx) :
    ((subs sp f c).mem.conds.r.status = .true_ → c.mem.conds.r.status = .true_ ∨ (subs sp f c).mem.providerID = true) ∧
    ((subs sp f c).mem.conds.i.status = .true_ →
      c.mem.conds.i.status = .true_ ∨ (subs sp f c).mem.conds.r.status = .true_) ∧
    (c.mem.conds.r.status = .true_ → (subs sp f c).mem.conds.r.status = .true_) ∧
    (c.mem.conds.i.status = .true_ → (subs sp f c).mem.conds.i.status = .true_) := by
  obtain ⟨mr, mi, ri⟩ := subs_conds sp f c
  have mp : (subs sp f c).mem.providerID = c.mem.providerID := by rw [(subs_frame sp f c).2]
  rw [mr, mi, mp]
  refine ⟨fun h => ?_, fun h => ?_, fun h => ?_, fun h => ?_⟩
  · by_cases h0 : c.mem.conds.r.status = .true_
    · exact .inl h0
    · exact .inr (registration_true sp f c h h0).1
  · by_cases h0 : c.mem.conds.i.status = .true_
    · exact .inl h0
    · exact .inr (initialization_true sp f _ h (by rw [ri]; exact h0)).1
  · rw [registration_skip sp f c (by rw [h]; simp)]; exact h
  · rw [initialization_skip sp f _ (by rw [ri, h]; simp), ri]; exact h

theorem subs_nodes (sp : Spec) (f : Faults) (c : Ctx) :
    ((subs sp f c).mem.conds.r.status = .true_ → c.mem.conds.r.status ≠ .true_ →
      ∃ n, (subs sp f c).w.nodes = [registerNode sp (subs sp f c).mem n] ∨
           (subs sp f c).w.nodes = [{ registerNode sp (subs sp f c).mem n with initLabel := true }]) ∧
    ((subs sp f c).mem.conds.i.status = .true_ → c.mem.conds.i.status ≠ .true_ →
      ∃ n, initBlocker sp n = none ∧ (subs sp f c).w.nodes = [{ n with initLabel := true }]) := by
  obtain ⟨mr, mi, ri⟩ := subs_conds sp f c
  have hn : (subs sp f c).w.nodes = (initialization sp f (registration sp f c)).w.nodes :=
    (liveness_frame f _).1.frame.2.1
  -- `registerNode` reads only the provider's labels off the NodeClaim
  have hreg : ∀ n, registerNode sp (subs sp f c).mem n = registerNode sp c.mem n := fun n => by
    unfold registerNode; rw [(subs_frame sp f c).2]
  simp only [hreg]
  rw [mr, mi, hn]
  constructor
  · intro h h0
    obtain ⟨_, n, _, hn'⟩ := registration_true sp f c h h0
    refine ⟨n, ?_⟩
    rcases initialization_nodes sp f (registration sp f c) with hs | ⟨n2, hn2, hn2'⟩
    · exact .inl (hs.trans hn')
    · rw [hn', List.cons.injEq] at hn2
      exact .inr (hn2.1 ▸ hn2')
  · intro h h0
    obtain ⟨_, n, _, hb, hn'⟩ := initialization_true sp f _ h (by rw [ri]; exact h0)
    exact ⟨n, hb, hn'⟩

theorem subs_claim (sp : Spec) (f : Faults) (c : Ctx) : MaybeDeleted c.w.claim (subs sp f c).w.claim := by
  have h := (liveness_frame f (initialization sp f (registration sp f c))).1.claim
  rwa [(frame_nodes (initialization_frame sp f _).1).2, (frame_nodes (registration_frame sp f c).1).2] at h

def creates (l : List Call) : List Call := l.filter (fun c => c.site == .create)

@[simp] theorem creates_append (a b : List Call) : creates (a ++ b) = creates a ++ creates b := by
  simp [creates]

/-- what `Launch.Reconcile` asks of the provider, by case -/
def launchCreates (co : CreateOutcome) : LaunchCase → List Call
  | .created => [⟨.create, .ok⟩]
  | .failed => [⟨.create, co.toOutcome⟩]
  | _ => []

theorem creates_poolCalls (f : Faults) : creates (poolCalls f) = [] := by
  unfold poolCalls; split <;> simp [creates]

theorem deleteClaim_calls' (f : Faults) (c : Ctx) : ∃ rest, (deleteClaim f c).calls = c.calls ++ rest ∧ creates rest = [] :=
  ⟨_, by rw [deleteClaim_eq], rfl⟩

theorem launch_calls (f : Faults) (co : CreateOutcome) (c : Ctx) :
    ∃ rest, (launch f co c).calls = c.calls ++ rest ∧ creates rest = launchCreates co (launchCase co c) := by
  rcases launch_cases f co c with ⟨hl, _, e⟩ | ⟨hl, e⟩ | ⟨hl, e⟩ | ⟨hl, e⟩ | ⟨hl, _, e⟩ | ⟨hl, _, r, e⟩ <;> rw [hl, e]
  · exact ⟨[_, _], by rw [capacityError_eq]; rfl, rfl⟩
  · exact ⟨[], by simp, rfl⟩
  · exact ⟨[], by simp, rfl⟩
  · exact ⟨[], by simp [launchSuccess], rfl⟩
  · exact ⟨[⟨.create, .ok⟩], by simp [launchSuccess], rfl⟩
  · exact ⟨[⟨.create, co.toOutcome⟩], by simp, rfl⟩

/-- the `errsNF` flag is backed by a NotFound answer in the call log -/
def NF (c : Ctx) : Prop := c.errsNF = true → ∃ x ∈ c.calls, x.out = .notFound

/-- `c'` continues the reconcile `c`: the calls it adds are no provider `Create`s -/
structure Continues (c c' : Ctx) : Prop where
  calls : ∃ rest, c'.calls = c.calls ++ rest ∧ creates rest = []
  errs : c.errs = true → c'.errs = true
  nf : NF c → NF c'

theorem Continues.refl (c : Ctx) : Continues c c := ⟨⟨[], by simp, rfl⟩, id, id⟩

theorem Continues.trans {a b c : Ctx} (h1 : Continues a b) (h2 : Continues b c) : Continues a c := by
  obtain ⟨r1, e1, n1⟩ := h1.calls
  obtain ⟨r2, e2, n2⟩ := h2.calls
  exact ⟨⟨r1 ++ r2, by rw [e2, e1, List.append_assoc], by rw [creates_append, n1, n2]; rfl⟩,
    fun h => h2.errs (h1.errs h), fun h => h2.nf (h1.nf h)⟩

theorem Continues.step {c c' : Ctx} (rest : List Call) (hc : c'.calls = c.calls ++ rest) (hr : creates rest = [])
    (he : c.errs = true → c'.errs = true) (hn : c'.errsNF = c.errsNF ∨ ∃ x ∈ rest, x.out = .notFound) :
    Continues c c' := by
  refine ⟨⟨rest, hc, hr⟩, he, fun h hf => ?_⟩
  rcases hn with hn | ⟨x, hx, hxo⟩
  · obtain ⟨x, hx, hxo⟩ := h (hn ▸ hf)
    exact ⟨x, by rw [hc]; exact List.mem_append_left _ hx, hxo⟩
  · exact ⟨x, by rw [hc]; exact List.mem_append_right _ hx, hxo⟩

theorem regSuccess_continues (f : Faults) (c : Ctx) : Continues c (regSuccess f c) :=
  .step (poolCalls f) (by simp [regSuccess]) (creates_poolCalls f) (fun h => by simp [regSuccess, h]) (.inl (by simp [regSuccess]))

theorem registerOne_continues (sp : Spec) (f : Faults) (c : Ctx) (n : Node) : Continues c (registerOne sp f c n) := by
  unfold registerOne
  simp only []
  split; · exact regSuccess_continues f c
  split
  · refine .trans ?_ (regSuccess_continues f _)
    exact .step [⟨.nodePatchLock, .ok⟩] rfl rfl id (.inl rfl)
  · exact .step [⟨.nodePatchLock, .conflict⟩] rfl rfl id (.inl rfl)
  · exact .step [⟨.nodePatchLock, .notFound⟩] rfl rfl (fun _ => rfl) (.inr ⟨_, List.mem_singleton.mpr rfl, rfl⟩)
  · exact .step [⟨.nodePatchLock, .other⟩] rfl rfl (fun _ => rfl) (.inl rfl)

theorem registration_continues (sp : Spec) (f : Faults) (c : Ctx) : Continues c (registration sp f c) := by
  rcases registration_cases sp f c with e | ⟨_, _, _, e⟩ | e | ⟨_, n, _, e⟩ <;> rw [e]
  · exact .refl c
  · exact .step [] (by simp) rfl id (.inl rfl)
  · exact .step [] (by simp) rfl (fun _ => rfl) (.inl rfl)
  · exact registerOne_continues sp f c n

theorem initOne_continues (f : Faults) (c : Ctx) (n : Node) : Continues c (initOne f c n) := by
  unfold initOne
  split; · exact .step [] (by simp [initSuccess]) rfl id (.inl rfl)
  cases hf : f.nodePatch with
  | none => exact .step [⟨.nodePatch, .ok⟩] rfl rfl id (.inl rfl)
  | some e =>
    cases e
    · exact .step [⟨.nodePatch, .conflict⟩] rfl rfl (fun _ => rfl) (.inl rfl)
    · exact .step [⟨.nodePatch, .notFound⟩] rfl rfl (fun _ => rfl) (.inr ⟨_, List.mem_singleton.mpr rfl, rfl⟩)
    · exact .step [⟨.nodePatch, .other⟩] rfl rfl (fun _ => rfl) (.inl rfl)

theorem initialization_continues (sp : Spec) (f : Faults) (c : Ctx) : Continues c (initialization sp f c) := by
  rcases initialization_cases sp f c with e | ⟨_, e⟩ | ⟨_, n, _, _, e⟩ <;> rw [e]
  · exact .refl c
  · exact .step [] (by simp) rfl id (.inl rfl)
  · exact initOne_continues f c n

theorem timeoutDelete_continues (f : Faults) (c : Ctx) : Continues c (timeoutDelete f c) := by
  rw [timeoutDelete_eq]
  split
  · exact .step (poolCalls f ++ [⟨.claimDelete, claimDeleteOutcome f c.w⟩]) (by simp)
      (by rw [creates_append, creates_poolCalls]; rfl) (fun h => by simp [h]) (.inl rfl)
  · exact .step (poolCalls f) (by simp) (creates_poolCalls f) (fun h => by simp [h]) (.inl (by simp))

theorem livenessLaunch_continues (f : Faults) (c : Ctx) : Continues c (livenessLaunch f c).1 := by
  unfold livenessLaunch
  split; · exact .refl c
  split; · exact .step [] (by simp) rfl id (.inl rfl)
  exact timeoutDelete_continues f c

theorem liveness_continues (f : Faults) (c : Ctx) : Continues c (liveness f c) := by
  unfold liveness
  split; · exact .refl c
  simp only []
  have h1 := livenessLaunch_continues f c
  split; · exact h1
  split; · exact h1.trans (.step [] (by simp) rfl id (.inl rfl))
  exact h1.trans (timeoutDelete_continues f _)

theorem persist_calls (stored : Claim) (f : Faults) (c : Ctx) :
    ∃ rest, (persist stored f c).calls = c.calls ++ rest ∧ creates rest = [] := by
  rcases persist_cases stored f c with ⟨_, e⟩ | ⟨_, _, e⟩ | ⟨_, _, e⟩ | e <;> rw [e]
  · exact ⟨[], (List.append_nil _).symm, rfl⟩
  all_goals exact ⟨_, rfl, rfl⟩

theorem subs_continues (sp : Spec) (f : Faults) (c : Ctx) : Continues c (subs sp f c) :=
  (registration_continues sp f c).trans ((initialization_continues sp f _).trans (liveness_continues f _))

section pass
variable (sp : Spec) (f : Faults) (co : CreateOutcome) (w0 : World) (m0 : Claim) (calls : List Call)

theorem runSubs_eq :
    runSubs sp f co w0 m0 calls = persist m0 f (subs sp f (launch f co { w := w0, mem := m0, calls := calls })) := rfl

def runMem : Claim :=
  (subs sp f (launch f co { w := w0, mem := m0, calls := calls })).mem

theorem runSubs_world :
    (runSubs sp f co w0 m0 calls).w.views = w0.views ∧ (runSubs sp f co w0 m0 calls).w.finEver = w0.finEver ∧
    (runSubs sp f co w0 m0 calls).w.cache = launchCache (launchCase co { w := w0, mem := m0, calls := calls }) w0.cache ∧
    (runSubs sp f co w0 m0 calls).w.instances = launchInst (launchCase co { w := w0, mem := m0, calls := calls }) w0.instances := by
  rw [runSubs_eq]
  obtain ⟨l1, l2, l3, l4⟩ := launch_world f co { w := w0, mem := m0, calls := calls }
  obtain ⟨hPv, hPc, hPi, hPf, -⟩ := persist_world m0 f (subs sp f (launch f co { w := w0, mem := m0, calls := calls }))
  have hW := (subs_frame sp f (launch f co { w := w0, mem := m0, calls := calls })).1
  simp only [World.core, Core.mk.injEq] at hW
  obtain ⟨e1, e2, e3, e4, -⟩ := hW
  exact ⟨hPv.trans (e4.trans l2), hPf.trans (e3.trans l1), hPc.trans (e1.trans l3), hPi.trans (e2.trans l4)⟩

theorem runSubs_mem {mem : Claim} (hmem : runMem sp f co w0 m0 calls = mem) :
    LaunchMem (launchCase co { w := w0, mem := m0, calls := calls }) m0 mem ∧
    (mem.conds.r.status = .true_ → m0.conds.r.status = .true_ ∨ mem.providerID = true) ∧
    (mem.conds.i.status = .true_ → m0.conds.i.status = .true_ ∨ mem.conds.r.status = .true_) ∧
    (m0.conds.r.status = .true_ → mem.conds.r.status = .true_) ∧
    (m0.conds.i.status = .true_ → mem.conds.i.status = .true_) := by
  subst hmem; unfold runMem
  obtain ⟨m1, m2, hLM⟩ := launch_mem f co { w := w0, mem := m0, calls := calls }
  constructor
  · unfold LaunchMem at hLM ⊢
    rw [(subs_frame sp f _).2]; exact hLM
  · rw [← m1, ← m2]; exact subs_flips sp f _

theorem runSubs_nodes :
    ((runMem sp f co w0 m0 calls).conds.r.status = .true_ → m0.conds.r.status ≠ .true_ →
      ∃ n, (runSubs sp f co w0 m0 calls).w.nodes = [registerNode sp (runMem sp f co w0 m0 calls) n] ∨
           (runSubs sp f co w0 m0 calls).w.nodes = [{ registerNode sp (runMem sp f co w0 m0 calls) n with initLabel := true }]) ∧
    ((runMem sp f co w0 m0 calls).conds.i.status = .true_ → m0.conds.i.status ≠ .true_ →
      ∃ n, initBlocker sp n = none ∧ (runSubs sp f co w0 m0 calls).w.nodes = [{ n with initLabel := true }]) := by
  rw [runSubs_eq, (persist_world m0 f _).2.2.2.2.1]; unfold runMem
  obtain ⟨m1, m2, -⟩ := launch_mem f co { w := w0, mem := m0, calls := calls }
  rw [← m1, ← m2]
  exact subs_nodes sp f _

/-- the API server's NodeClaim after the pass: possibly deleted by launch or liveness, then possibly patched -/
theorem runSubs_claim :
    ∃ a, MaybeDeleted w0.claim a ∧
      ((runSubs sp f co w0 m0 calls).w.claim = a ∨
       (runSubs sp f co w0 m0 calls).w.claim = mergeMeta m0 (runMem sp f co w0 m0 calls) a ∨
       (runSubs sp f co w0 m0 calls).w.claim =
         mergeStatus m0 (runMem sp f co w0 m0 calls) (mergeMeta m0 (runMem sp f co w0 m0 calls) a)) := by
  rw [runSubs_eq]
  exact ⟨_, (launch_claim f co _).trans (subs_claim sp f _), (persist_world m0 f _).2.2.2.2.2⟩

theorem runSubs_patch {mem : Claim} (hmem : runMem sp f co w0 m0 calls = mem) :
    (runSubs sp f co w0 m0 calls).w.claim.finalizer = w0.claim.finalizer ∧
    (((runSubs sp f co w0 m0 calls).w.claim.conds = w0.claim.conds ∧
      (runSubs sp f co w0 m0 calls).w.claim.providerID = w0.claim.providerID ∧
        ((runSubs sp f co w0 m0 calls).w.claim.provLabels = w0.claim.provLabels ∨
         (runSubs sp f co w0 m0 calls).w.claim.provLabels =
           (if m0.provLabels = mem.provLabels then w0.claim.provLabels else mem.provLabels))) ∨
     ((runSubs sp f co w0 m0 calls).w.claim.conds = (if m0.conds = mem.conds then w0.claim.conds else mem.conds) ∧
      (runSubs sp f co w0 m0 calls).w.claim.providerID =
        (if m0.providerID = mem.providerID then w0.claim.providerID else mem.providerID) ∧
      (runSubs sp f co w0 m0 calls).w.claim.provLabels =
        (if m0.provLabels = mem.provLabels then w0.claim.provLabels else mem.provLabels))) := by
  obtain ⟨a, ha, h⟩ := runSubs_claim sp f co w0 m0 calls
  obtain ⟨ec, ep, el, ef⟩ := ha.core
  rw [hmem] at h
  rcases h with h | h | h <;> rw [h]
  · exact ⟨ef, .inl ⟨ec, ep, .inl el⟩⟩
  · exact ⟨ef, .inl ⟨ec, ep, .inr (by rw [← el]; rfl)⟩⟩
  · exact ⟨ef, .inr (by rw [← ec, ← ep, ← el]; exact ⟨rfl, rfl, rfl⟩)⟩

theorem runSubs_conds :
    (runSubs sp f co w0 m0 calls).w.claim.conds = w0.claim.conds ∨
    (runSubs sp f co w0 m0 calls).w.claim.conds = (runMem sp f co w0 m0 calls).conds := by
  rcases (runSubs_patch sp f co w0 m0 calls rfl).2 with ⟨ec, _, _⟩ | ⟨ec, _, _⟩
  · exact .inl ec
  · by_cases h : m0.conds = (runMem sp f co w0 m0 calls).conds
    · exact .inl (ec.trans (if_pos h))
    · exact .inr (ec.trans (if_neg h))

theorem runSubs_calls :
    ∃ rest, (runSubs sp f co w0 m0 calls).calls = calls ++ rest ∧
      creates rest = launchCreates co (launchCase co { w := w0, mem := m0, calls := calls }) := by
  rw [runSubs_eq]
  obtain ⟨r1, h1, h1'⟩ := launch_calls f co { w := w0, mem := m0, calls := calls }
  obtain ⟨r2, h2, h2'⟩ := (subs_continues sp f (launch f co { w := w0, mem := m0, calls := calls })).calls
  obtain ⟨r3, h3, h3'⟩ := persist_calls m0 f (subs sp f (launch f co { w := w0, mem := m0, calls := calls }))
  refine ⟨r1 ++ r2 ++ r3, ?_, ?_⟩
  · rw [h3, h2, h1]; simp
  · simp [h1', h2', h3']

end pass

/-- the world after a successful finalizer patch; its NodeClaim is the patch response, which replaces the
    in-memory object -/
def World.withFinalizer (w : World) : World :=
  { w with claim := { w.claim with finalizer := true }, finEver := true }

theorem reconcileLive_cases (sp : Spec) (f : Faults) (co : CreateOutcome) (w : World) (view : Claim) :
    (view.finalizer = true ∧ reconcileLive sp f co w view = runSubs sp f co w view []) ∨
    (view.finalizer = false ∧ finPatchOutcome f w = .ok ∧
      reconcileLive sp f co w view = runSubs sp f co w.withFinalizer w.withFinalizer.claim [⟨.finPatch, .ok⟩]) ∨
    (view.finalizer = false ∧ finPatchOutcome f w ≠ .ok ∧
      ∃ res, reconcileLive sp f co w view = ⟨w, [⟨.finPatch, finPatchOutcome f w⟩], res⟩) := by
  unfold reconcileLive
  cases view.finalizer
  · refine Or.inr ?_
    rw [if_neg Bool.false_ne_true]
    cases finPatchOutcome f w
    case ok => exact Or.inl ⟨rfl, rfl, rfl⟩
    all_goals exact Or.inr ⟨rfl, by simp, _, rfl⟩
  · exact Or.inl ⟨rfl, if_pos rfl⟩

theorem cutBytes_exact (ws : List Nat) : ∀ k, k ≤ textBytes ws →
    textBytes (cutBytes k ws).1 + (cutBytes k ws).2 = k := by
  induction ws with
  | nil => intro k h; simp [textBytes] at h; subst h; simp [cutBytes, textBytes]
  | cons w ws ih =>
    intro k h
    unfold cutBytes
    split
    · rename_i hw
      have h' : k - w ≤ textBytes ws := by simp [textBytes] at h ⊢; omega
      have := ih (k - w) h'
      simp [textBytes] at this ⊢
      omega
    · simp [textBytes]

theorem cutBytes_prefix (ws : List Nat) : ∀ k, (cutBytes k ws).1 <+: ws := by
  induction ws with
  | nil => intro k; simp [cutBytes]
  | cons w ws ih =>
    intro k
    unfold cutBytes
    split
    · simpa using ih (k - w)
    · simp

end Karp.Lifecycle
