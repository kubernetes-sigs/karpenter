/-
Lemmas for the scheduler admission model (C01): what the relaxation steps return, what `ExistingNode.CanAdd` checks,
what `Compatible` against a node's label requirements guarantees about the node's actual labels, Requirements.Add /
lookup algebra, `validExpr` and the requirement built from a valid expression; then resource lists, the `fits` loop,
allocatable groups and the filter loop for new NodeClaims.
-/
import Karp.Model.Sched
import Karp.Proofs.ReqLemmas

namespace Karp.Sched
open Karp.Req Karp.Scn Karp.Spec.K8s

theorem removeRequiredTerm_some (a a' : PodAffinitySpec) (h : removeRequiredTerm a = some a') :
    ∃ t, a.required = t :: a'.required ∧ a'.required ≠ [] := by
  unfold removeRequiredTerm at h
  split at h
  · rename_i t t2 rest hr
    cases h
    exact ⟨t, hr, List.cons_ne_nil _ _⟩
  · cases h

theorem removePreferredTerm_some (a a' : PodAffinitySpec) (h : removePreferredTerm a = some a') :
    a'.required = a.required := by
  unfold removePreferredTerm at h
  split at h
  · cases h; rfl
  · cases h

theorem existingCanAdd_iff (n : ExNode) (p : PodD) :
    existingCanAdd n p = true ↔
      toleratesAll p.tolerations n.taints = true ∧ portsFree n.ports p.ports = true ∧
      (p.cpu ≤ n.remCPU ∧ p.mem ≤ n.remMem ∧ 1 ≤ n.remPods) ∧
      (labelReqs n.labels).compatible (podReqs p.exprs) [] = true := by
  simp only [existingCanAdd, fits, Bool.and_eq_true, decide_eq_true_eq, and_assoc]

theorem lookup_labelReqs (ls : Labels) (k : String) :
    (labelReqs ls).lookup k = (ls.lookup k).map (fun v => ({ key := k, complement := false, values := [v] } : Req)) :=
  lookup_map_val ls (fun k v => ({ key := k, complement := false, values := [v] } : Req)) k

theorem inSingle_wf (k v : String) : ({ key := k, complement := false, values := [v] } : Req).WF :=
  wf_noBounds k false [v] none

theorem inSingle_absentOk (k v : String) : ({ key := k, complement := false, values := [v] } : Req).absentOk = false :=
  absentOk_eq _

theorem inSingle_admits (k v : String) (x : Option Val) :
    ({ key := k, complement := false, values := [v] } : Req).admits x = true ↔ x = some v := by
  cases x with
  | none => simp [Req.admits, inSingle_absentOk]
  | some w => simp [Req.admits, Req.has, eq_comm]

/-- the label requirements of a node allow exactly the node's actual label (or its absence) on every key -/
theorem nodeAllows_labelReqs (ls : Labels) (k : String) (x : Option Val) :
    nodeAllows (labelReqs ls) [] k x = true ↔ x = ls.lookup k := by
  rw [nodeAllows, lookup_labelReqs]
  cases ls.lookup k with
  | none => simp
  | some v => exact inSingle_admits k v x

theorem inRange_of_lookup (A : Reqs) (ls : Labels)
    (hA : ∀ k, A.lookup k = (ls.lookup k).map (fun v => ({ key := k, complement := false, values := [v] } : Req))) :
    ∀ k a, A.lookup k = some a → a.boundsInRange := by
  intro k a hk
  rw [hA] at hk
  obtain ⟨v, _, rfl⟩ := Option.map_eq_some_iff.mp hk
  exact (inSingle_wf k v).inRange

/-- `Compatible` against a node's label requirements, no undefined key allowed, is the Kubernetes reading: every
    requirement admits the node's actual label on its key, or the label's absence -/
theorem compatible_labels_iff (ls : Labels) (R : Reqs) (hR : ∀ p ∈ R, p.2.WF) :
    (labelReqs ls).compatible R [] = true ↔ ∀ p ∈ R, p.2.admits (ls.lookup p.1) = true := by
  rw [compatible_iff _ R [] (inRange_of_lookup _ ls (lookup_labelReqs ls)) hR]
  simp only [nodeAllows_labelReqs, exists_eq_left]

theorem compatible_labels (ls : Labels) (R : Reqs) (hR : ∀ p ∈ R, p.2.WF)
    (h : (labelReqs ls).compatible R [] = true) :
    ∀ p ∈ R, p.2.admits (ls.lookup p.1) = true :=
  (compatible_labels_iff ls R hR).mp h

theorem add_nil (R : Reqs) : R.add [] = R := rfl
theorem add_cons (R : Reqs) (r : Req) (rs : List Req) : R.add (r :: rs) = (R.add1 r).add rs := rfl

theorem has_add (rs : List Req) : ∀ (R : Reqs) (k : String) (v : Val),
    ((R.add rs).get k).has v = ((R.get k).has v && (rs.filter (fun r => r.key == k)).all (fun r => r.has v)) := by
  induction rs with
  | nil => intro R k v; simp [add_nil]
  | cons r rest ih =>
    intro R k v
    rw [add_cons, ih, List.filter_cons]
    by_cases hk : k = r.key
    · rw [hk, has_add1, if_pos (beq_self_eq_true _), List.all_cons, Bool.and_left_comm, Bool.and_assoc]
    · rw [get_add1_ne R r k hk, if_neg (fun h => hk (eq_of_beq h).symm)]

theorem lookup_add_isSome_eq (rs : List Req) : ∀ (R : Reqs) (k : String),
    ((R.add rs).lookup k).isSome = ((R.lookup k).isSome || rs.any (·.key == k)) := by
  induction rs with
  | nil => intro R k; simp [add_nil]
  | cons r rest ih =>
    intro R k
    rw [add_cons, ih, lookup_add1, List.any_cons]
    by_cases hk : k = r.key
    · simp [hk]
    · simp [hk, show (r.key == k) = false from beq_false_of_ne (Ne.symm hk)]

theorem lookup_add_isSome (rs : List Req) (R : Reqs) (r : Req) (h : r ∈ rs) : ((R.add rs).lookup r.key).isSome = true := by
  rw [lookup_add_isSome_eq, Bool.or_eq_true, List.any_eq_true]
  exact Or.inr ⟨r, h, beq_self_eq_true _⟩

theorem lookup_add_of_mem (rs : List Req) (R : Reqs) (r : Req) (hr : r ∈ rs) :
    ∃ q, (R.add rs).lookup r.key = some q ∧ ∀ v, q.has v = true → r.has v = true := by
  obtain ⟨q, hl⟩ := Option.isSome_iff_exists.mp (lookup_add_isSome rs R r hr)
  refine ⟨q, hl, fun v hv => ?_⟩
  have hg := has_add rs R r.key v
  rw [get_eq, hl, hv] at hg
  exact List.all_eq_true.mp ((Bool.and_eq_true _ _).mp hg.symm).2 r (List.mem_filter.mpr ⟨hr, by simp⟩)

theorem add_induction (I : String → Req → Prop) (rs : List Req) : ∀ (R : Reqs), (∀ p ∈ R, I p.1 p.2) →
    (∀ r ∈ rs, I r.key r ∧ ∀ e, I r.key e → I r.key (r.inter e)) → ∀ p ∈ R.add rs, I p.1 p.2 := by
  induction rs with
  | nil => intro R hR _; exact hR
  | cons r rest ih =>
    intro R hR hrs
    obtain ⟨hnew, hinter⟩ := hrs r List.mem_cons_self
    refine ih (R.add1 r) (fun p hp => ?_) (fun x hx => hrs x (List.mem_cons_of_mem _ hx))
    rw [add1_eq] at hp
    rcases mem_set _ _ _ _ hp with rfl | hp
    · cases hl : R.lookup r.key with
      | some e => exact hinter e (hR _ (lookup_mem R r.key e hl))
      | none => exact hnew
    · exact hR p hp

theorem wf_add (rs : List Req) (R : Reqs) (hR : ∀ p ∈ R, p.2.WF) (hrs : ∀ r ∈ rs, r.WF) : ∀ p ∈ R.add rs, p.2.WF :=
  add_induction (fun _ q => q.WF) rs R hR fun r hr => ⟨hrs r hr, fun e he => wf_inter r e (hrs r hr) he⟩

/-- labels compatible with `Reqs.add [] rs`, as an eliminator.  For `r ∈ rs` and any reading `m` of "the (possibly
    absent) label value satisfies the expression `r` was built from" that agrees with `r.has` on values: `m` holds of
    the actual label, once the absent case is covered — and there, what is stored under the key tolerates absence -/
theorem compatible_add_labels (ls : Labels) (rs : List Req) (hwf : ∀ r ∈ rs, r.WF)
    (hc : (labelReqs ls).compatible (Reqs.add [] rs) [] = true) (r : Req) (hr : r ∈ rs) (m : Option Val → Bool)
    (hsome : ∀ v, r.has v = m (some v))
    (hnone : ls.lookup r.key = none → ∀ q, (Reqs.add [] rs).lookup r.key = some q → q.absentOk = true → m none = true) :
    m (ls.lookup r.key) = true := by
  -- what is stored under the key admits no value `r` does not, and admits the actual label
  obtain ⟨q, hq, hsub⟩ := lookup_add_of_mem rs [] r hr
  have ha : q.admits (ls.lookup r.key) = true :=
    compatible_labels ls _ (wf_add rs [] (fun _ h => nomatch h) hwf) hc _ (lookup_mem _ _ _ hq)
  generalize ls.lookup r.key = x at ha hnone ⊢
  cases x with
  | none => exact hnone rfl q hq ha
  | some v => exact (hsome v).symm.trans (hsub v ha)

/-- validated expression: comparison operators carry one integer literal; `In` lists at least one value -/
def validExpr (e : KExpr) : Bool := validOperands e.op e.vals && !(e.op == .in_ && e.vals.isEmpty)

theorem newReq_spec (e : KExpr) (h : validExpr e = true) :
    (newReq e).WF ∧ (newReq e).key = normalizeKey e.key ∧ ∀ v, (newReq e).has v = k8sMatch e.op e.vals (some v) := by
  have hv : validOperands e.op e.vals = true := ((Bool.and_eq_true _ _).mp h).1
  obtain ⟨r, hn⟩ := new_ok_of_valid e.key e.op none e.vals hv
  rw [newReq, hn]
  exact ⟨wf_new _ _ _ _ r hn, key_new _ _ _ _ r hn, fun v => has_new _ _ _ _ r v hv hn⟩

theorem get_resMerge (a b : ResList) (k : String) : (resMerge a b).get k = a.get k + b.get k := by
  unfold resMerge ResList.get
  rw [List.lookup_append, lookup_map_val a (fun k v => v + (b.lookup k).getD 0)]
  cases ha : a.lookup k with
  | some v => simp
  | none =>
    simp only [Option.map_none, Option.none_or]
    rw [lookup_filter_key b (fun k => !ResList.hasKey a k)]
    simp [ResList.hasKey, ha]

theorem resFits_le (c t : ResList) (h : resFits c t = true) (k : String) : c.get k ≤ t.get k := by
  simp only [resFits, Bool.and_eq_true, List.all_eq_true, decide_eq_true_eq] at h
  cases hl : c.lookup k with
  | some q => simpa [ResList.get, hl] using h.2 _ (lookup_mem c k q hl)
  | none =>
    -- nothing requested: `t` holds no negative entry
    cases ht : t.lookup k with
    | none => simp [ResList.get, hl, ht]
    | some q' => simpa [ResList.get, hl, ht] using h.1 _ (lookup_mem t k q' ht)

theorem resFits_merge_le (a b t : ResList) (h : resFits (resMerge a b) t = true) (k : String) :
    a.get k + b.get k ≤ t.get k := by
  rw [← get_resMerge]; exact resFits_le _ _ h k

theorem fitsLoop_eq (req : ResList) (R : Reqs) (wk : List String) (gs : List AllocGroup) (has : Bool) :
    fitsLoop req R wk gs has =
      (gs.any (fun g => groupHasOffering g R wk && resFits req g.alloc), has || gs.any (fun g => groupHasOffering g R wk)) := by
  fun_induction fitsLoop req R wk gs has <;> simp_all

theorem mem_dedup [DecidableEq α] (x : α) : ∀ (l : List α), x ∈ dedup l ↔ x ∈ l := by
  intro l
  induction l with
  | nil => simp [dedup]
  | cons a as ih =>
    simp only [dedup, List.mem_cons, List.mem_filter, decide_eq_true_eq, ih]
    by_cases h : x = a
    · simp [h]
    · simp [h]

theorem mem_allocGroups (it : ITRaw) (g : AllocGroup) :
    g ∈ allocGroups it ↔
      ∃ k : OverrideKey, (k = baseKey ∨ ∃ o ∈ it.offerings.filter (·.available), overrideKey o = k) ∧
        { alloc := computeAlloc it k.1 k.2,
          offerings := ((it.offerings.filter (·.available)).filter (fun o => decide (overrideKey o = k))).map OfferingRaw.toM } = g := by
  simp only [allocGroups, List.mem_map, mem_dedup, List.mem_cons]

theorem allocGroups_sound (it : ITRaw) (g : AllocGroup) (hg : g ∈ allocGroups it) (om : OfferingM) (hom : om ∈ g.offerings) :
    ∃ o ∈ it.offerings, o.available = true ∧ o.toM = om ∧ g.alloc = allocFor it o := by
  obtain ⟨k, _, rfl⟩ := (mem_allocGroups it g).mp hg
  obtain ⟨o, hof, rfl⟩ := List.mem_map.mp hom
  obtain ⟨hof1, hkey⟩ := List.mem_filter.mp hof
  obtain ⟨hmem, hav⟩ := List.mem_filter.mp hof1
  refine ⟨o, hmem, hav, rfl, ?_⟩
  rw [← of_decide_eq_true hkey]; rfl

theorem allocGroups_complete (it : ITRaw) (o : OfferingRaw) (ho : o ∈ it.offerings) (hav : o.available = true) :
    ∃ g ∈ allocGroups it, o.toM ∈ g.offerings ∧ g.alloc = allocFor it o := by
  have hav' : o ∈ it.offerings.filter (·.available) := List.mem_filter.mpr ⟨ho, hav⟩
  refine ⟨_, (mem_allocGroups it _).mpr ⟨overrideKey o, Or.inr ⟨o, hav', rfl⟩, rfl⟩, ?_, rfl⟩
  exact List.mem_map.mpr ⟨o, List.mem_filter.mpr ⟨hav', by simp⟩, rfl⟩

theorem allocGroups_base_first (it : ITRaw) :
    ∃ rest, allocGroups it =
      { alloc := computeAlloc it [] none,
        offerings := ((it.offerings.filter (·.available)).filter (fun o => decide (overrideKey o = baseKey))).map OfferingRaw.toM } :: rest := by
  unfold allocGroups
  simp only [dedup, List.map_cons]
  exact ⟨_, rfl⟩

theorem mem_filterCandidates (options : List ITM) (groups : List Group) (podKey : String) (pp : List HostPort) (c : Group × ITM) :
    c ∈ filterCandidates options groups podKey pp ↔
      c.1 ∈ groups ∧ portsFree (c.1.portsOfOthers podKey) pp = true ∧
      ∃ n ∈ c.1.its, options.find? (fun it => it.name == n) = some c.2 := by
  obtain ⟨g, it⟩ := c
  simp only [filterCandidates, List.mem_flatMap]
  constructor
  · rintro ⟨g', hg, hin⟩
    split at hin
    · cases hin
    · rename_i hp
      obtain ⟨it', hit, heq⟩ := List.mem_map.mp hin
      cases heq
      exact ⟨hg, by simpa using hp, List.mem_filterMap.mp hit⟩
  · rintro ⟨hg, hp, hn⟩
    exact ⟨g, hg, by rw [if_neg (by simp [hp])]; exact List.mem_map.mpr ⟨it, List.mem_filterMap.mpr hn, rfl⟩⟩

end Karp.Sched
