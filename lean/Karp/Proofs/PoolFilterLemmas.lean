/-
The NodePool filter of `Provisioner.NewScheduler` (Model/PoolFilter, C19) against the specification's reading of
"ready NodePool" (Spec/PoolPass.readyCondition).
-/
import Karp.Model.PoolFilter
import Karp.Spec.PoolPass

namespace Karp.PoolFilter
open List

theorem isTrue_ready (cs : List Cond) :
    isTrue cs [readyType] = condIsTrue (cs.find? (fun c => c.type == readyType)) := by
  simp only [isTrue, get, all_cons, all_nil, Bool.and_true]

/-- `ConditionSet.IsTrue(Ready)` (first stored condition of the type, nil-safe) agrees with the specification's
    "the pool reports `Ready` and reports it as `True`" on every list that stores the root condition at most once -/
theorem isTrue_ready_eq (cs : List Cond)
    (huniq : (cs.filter (fun c => c.type == readyType)).length ≤ 1) :
    isTrue cs [readyType] = Karp.Spec.PoolPass.readyCondition (cs.map (fun c => (c.type, c.status))) := by
  -- both sides only look at the stored conditions of type `Ready`, of which there is at most one
  have hr : Karp.Spec.PoolPass.readyCondition (cs.map (fun c => (c.type, c.status)))
      = ((cs.filter (fun c => c.type == readyType)).any (fun c => c.status == "True") &&
         (cs.filter (fun c => c.type == readyType)).all (fun c => c.status == "True")) := by
    simp only [Karp.Spec.PoolPass.readyCondition, any_map, all_map, any_filter, all_filter]
    rfl
  rw [isTrue_ready, ← head?_filter, hr]
  generalize cs.filter (fun c => c.type == readyType) = F at huniq ⊢
  match F, huniq with
  | [], _ => rfl
  | [c], _ => simp [condIsTrue]
  | _ :: _ :: _, h => exact absurd h (by simp)

end Karp.PoolFilter
