/-
Helper lemmas for C07: the model's predicates (code shape: early returns, first-failure loops) agree with the
specification's declarative predicates, and what `selected` entails.  Core Lean only.
-/
import Karp.Model.Candidate
import Karp.Spec.Protected

namespace Karp.CandidateLemmas
open Karp.Candidate Karp.Spec.Protected Karp.Gen

theorem dnd_eq (now : Int) (p : Pod) : dndActive now p = annotationActive now p := by
  unfold dndActive annotationActive
  cases p.dnd with
  | dur d =>
    by_cases hd : d ≤ 0
    · simp [hd, Int.not_lt.mpr hd]
    · cases p.start with
      | none => simp [hd, Int.not_le.mp hd]
      | some s => simp only [hd, if_false, Int.not_le.mp hd, decide_true, Bool.true_and]; congr 1; apply propext; omega
  | _ => rfl

theorem active_eq (p : Pod) : isActive p = running p := by
  unfold isActive running; cases p.terminal <;> cases p.terminating <;> rfl

theorem evictable_eq (now : Int) (p : Pod) : isEvictable now p = wouldEvict now p := by
  unfold isEvictable wouldEvict
  rw [active_eq, dnd_eq]
  cases running p <;> cases p.mirror <;> cases p.tol.tolerates <;> cases annotationActive now p <;> rfl

theorem matches_eq (b : Pdb) (p : Pod) : b.matches p = selects b p := by
  unfold Pdb.matches selects
  cases b.sel <;> rfl

theorem resched_eq (p : Pod) : isReschedulable p = mustMove p := by
  unfold isReschedulable mustMove; rw [active_eq]

theorem cost_eq (p : Pod) : costPositive p = contributes p := by
  unfold costPositive contributes scaledCost costScale; rfl

theorem pdbEvictable_eq (now : Int) (pdbs : List Pdb) (p : Pod) :
    (pdbEvictable now pdbs p).2 = !(wouldEvict now p && evictionRefused pdbs p) := by
  unfold pdbEvictable evictionRefused
  rw [evictable_eq, show (fun b : Pdb => b.matches p) = (fun b => selects b p) from funext fun b => matches_eq b p]
  cases wouldEvict now p with
  | false => simp
  | true =>
    simp only [Bool.not_true, Bool.false_eq_true, if_false, Bool.true_and]
    generalize pdbs.filter (fun b => selects b p) = ms
    match ms with
    | [] => simp
    | [b] => cases h1 : (b.alwaysAllow && p.notReady) <;> cases h0 : b.allowed == 0 <;> simp [h0, h1]
    | b :: c :: rest => simp

theorem canEvict_eq (now : Int) (pdbs : List Pdb) (ps : List Pod) :
    (canEvictPods now pdbs ps).2 = ps.all (fun p => !(wouldEvict now p && evictionRefused pdbs p)) := by
  induction ps with
  | nil => rfl
  | cons p ps ih =>
    unfold canEvictPods
    simp only [List.all_cons]
    rw [← pdbEvictable_eq]
    cases h : (pdbEvictable now pdbs p).2 with
    | true => simp [ih]
    | false => simp [h]

theorem pods_eq {s : StateNode} (h : s.node.isSome = true) (w : World) : s.pods w.pods = hosted w := by
  unfold StateNode.pods hosted
  cases hn : s.node <;> simp_all

theorem validatePods_eq (s : StateNode) (w : World) (h : s.node.isSome = true) :
    s.validatePods w.now w.pods w.pdbs = !podLevelBlocker w := by
  unfold StateNode.validatePods podLevelBlocker podDoNotDisrupt pdbBlocks
  simp only [pods_eq h, canEvict_eq, ← List.not_any_eq_all_not]
  have : (hosted w).all (isDisruptable w.now) = !(hosted w).any (fun p => running p && annotationActive w.now p) := by
    rw [List.not_any_eq_all_not]
    congr 1; funext p
    unfold isDisruptable; rw [active_eq, dnd_eq]
    cases running p <;> cases annotationActive w.now p <;> rfl
  rw [this]
  cases (hosted w).any (fun p => running p && annotationActive w.now p) <;> simp

theorem isEmpty_eq (s : StateNode) (w : World) (h : s.node.isSome = true) :
    isEmpty s w.pods = (hosted w).all (fun p => !(mustMove p && contributes p)) := by
  unfold isEmpty
  rw [pods_eq h]
  generalize hosted w = l
  induction l with
  | nil => rfl
  | cons p l ih =>
    simp only [List.filter_cons, List.all_cons]
    rw [← ih, ← resched_eq, ← cost_eq]
    cases isReschedulable p <;> simp

theorem stateNode_some {w : World} {s : StateNode} (h : stateNode w = some s) :
    s.claim = w.claim ∧ s.node = w.node.filter nodeTracked ∧ s.marked = w.marked ∧
    s.nominatedUntil = w.nominatedAt.map (fun t => t + nominationWindow w.batchMax) := by
  revert h
  fun_cases stateNode w <;> intro h <;> cases h
  exact ⟨rfl, rfl, rfl, rfl⟩

theorem validateNode_iff (s : StateNode) (now : Int) :
    s.validateNode now = true ↔
      ∃ c n md, s.claim = some c ∧ s.node = some n ∧ s.initialized = true ∧ s.markedForDeletion = false ∧
        s.nominated now = false ∧ s.md = some md ∧ md.dnd ≠ .true_ ∧ md.pool ≠ .none := by
  unfold StateNode.validateNode
  cases s.claim with
  | none => simp
  | some c =>
    cases s.node with
    | none => simp
    | some n => cases s.md <;> simp

theorem isTrue_eq (c : Cond) : c.isTrue = (c == .true_) := by cases c <;> rfl

theorem not_deleting {w : World} {s : StateNode} (hs : stateNode w = some s) (hm : s.markedForDeletion = false)
    (hq : w.inQueue = false) : deleting w = false := by
  obtain ⟨hcl, _, hmk, _⟩ := stateNode_some hs
  unfold StateNode.markedForDeletion StateNode.deleted at hm
  rw [hcl, hmk] at hm
  unfold deleting
  rw [hq]
  cases hc : w.claim with
  | none => simp_all
  | some c => simp_all [isTrue_eq]

theorem node_ok {w : World} {s : StateNode} {md : Meta} (hwf : wellFormed w = true)
    (hs : stateNode w = some s) (hq : w.inQueue = false) (hv : s.validateNode w.now = true)
    (hmd : s.md = some md) (hp : poolResolves w md = true) :
    nodeLevelBlocker w = false ∧ s.node.isSome = true := by
  obtain ⟨hc, hn, -, hnom⟩ := stateNode_some hs
  obtain ⟨c, n, md', hsc, hsn, hinit, hmfd, hnomi, hmd', hdnd, -⟩ := (validateNode_iff s w.now).mp hv
  cases hmd.symm.trans hmd'
  have h3 := not_deleting hs hmfd hq
  have hwn : w.node = some n := (Option.filter_eq_some_iff.mp (hn ▸ hsn)).1
  -- initialized ⇒ label true ⇒ (well-formed) registered ⇒ the Node's metadata is what counts
  have hni : n.init = .true_ := by simpa [StateNode.initialized, StateNode.managed, hsc, hsn] using hinit
  have hreg : n.reg = .true_ := by simpa [wellFormed, hwn, hni] using hwf
  have hmdn : md = n.md := by
    simpa [StateNode.md, StateNode.registered, StateNode.managed, hsc, hsn, hreg] using hmd.symm
  subst hmdn
  have h4 : recentlyNominated w = false := by
    unfold StateNode.nominated at hnomi
    rw [hnom] at hnomi
    unfold recentlyNominated
    cases hna : w.nominatedAt with
    | none => rfl
    | some t => rw [hna] at hnomi; exact hnomi
  simp only [poolResolves, Bool.and_eq_true, beq_iff_eq] at hp
  simp [nodeLevelBlocker, unmanaged, uninitialized, nodeDoNotDisrupt, h3, h4, ← hc, hsc, hsn, hwn, hni, hp, hdnd]

theorem selected_unfold {w : World} {m : Method} (h : selected w m = true) :
    ∃ s md, stateNode w = some s ∧ newCandidateOn w s (classOf m) = .ok ∧ s.md = some md ∧
      shouldDisruptOn w s md m = true := by
  revert h
  fun_cases selected w m <;> intro h
  · cases h
  · rename_i s hs
    unfold selectedOn at h
    cases hmd : s.md with
    | none => simp [hmd] at h
    | some md => exact ⟨s, md, hs, by simpa [hmd] using h⟩

theorem newCandidate_ok {w : World} {s : StateNode} {cls : Class} (h : newCandidateOn w s cls = .ok) :
    w.inQueue = false ∧ s.validateNode w.now = true ∧
    ∃ md, s.md = some md ∧ poolResolves w md = true ∧
      (s.validatePods w.now w.pods w.pdbs = true ∨
       (s.tgp = true ∧ cls = .eventual)) := by
  revert h
  fun_cases newCandidateOn w s cls <;> simp_all

theorem selected_tracked {w : World} {m : Method} (h : selected w m = true) :
    ∃ s c, stateNode w = some s ∧ w.claim = some c ∧ s.markedForDeletion = false ∧ w.inQueue = false := by
  obtain ⟨s, md, hs, hc, _, _⟩ := selected_unfold h
  obtain ⟨hq, hv, _⟩ := newCandidate_ok hc
  obtain ⟨c, -, -, hsc, -, -, hm, -⟩ := (validateNode_iff s w.now).mp hv
  exact ⟨s, c, hs, (stateNode_some hs).1 ▸ hsc, hm, hq⟩

theorem tgp_eq {w : World} {s : StateNode} (hcl : s.claim = w.claim) : s.tgp = hasTGP w := by
  unfold StateNode.tgp hasTGP
  rw [hcl]
  cases w.claim <;> rfl

theorem candidate_ok {w : World} {s : StateNode} {cls : Class} (hwf : wellFormed w = true)
    (hs : stateNode w = some s) (h : newCandidateOn w s cls = .ok) :
    candidateAllowed w (cls == .eventual) = true ∧ s.claim = w.claim ∧ s.node.isSome = true := by
  obtain ⟨hq, hv, md, hmd, hp, hpods⟩ := newCandidate_ok h
  obtain ⟨hnl, hnode⟩ := node_ok hwf hs hq hv hmd hp
  obtain ⟨hcl, -⟩ := stateNode_some hs
  refine ⟨?_, hcl, hnode⟩
  unfold candidateAllowed
  rw [hnl]
  rcases hpods with hvp | ⟨htgp, hcls⟩
  · rw [validatePods_eq s w hnode] at hvp
    simp [hvp]
  · rw [← tgp_eq hcl, htgp, hcls]
    simp

theorem claimCond_consolidatable {w : World} {s : StateNode} (hcl : s.claim = w.claim) :
    claimCond s (·.consolidatable) = consolidatable w := by
  unfold claimCond consolidatable
  rw [hcl]
  cases w.claim <;> simp [isTrue_eq]

theorem shouldDisrupt_consolidation {w : World} {s : StateNode} {md : Meta} {m : Method} (hcl : s.claim = w.claim)
    (hnode : s.node.isSome = true) (hsd : shouldDisruptOn w s md m = true) :
    (!isConsolidation m || consolidationOk w m) = true := by
  have hE := isEmpty_eq s w hnode
  have hcc := claimCond_consolidatable hcl
  cases m with
  | drift | staticDrift => rfl
  | emptiness =>
    simp only [shouldDisruptOn, consolidationEnabled, hE, hcc, Bool.if_false_left, Bool.and_eq_true,
      decide_eq_false_iff_not, Bool.not_eq_eq_eq_not, Bool.not_true] at hsd
    obtain ⟨h1, h2, h3, h4, h5⟩ := hsd
    have he : empty w = true := by
      have hb : w.buffer = 0 := by omega
      simp only [empty, hb, h4]; rfl
    simp [isConsolidation, consolidationOk, h1, h2, he, h5]
  | multi | single =>
    simp only [shouldDisruptOn, consolidationEnabled, hE, hcc, Bool.if_false_left, Bool.and_eq_true, Bool.not_eq_true',
      decide_eq_false_iff_not, beq_iff_eq] at hsd
    obtain ⟨h1, -, -, -, h2, -, h3, h4⟩ := hsd
    simp [isConsolidation, consolidationOk, h1, h2, h3, h4]

theorem allowed_unfold {w : World} {m : Method} (h : allowed w m = true) :
    (unmanaged w = false ∧ uninitialized w = false ∧ deleting w = false ∧ recentlyNominated w = false ∧
      nodeDoNotDisrupt w = false) ∧
    ((podDoNotDisrupt w = false ∧ pdbBlocks w = false) ∨ (isDrift m = true ∧ hasTGP w = true)) ∧
    (isConsolidation m = true → consolidationOk w m = true) := by
  simp only [allowed, nodeLevelBlocker, podLevelBlocker, mayOverride, Bool.and_eq_true, Bool.or_eq_true,
    Bool.not_eq_true', Bool.or_eq_false_iff, and_assoc] at h
  obtain ⟨a, b, c, d, e, f, g⟩ := h
  exact ⟨⟨a, b, c, d, e⟩, f, fun hc => g.resolve_left (by simp [hc])⟩
end Karp.CandidateLemmas
