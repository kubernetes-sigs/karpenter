/-
Helper lemmas for C18 (heap model of `Karp/Model/Effects.lean`): deep copies are fresh and faithful, writes confined to
fresh memory leave every older cell alone.  Then the pod bookkeeping of the same model: what a list of edits does to
one pod, and that every step of a history is `Stable`.
-/
import Karp.Model.Effects

namespace Karp.Effects

@[simp] theorem alloc_next (h : Heap) (v : Int) : (h.alloc v).next = h.next + 1 := rfl
theorem alloc_cell_ne (h : Heap) (v : Int) (a : Addr) (hne : a ≠ h.next) : (h.alloc v).cell a = h.cell a := by
  simp [Heap.alloc, hne]
@[simp] theorem alloc_cell_self (h : Heap) (v : Int) : (h.alloc v).cell h.next = v := by
  simp [Heap.alloc]

theorem writes_next (ws : List (Addr × Int)) (h : Heap) : (h.writes ws).next = h.next := by
  fun_induction Heap.writes h ws with
  | case1 h => rfl
  | case2 h a v ws ih => exact ih

theorem writes_cell (ws : List (Addr × Int)) (h : Heap) (a : Addr) (hn : ∀ x ∈ ws, x.1 ≠ a) :
    (h.writes ws).cell a = h.cell a := by
  fun_induction Heap.writes h ws with
  | case1 h => rfl
  | case2 h b v ws ih =>
    rw [ih fun y hy => hn y (List.mem_cons_of_mem _ hy)]
    simp [Heap.write, Ne.symm (hn (b, v) List.mem_cons_self)]

theorem observe_congr (h1 h2 : Heap) (o : Obj) (hc : ∀ a ∈ refs o, h1.cell a = h2.cell a) :
    observe h1 o = observe h2 o := by
  fun_induction refs o with
  | case1 => rfl
  | case2 n v r ih => simp only [observe]; rw [ih hc]
  | case3 n a r ih =>
    simp only [observe]
    rw [ih fun b hb => hc b (List.mem_cons_of_mem _ hb), hc a List.mem_cons_self]

/-! Copying allocates and never writes to what exists; a confined simulation writes only to what it allocated.  Both
leave a heap that *extends* the one they started from. -/

def Heap.Ext (h h' : Heap) : Prop := h.next ≤ h'.next ∧ ∀ a, a < h.next → h'.cell a = h.cell a

theorem Heap.Ext.refl (h : Heap) : h.Ext h := ⟨Nat.le_refl _, fun _ _ => rfl⟩

theorem Heap.Ext.trans {h1 h2 h3 : Heap} (e : h1.Ext h2) (e' : h2.Ext h3) : h1.Ext h3 :=
  ⟨Nat.le_trans e.1 e'.1, fun a ha => (e'.2 a (Nat.lt_of_lt_of_le ha e.1)).trans (e.2 a ha)⟩

theorem alloc_ext (h : Heap) (v : Int) : h.Ext (h.alloc v) :=
  ⟨Nat.le_succ _, fun a ha => alloc_cell_ne h v a (Nat.ne_of_lt ha)⟩

theorem observe_ext {h h' : Heap} (e : h.Ext h') (o : Obj) (wf : WF h o) : observe h' o = observe h o :=
  observe_congr h' h o fun a ha => e.2 a (wf a ha)

theorem wf_ext {h h' : Heap} (e : h.Ext h') (o : Obj) (wf : WF h o) : WF h' o :=
  fun a ha => Nat.lt_of_lt_of_le (wf a ha) e.1

theorem copyObj_ext (t : String → Bool) (o : Obj) (h : Heap) : h.Ext (copyObj t h o).1 := by
  fun_induction copyObj t h o with
  | case1 h => exact .refl h
  | case2 h n v r ih => exact ih
  | case3 h n a r ht ih => exact (alloc_ext h _).trans ih
  | case4 h n a r ht ih => exact ih

theorem copyObj_refs_fresh (t : String → Bool) (o : Obj) (h : Heap) (hc : Complete t o = true) :
    ∀ a ∈ refs (copyObj t h o).2, h.next ≤ a := by
  fun_induction copyObj t h o with
  | case1 h => intro a ha; cases ha
  | case2 h n v r ih => exact ih hc
  | case3 h n b r ht ih =>
    have hr : Complete t r = true := by simpa [Complete, refFields, ht] using hc
    intro a ha
    rcases List.mem_cons.1 ha with rfl | ha
    · exact Nat.le_refl _
    · exact Nat.le_of_succ_le (ih hr a ha)
  | case4 h n b r ht ih => exact absurd (by simpa [Complete, refFields] using hc : t n = true ∧ _).1 ht

/-- the copy refers to allocated cells only: fresh ones, or (untreated fields) the original's -/
theorem copyObj_wf (t : String → Bool) (o : Obj) (h : Heap) (wf : WF h o) : WF (copyObj t h o).1 (copyObj t h o).2 := by
  fun_induction copyObj t h o with
  | case1 h => exact wf
  | case2 h n v r ih => exact ih wf
  | case3 h n b r ht ih =>
    intro a ha
    rcases List.mem_cons.1 ha with rfl | ha
    · exact Nat.lt_of_lt_of_le (Nat.lt_succ_self _) (copyObj_ext t r (h.alloc (h.cell b))).1
    · exact ih (wf_ext (alloc_ext h _) r fun a ha => wf a (List.mem_cons_of_mem _ ha)) a ha
  | case4 h n b r ht ih =>
    intro a ha
    rcases List.mem_cons.1 ha with rfl | ha
    · exact Nat.lt_of_lt_of_le (wf a List.mem_cons_self) (copyObj_ext t r h).1
    · exact ih (fun a ha => wf a (List.mem_cons_of_mem _ ha)) a ha

theorem copyObj_observe (t : String → Bool) (o : Obj) (h : Heap) (wf : WF h o) :
    observe (copyObj t h o).1 (copyObj t h o).2 = observe h o := by
  fun_induction copyObj t h o with
  | case1 h => rfl
  | case2 h n v r ih => simp only [observe]; rw [ih fun a ha => wf a ha]
  | case3 h n b r ht ih =>
    -- the fresh cell at `h.next` holds what `b` held, and the rest of the copy does not touch it
    have wfr : WF h r := fun a ha => wf a (List.mem_cons_of_mem _ ha)
    have e := alloc_ext h (h.cell b)
    simp only [observe]
    rw [ih (wf_ext e r wfr), observe_ext e r wfr, (copyObj_ext t r _).2 h.next (Nat.lt_succ_self _), alloc_cell_self]
  | case4 h n b r ht ih =>
    have wfr : WF h r := fun a ha => wf a (List.mem_cons_of_mem _ ha)
    simp only [observe]
    rw [ih wfr, (copyObj_ext t r h).2 b (wf b List.mem_cons_self)]

theorem copyAll_ext (t : String → Bool) : ∀ (os : List Obj) (h : Heap), h.Ext (copyAll t h os).1
  | [], h => .refl h
  | o :: os, h => (copyObj_ext t o h).trans (copyAll_ext t os _)

theorem copyAll_refs_fresh (t : String → Bool) (os : List Obj) (h : Heap) (hall : ∀ o ∈ os, Complete t o = true) :
    ∀ c ∈ (copyAll t h os).2, ∀ a ∈ refs c, h.next ≤ a := by
  fun_induction copyAll t h os with
  | case1 h => intro c hc; cases hc
  | case2 h o os ih =>
    intro c hc a ha
    rcases List.mem_cons.1 hc with rfl | hc
    · exact copyObj_refs_fresh t o h (hall o List.mem_cons_self) a ha
    · exact Nat.le_trans (copyObj_ext t o h).1 (ih (fun o' ho' => hall o' (List.mem_cons_of_mem _ ho')) c hc a ha)

theorem copyAll_length (t : String → Bool) : ∀ (os : List Obj) (h : Heap), (copyAll t h os).2.length = os.length := by
  intro os
  induction os with
  | nil => intro h; simp [copyAll]
  | cons o os ih => intro h; simp [copyAll, ih]

theorem copyAll_observe (t : String → Bool) (os : List Obj) (h : Heap) (wf : ∀ o ∈ os, WF h o) :
    (copyAll t h os).2.map (observe (copyAll t h os).1) = os.map (observe h) := by
  fun_induction copyAll t h os with
  | case1 h => rfl
  | case2 h o os ih =>
    have e := copyObj_ext t o h
    simp only [List.map_cons]
    rw [ih fun o' ho' => wf_ext e o' (wf o' (List.mem_cons_of_mem _ ho'))]
    congr 1
    · -- the later copies only allocate, so they do not disturb the first copy, whether it treats a field or not
      rw [← copyObj_observe t o h (wf o List.mem_cons_self)]
      exact observe_ext (copyAll_ext t os _) _ (copyObj_wf t o h (wf o List.mem_cons_self))
    · exact List.map_congr_left fun o' ho' => observe_ext e o' (wf o' (List.mem_cons_of_mem _ ho'))

/-- the frame of a list of writes: none below the allocation pointer of `h0` leaves every cell `h0` had alone -/
theorem writes_ext {h0 h : Heap} (e : h0.Ext h) (ws : List (Addr × Int)) (hw : ∀ x ∈ ws, h0.next ≤ x.1) :
    h0.Ext (h.writes ws) :=
  ⟨writes_next ws h ▸ e.1, fun a ha =>
    (writes_cell ws h a fun x hx => Nat.ne_of_gt (Nat.lt_of_lt_of_le ha (hw x hx))).trans (e.2 a ha)⟩

/-- where the completeness of the deep copy is needed: a confined write goes through a copy's reference, which is fresh
    only if the copy re-allocated it, or to memory allocated later -/
theorem confined_fresh (t : String → Bool) (w : World) (ws : List (Addr × Int))
    (hc : ∀ o ∈ w.nodes, Complete t o = true) (conf : Confined t w ws) : ∀ x ∈ ws, w.heap.next ≤ x.1 := fun x hx =>
  (conf x hx).elim (fun ⟨c, hcm, hr⟩ => copyAll_refs_fresh t w.nodes w.heap hc c hcm x.1 hr)
    (Nat.le_trans (copyAll_ext t w.nodes w.heap).1)

theorem simulate_ext (t : String → Bool) (w : World) (ws : List (Addr × Int))
    (hc : ∀ o ∈ w.nodes, Complete t o = true) (conf : Confined t w ws) : w.heap.Ext (simulate t w ws).heap :=
  writes_ext (copyAll_ext t w.nodes w.heap) ws (confined_fresh t w ws hc conf)

end Karp.Effects

namespace Karp.Effects
open Karp.Spec.NoEffect (NodeVal PodVal PlacedPod ExistingPlacement ClaimPlacement Outcome Live)

def stepPod (now : Int) (hp : List String) (p : PodVal) (e : String × Edit) : PodVal :=
  if p.key == e.1 then e.2.apply now hp p else p

/-- all edits as seen by one pod -/
def relevant (now : Int) (hp : List String) (es : List (String × Edit)) (p : PodVal) : PodVal :=
  es.foldl (stepPod now hp) p

theorem loadOrStore_of_ne (old now : Int) (h : old ≠ 0) : loadOrStore old now = old := by simp [loadOrStore, h]

theorem loadOrStore_idem (old now : Int) : loadOrStore (loadOrStore old now) now = loadOrStore old now := by
  by_cases h : old = 0 <;> simp [loadOrStore, h]

/-- `Stable`, for one pod -/
def PodKeeps (p q : PodVal) : Prop :=
  q.key = p.key ∧ q.ack = p.ack ∧ (p.attempted ≠ 0 → q.attempted = p.attempted)

theorem PodKeeps.refl (p : PodVal) : PodKeeps p p := ⟨rfl, rfl, fun _ => rfl⟩

theorem PodKeeps.trans {p q r : PodVal} (h1 : PodKeeps p q) (h2 : PodKeeps q r) : PodKeeps p r :=
  ⟨h2.1.trans h1.1, h2.2.1.trans h1.2.1, fun h => (h2.2.2 (h1.2.2 h ▸ h)).trans (h1.2.2 h)⟩

theorem markScheduled_keeps (now : Int) (pool : String) (hp : List String) (b : Bool) (p : PodVal) :
    PodKeeps p (markScheduled now pool hp b p) := by
  unfold markScheduled
  split
  · exact .refl p
  · split <;> exact ⟨rfl, rfl, fun h => loadOrStore_of_ne _ _ h⟩

theorem Edit.apply_keeps (now : Int) (hp : List String) (e : Edit) (p : PodVal) : PodKeeps p (e.apply now hp p) := by
  cases e with
  | err => exact ⟨rfl, rfl, fun h => loadOrStore_of_ne _ _ h⟩
  | sched pool b => exact markScheduled_keeps now pool hp b p
  | claim nc => exact ⟨rfl, rfl, fun _ => rfl⟩

theorem stepPod_keeps (now : Int) (hp : List String) (p : PodVal) (e : String × Edit) :
    PodKeeps p (stepPod now hp p e) := by
  unfold stepPod
  split
  · exact Edit.apply_keeps now hp e.2 p
  · exact .refl p

theorem relevant_keeps (now : Int) (hp : List String) (es : List (String × Edit)) :
    ∀ p : PodVal, PodKeeps p (relevant now hp es p) := by
  induction es with
  | nil => exact .refl
  | cons e es ih => exact fun p => (stepPod_keeps now hp p e).trans (ih _)

theorem relevant_untouched (now : Int) (hp : List String) (es : List (String × Edit)) :
    ∀ p : PodVal, (∀ e ∈ es, e.1 ≠ p.key) → relevant now hp es p = p := by
  induction es with
  | nil => intro p _; rfl
  | cons e es ih =>
    intro p h
    have hne : (p.key == e.1) = false := beq_eq_false_iff_ne.2 (Ne.symm (h e List.mem_cons_self))
    rw [relevant, List.foldl_cons, stepPod, hne]
    exact ih p fun e' he' => h e' (List.mem_cons_of_mem _ he')

theorem foldl_map_comm {α β : Type} (f : α → β → α) (es : List β) : ∀ ps : List α,
    es.foldl (fun ps e => ps.map (f · e)) ps = ps.map (fun p => es.foldl f p) := by
  induction es with
  | nil => intro ps; simp
  | cons e es ih => intro ps; simp [ih]

theorem applyEdits_eq_map (now : Int) (hp : List String) (es : List (String × Edit)) (ps : List PodVal) :
    applyEdits now hp es ps = ps.map (relevant now hp es) :=
  foldl_map_comm (stepPod now hp) es ps

theorem zip_map_all {α : Type} (f : α → α) (P : α × α → Bool) : ∀ l : List α,
    (l.zip (l.map f)).all P = l.all (fun a => P (a, f a)) := by
  intro l
  induction l with
  | nil => rfl
  | cons a l ih => simp [ih]

theorem markError_idem (now : Int) (p : PodVal) : markError now (markError now p) = markError now p := by
  simp [markError, loadOrStore_idem]

/-- `markError` is idempotent, so it does not matter how often a pod is refused -/
theorem relevant_ignored (now : Int) (ignored : List String) :
    ∀ p : PodVal, relevant now [] (ignoredEdits ignored) p = if p.key ∈ ignored then markError now p else p := by
  induction ignored with
  | nil => intro p; simp [ignoredEdits, relevant]
  | cons n names ih =>
    intro p
    simp only [ignoredEdits, List.map_cons, relevant, List.foldl_cons] at ih ⊢
    rw [ih]
    by_cases hn : p.key = n
    · have hk : (markError now p).key = n := hn
      simp [stepPod, hn, hk, Edit.apply, markError_idem]
    · simp [stepPod, hn]

theorem refused_markError (now : Int) (p : PodVal) : Karp.Spec.NoEffect.refused now p (markError now p) = true := by
  simp [Karp.Spec.NoEffect.refused, markError, loadOrStore]

theorem sim_pods_frame (now : Int) (ignored : List String) (ps : List PodVal) :
    (ps.zip (markIgnored now ignored ps)).all (fun pq =>
      pq.1 == pq.2 || (ignored.contains pq.1.key && Karp.Spec.NoEffect.refused now pq.1 pq.2)) = true := by
  simp only [markIgnored, applyEdits_eq_map]
  rw [zip_map_all]
  simp only [List.all_eq_true]
  intro p _
  rw [relevant_ignored]
  by_cases hi : p.key ∈ ignored <;> simp [hi, refused_markError]

theorem decisionEdits_mentions (o : Outcome) : ∀ e ∈ decisionEdits o, o.mentions e.1 = true := by
  intro e he
  simp only [decisionEdits, List.mem_append, List.mem_map, List.mem_flatMap] at he
  simp only [Outcome.mentions, Bool.or_eq_true, List.any_eq_true, beq_iff_eq, List.contains_iff_mem]
  rcases he with ((⟨n, hn, rfl⟩ | ⟨c, hc, pp, hpp, rfl⟩) | ⟨x, hx, pp, hpp, rfl⟩) | ⟨x, hx, hin⟩
  · exact Or.inl (Or.inl hn)
  · exact Or.inl (Or.inr ⟨c, hc, pp, hpp, rfl⟩)
  · exact Or.inr ⟨x, hx, pp, hpp, rfl⟩
  · split at hin
    · simp at hin
    · simp only [List.mem_map] at hin
      obtain ⟨pp, hpp, rfl⟩ := hin
      exact Or.inr ⟨x, hx, pp, hpp, rfl⟩

theorem pods_frame (now : Int) (healthy ignored : List String) (o : Outcome) (ps : List PodVal) :
    (ps.zip (markDecisions now healthy o (markIgnored now ignored ps))).all (fun pq =>
      pq.1.key == pq.2.key && pq.1.ack == pq.2.ack &&
      (pq.1.attempted == 0 || pq.2.attempted == pq.1.attempted) &&
      (pq.1 == pq.2 || o.mentions pq.1.key || ignored.contains pq.1.key)) = true := by
  simp only [markDecisions, markIgnored, applyEdits_eq_map, List.map_map]
  rw [zip_map_all]
  simp only [List.all_eq_true, Function.comp]
  intro p _
  have k := (relevant_keeps now [] (ignoredEdits ignored) p).trans
    (relevant_keeps now healthy (decisionEdits o) (relevant now [] (ignoredEdits ignored) p))
  simp only [Bool.and_eq_true, Bool.or_eq_true, beq_iff_eq]
  refine ⟨⟨⟨k.1.symm, k.2.1.symm⟩, ?_⟩, ?_⟩
  · by_cases h0 : p.attempted = 0
    · exact Or.inl h0
    · exact Or.inr (k.2.2 h0)
  · by_cases hm : o.mentions p.key = true
    · exact Or.inl (Or.inr hm)
    · by_cases hi : ignored.contains p.key = true
      · exact Or.inr hi
      · left; left
        rw [relevant_ignored, if_neg (by simpa using hi)]
        symm
        apply relevant_untouched
        intro e he heq
        exact hm (heq ▸ decisionEdits_mentions o e he)

theorem nodes_frame (now w : Int) (hw : 0 < w) (o : Outcome) (ns : List NodeVal) :
    (ns.zip (nominate now w o ns)).all (fun nm =>
      nm.1.providerID == nm.2.providerID && nm.1.marked == nm.2.marked && nm.1.nodeClaim == nm.2.nodeClaim &&
      (nm.1.nominatedUntil == nm.2.nominatedUntil || (o.placedOn nm.1.providerID && nm.2.nominatedUntil > now))) = true := by
  unfold nominate
  rw [zip_map_all]
  simp only [List.all_eq_true]
  intro n _
  by_cases hp : o.existing.any (fun e => e.providerID == n.providerID && !e.pods.isEmpty) = true
  · have hpl : o.placedOn n.providerID = true := hp
    simp only [hp, if_true, beq_self_eq_true, Bool.true_and, hpl, Bool.or_eq_true, decide_eq_true_eq]
    right
    omega
  · simp [hp]

theorem nominationWindow_pos (b : Int) : 0 < nominationWindow b := by
  unfold nominationWindow
  have : (0 : Int) < (Karp.Gen.C18Copy.nominationFloorSeconds : Int) * 1000000000 := by decide
  omega

theorem stable_refl (a : Live) : Stable a a := ⟨rfl, rfl, rfl, fun _ _ _ _ => rfl⟩

theorem stable_trans {a b c : Live} (h1 : Stable a b) (h2 : Stable b c) : Stable a c := by
  refine ⟨h2.1.trans h1.1, h2.2.1.trans h1.2.1, h2.2.2.1.trans h1.2.2.1, ?_⟩
  intro i ha hc hne
  have hb : i < b.pods.length := by rw [h1.2.2.1]; exact ha
  have e1 := h1.2.2.2 i ha hb hne
  rw [h2.2.2.2 i hb hc (by rw [e1]; exact hne), e1]

theorem edits_stable (now : Int) (hp : List String) (es : List (String × Edit)) (l : Live) (ns : List NodeVal)
    (hns : ns.map (fun n => (n.providerID, n.marked)) = l.nodes.map (fun n => (n.providerID, n.marked))) :
    Stable l { nodes := ns, pods := applyEdits now hp es l.pods } := by
  simp only [applyEdits_eq_map]
  refine ⟨hns, ?_, by simp, ?_⟩
  · rw [List.map_map]
    apply List.map_congr_left
    intro p _
    simp [(relevant_keeps now hp es p).1, (relevant_keeps now hp es p).2.1]
  · intro i h1 h2 hne
    simp only [List.getElem_map]
    exact (relevant_keeps now hp es _).2.2 hne

theorem nominate_marks (now w : Int) (o : Outcome) (ns : List NodeVal) :
    (nominate now w o ns).map (fun n => (n.providerID, n.marked)) = ns.map (fun n => (n.providerID, n.marked)) := by
  simp only [nominate, List.map_map]
  apply List.map_congr_left
  intro n _
  simp only [Function.comp]
  split <;> rfl

theorem step_stable (s : Step) (l : Live) : Stable l (s.run l) := by
  cases s with
  | pass now batch healthy ignored o =>
    exact stable_trans (edits_stable now [] (ignoredEdits ignored) l l.nodes rfl)
      (edits_stable now healthy (decisionEdits o) ⟨l.nodes, markIgnored now ignored l.pods⟩ _
        (nominate_marks now (nominationWindow batch) o l.nodes))
  | failed now ignored => exact edits_stable now [] (ignoredEdits ignored) l l.nodes rfl
  | simulation now ignored => exact edits_stable now [] (ignoredEdits ignored) l l.nodes rfl

end Karp.Effects
