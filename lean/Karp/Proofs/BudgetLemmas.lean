/-
Helper lemmas for C05 (disruption budgets): the activity window, `strconv.Atoi` on digit strings, the
rounding of percentages, the fold of `GetAllowedDisruptionsByReason`, and the budget accounting loops.
The property theorems themselves are in `Karp/Props/C05.lean`.
-/
import Karp.Model.Budget
import Karp.Spec.BudgetWindow

namespace Karp.Budget
open Karp.Spec.BudgetWindow

theorem mem_minuteMultiples (lo hi h : Int) :
    h ∈ minuteMultiples lo hi ↔ (lo < h ∧ h ≤ hi ∧ h % 60000000000 = 0) := by
  unfold minuteMultiples
  simp only [List.mem_map, List.mem_range]
  constructor
  · rintro ⟨i, hi', rfl⟩
    omega
  · rintro ⟨h1, h2, h3⟩
    exact ⟨(h / 60000000000 - (lo / 60000000000 + 1)).toNat, by omega⟩

theorem windowActive_iff (hit : Int → Bool) (hmin : ∀ h, hit h = true → h % 60000000000 = 0) (d now : Int) :
    windowActive hit d now = true ↔ ∃ h, hit h = true ∧ h ≤ now ∧ now < h + d := by
  unfold windowActive
  rw [List.any_eq_true]
  constructor
  · rintro ⟨h, hm, hh⟩
    rw [mem_minuteMultiples] at hm
    exact ⟨h, hh, by omega, by omega⟩
  · rintro ⟨h, hh, h1, h2⟩
    exact ⟨h, (mem_minuteMultiples _ _ _).2 ⟨by omega, h1, hmin h hh⟩, hh⟩

/-- the cron specification: `next t` is the least activation (`hit`) strictly after `t` -/
structure NextSpec (hit : Int → Bool) (next : Int → Option Int) : Prop where
  sound : ∀ t h, next t = some h → hit h = true ∧ t < h
  least : ∀ t h, next t = some h → ∀ h', hit h' = true → t < h' → h ≤ h'

theorem isActive_scheduled (cron : Cron) (hit : Int → Bool) (next : Int → Option Int) (b : Budget) (s : String) (now : Int)
    (hs : b.schedule = some s) (hc : cron s = some next) (hn : NextSpec hit next)
    (hmin : ∀ h, hit h = true → h % 60000000000 = 0) :
    isActive cron b now = some (windowActive hit (b.duration.getD 0) now || (next (now - b.duration.getD 0)).isNone) := by
  unfold isActive
  simp only [hs, Option.isNone_some, Bool.false_and, Option.getD_some, hc]
  cases hnx : next (now - b.duration.getD 0) with
  | none => simp
  | some h =>
    -- the least hit after `now - d` lies in `(now - d, now]` iff some hit does
    obtain ⟨hh, hlt⟩ := hn.sound _ _ hnx
    simp only [Option.isNone_some, Bool.or_false, Bool.false_eq_true, if_false, Option.some.injEq]
    rw [Bool.eq_iff_iff, windowActive_iff hit hmin, Bool.not_eq_true', decide_eq_false_iff_not]
    constructor
    · intro hle; exact ⟨h, hh, by omega, by omega⟩
    · rintro ⟨h', hh', h1, h2⟩
      have := hn.least _ _ hnx h' hh' (by omega)
      omega

theorem isDigit_eq (c : Char) : isDigitChar c = isDigit c := rfl

theorem digitsVal_eq (cs : List Char) : digitsVal cs = decimal cs := by
  unfold digitsVal decimal digitVal
  rfl

theorem splitSign_digit (c : Char) (r : List Char) (hc : isDigit c = true) : splitSign (c :: r) = (false, c :: r) := by
  have hm : c ≠ '-' := by intro h; subst h; revert hc; decide
  have hp : c ≠ '+' := by intro h; subst h; revert hc; decide
  unfold splitSign
  split
  · rename_i heq; simp at heq; exact absurd heq.1 hm
  · rename_i heq; simp at heq; exact absurd heq.1 hp
  · rfl

theorem atoi_digits (cs : List Char) (h1 : cs.isEmpty = false) (h2 : cs.all isDigit = true) :
    atoi cs = if (digitsVal cs : Int) ≤ maxInt64 then some (digitsVal cs : Int) else none := by
  cases cs with
  | nil => simp at h1
  | cons c r =>
    have hc : isDigit c = true := by simp [List.all_cons] at h2; exact h2.1
    unfold atoi
    rw [splitSign_digit c r hc]
    have : ¬ ((digitsVal (c :: r) : Int) < minInt64) := by unfold minInt64; omega
    simp [h1, h2, this, ← Int.not_le]

theorem atoi_nondigits (cs : List Char) (h : (cs.isEmpty || !cs.all isDigit) = true)
    (hs : splitSign cs = (false, cs)) : atoi cs = none := by
  unfold atoi
  rw [hs]
  simp only [h, if_true]

theorem wrap32_le (v : Int) (h : 0 ≤ v) : wrap32 v ≤ v := by
  unfold wrap32; omega

theorem wrap32_id (v : Int) (h : -2147483648 ≤ v) (h2 : v ≤ 2147483647) : wrap32 v = v := by
  unfold wrap32; omega

theorem scalePercent_eq (p n : Nat) : scalePercent (p : Int) (n : Int) = (ceilPercent p n : Int) := by
  unfold scalePercent ceilDiv100 ceilPercent
  simp only [Karp.Gen.BudgetFacts.scaledRoundUp, if_true]
  have : ((p : Int) * (n : Int)) = ((p * n : Nat) : Int) := by simp
  rw [this]
  omega

theorem ceilPercent_spec (p n : Nat) :
    p * n ≤ 100 * ceilPercent p n ∧ ∀ k, p * n ≤ 100 * k → ceilPercent p n ≤ k := by
  unfold ceilPercent
  constructor
  · omega
  · intro k hk; omega

theorem scaledValue_digits (cs : List Char) (n : Int) (h1 : cs.isEmpty = false) (h2 : cs.all isDigit = true) :
    scaledValue cs n = if (digitsVal cs : Int) ≤ maxInt64 then some (wrap32 (digitsVal cs)) else none := by
  unfold scaledValue
  rw [atoi_digits cs h1 h2]
  by_cases hle : (digitsVal cs : Int) ≤ maxInt64
  · simp only [hle, if_true]
  · -- the last character is a digit, not '%'
    simp only [hle, if_false]
    cases hl : cs.getLast? with
    | none => rfl
    | some c =>
      have hcd := (List.all_eq_true.mp h2) c (List.mem_of_getLast? hl)
      have : c ≠ '%' := by intro h; subst h; revert hcd; decide
      split
      · rename_i heq; exact absurd (Option.some.inj heq) this
      · rfl

theorem scaledValue_percent (ys : List Char) (n : Int) (h1 : ys.isEmpty = false) (h2 : ys.all isDigit = true) :
    scaledValue (ys ++ ['%']) n =
      if (digitsVal ys : Int) ≤ maxInt64 then some (scalePercent (digitsVal ys) n) else none := by
  -- Atoi rejects the whole string: no sign (the head is a digit), and '%' is not a digit
  have hno : atoi (ys ++ ['%']) = none := by
    cases ys with
    | nil => simp at h1
    | cons y ys' =>
      have hy : isDigit y = true := by simp [List.all_cons] at h2; exact h2.1
      exact atoi_nondigits _ (by simp [isDigit]) (splitSign_digit y _ hy)
  unfold scaledValue
  rw [hno]
  simp only [List.getLast?_append, List.getLast?_singleton, Option.some_or, List.dropLast_concat]
  rw [atoi_digits ys h1 h2]
  by_cases hle : (digitsVal ys : Int) ≤ maxInt64 <;> simp only [hle, if_true, if_false]

theorem nodesSpec_cases (cs : List Char) :
    (cs.isEmpty = false ∧ cs.all isDigit = true ∧ nodesSpec cs = .count (decimal cs)) ∨
    (∃ ys, cs = ys ++ ['%'] ∧ ys.isEmpty = false ∧ ys.all isDigit = true ∧ nodesSpec cs = .percent (decimal ys)) ∨
    nodesSpec cs = .malformed := by
  fun_cases nodesSpec cs
  case case1 hd =>
    simp only [Bool.and_eq_true, Bool.not_eq_true'] at hd
    exact .inl ⟨hd.1, hd.2, rfl⟩
  case case2 hl ds hds =>
    obtain ⟨ys, rfl⟩ := List.getLast?_eq_some_iff.mp hl
    simp only [ds, List.dropLast_concat, Bool.and_eq_true, Bool.not_eq_true'] at hds ⊢
    exact .inr (.inl ⟨ys, rfl, hds.1, hds.2, rfl⟩)
  case case3 | case4 => exact .inr (.inr rfl)

theorem scaledValue_le_limit (b : Budget) (n : Nat) (hadm : nodesSpec b.nodes ≠ .malformed) :
    ∀ v, scaledValue b.nodes n = some v → v ≤ (limit b n : Int) := by
  intro v hv
  unfold limit
  generalize b.nodes = cs at *
  rcases nodesSpec_cases cs with ⟨h1, h2, hs⟩ | ⟨ys, rfl, h1, h2, hs⟩ | hs
  · simp only [hs]
    rw [scaledValue_digits cs n h1 h2] at hv
    split at hv
    · rw [← Option.some.inj hv, ← digitsVal_eq]
      exact wrap32_le _ (by omega)
    · cases hv
  · simp only [hs]
    rw [scaledValue_percent ys n h1 h2] at hv
    split at hv
    · rw [← Option.some.inj hv, scalePercent_eq, digitsVal_eq]
      exact Int.le_refl _
    · cases hv
  · exact absurd hs hadm

structure CronAgrees (cron : Cron) (hitOf : HitOf) : Prop where
  /-- the empty spec string is a parse error -/
  empty : cron "" = none
  /-- same strings are schedules -/
  parse : ∀ s, (cron s).isNone = (hitOf s).isNone
  /-- `Next` returns the least activation strictly after its argument (or the zero time) -/
  next : ∀ s nx hit, cron s = some nx → hitOf s = some hit → NextSpec hit nx
  /-- activations are whole minutes -/
  minute : ∀ s hit, hitOf s = some hit → ∀ h, hit h = true → h % 60000000000 = 0

theorem isActive_unparsed {cron : Cron} {b : Budget} {s : String} (now : Int) (hs : b.schedule = some s)
    (hbad : cron s = none) : isActive cron b now = none := by
  unfold isActive
  simp [hs, hbad]

theorem isActive_of_active {cron : Cron} {hitOf : HitOf} (hc : CronAgrees cron hitOf) {b : Budget} {now : Int}
    (hact : active hitOf b now = true) : isActive cron b now = none ∨ isActive cron b now = some true := by
  unfold active at hact
  cases hs : b.schedule with
  | none =>
    -- a duration without a schedule: the empty spec string does not parse
    unfold isActive
    cases hd : b.duration <;> simp [hs, hc.empty]
  | some s =>
    simp only [hs] at hact
    cases hh : hitOf s with
    | none => simp [hh] at hact
    | some hit =>
      simp only [hh] at hact
      cases hcs : cron s with
      | none => exact .inl (isActive_unparsed now hs hcs)
      | some nx =>
        right
        rw [isActive_scheduled cron hit nx b s now hs hcs (hc.next s nx hit hcs hh) (hc.minute s hit hh), hact]
        rfl

theorem budgetAllowed_le (cron : Cron) (hitOf : HitOf) (hc : CronAgrees cron hitOf) (b : Budget) (now : Int) (n : Nat)
    (hadm : nodesSpec b.nodes ≠ .malformed) (hact : active hitOf b now = true) :
    (budgetAllowed cron b now n).2 = true ∨ (budgetAllowed cron b now n).1 ≤ (limit b n : Int) := by
  unfold budgetAllowed
  rcases isActive_of_active hc hact with h | h
  · simp [h]
  · simp only [h]
    cases hv : scaledValue b.nodes n with
    | none => exact .inl rfl
    | some v => exact .inr (scaledValue_le_limit b n hadm v hv)

theorem budgetAllowed_err_of_malformed (cron : Cron) (hitOf : HitOf) (hc : CronAgrees cron hitOf) (b : Budget)
    (now : Int) (total : Int) (hadm : nodesSpec b.nodes ≠ .malformed) (hm : malformed hitOf b = true) :
    (budgetAllowed cron b now total).2 = true := by
  unfold malformed at hm
  cases hs : b.schedule with
  | none => simp [hs, hadm] at hm
  | some s =>
    have hh : hitOf s = none := by simpa [hs, hadm] using hm
    have : cron s = none := by simpa [hh] using hc.parse s
    unfold budgetAllowed
    rw [isActive_unparsed now hs this]

theorem foldl_byReason (cron : Cron) (now : Int) (total : Int) (reason : String) (bs : List Budget) :
    ∀ acc : Int × Bool,
      let r := bs.foldl (byReasonStep cron now total reason) acc
      r.1 ≤ acc.1 ∧
      (∀ b ∈ bs, appliesTo b reason = true → r.1 ≤ (budgetAllowed cron b now total).1) ∧
      (r.2 = (acc.2 || bs.any (fun b => (budgetAllowed cron b now total).2))) := by
  induction bs with
  | nil => intro acc; simp
  | cons b bs ih =>
    intro acc
    obtain ⟨h1, h2, h3⟩ := ih (byReasonStep cron now total reason acc b)
    have hstep : (byReasonStep cron now total reason acc b).1 ≤ acc.1 ∧
        (appliesTo b reason = true → (byReasonStep cron now total reason acc b).1 ≤ (budgetAllowed cron b now total).1) := by
      unfold byReasonStep
      split <;> simp [*, Int.min_le_left, Int.min_le_right]
    refine ⟨Int.le_trans h1 hstep.1, fun b' hb' happ => ?_, h3.trans (by simp [byReasonStep, Bool.or_assoc])⟩
    rcases List.mem_cons.mp hb' with rfl | hb'
    · exact Int.le_trans h1 (hstep.2 happ)
    · exact h2 b' hb' happ

theorem mustAllowed_of_err (cron : Cron) (bs : List Budget) (now : Int) (total : Int) (reason : String)
    (b : Budget) (hb : b ∈ bs) (herr : (budgetAllowed cron b now total).2 = true) :
    mustAllowed cron bs now total reason = 0 := by
  obtain ⟨_, _, h3⟩ := foldl_byReason cron now total reason bs (Karp.Gen.BudgetFacts.initialAllowed, false)
  have hany : bs.any (fun b => (budgetAllowed cron b now total).2) = true := List.any_eq_true.mpr ⟨b, hb, herr⟩
  unfold mustAllowed allowedByReason
  simp only [h3, hany, Bool.or_true, if_true]
  rfl

theorem mustAllowed_le (cron : Cron) (bs : List Budget) (now : Int) (total : Int) (reason : String)
    (hok : ∀ b ∈ bs, (budgetAllowed cron b now total).2 = false) (b : Budget) (hb : b ∈ bs)
    (happ : appliesTo b reason = true) : mustAllowed cron bs now total reason ≤ (budgetAllowed cron b now total).1 := by
  obtain ⟨_, h2, h3⟩ := foldl_byReason cron now total reason bs (Karp.Gen.BudgetFacts.initialAllowed, false)
  have hany : bs.any (fun b => (budgetAllowed cron b now total).2) = false :=
    List.any_eq_false.mpr fun b hb => by simp [hok b hb]
  unfold mustAllowed allowedByReason
  simp only [h3, hany, Bool.or_false, Bool.false_eq_true, if_false]
  exact h2 b hb happ

theorem le_minLimit (x : Int) (l : List Nat) (h : ∀ v ∈ l, x ≤ (v : Int)) : leAllowed x (minLimit l) = true := by
  induction l with
  | nil => simp [minLimit, leAllowed]
  | cons a l ih =>
    have ih' := ih (fun v hv => h v (List.mem_cons_of_mem _ hv))
    have ha := h a (List.mem_cons_self)
    unfold minLimit
    cases hm : minLimit l with
    | none => simp [leAllowed, ha]
    | some y =>
      rw [hm] at ih'
      simp only [leAllowed, decide_eq_true_eq] at ih' ⊢
      omega

theorem leAllowed_mono (x y : Int) (s : Option Nat) (h : x ≤ y) (hy : leAllowed y s = true) : leAllowed x s = true := by
  cases s with
  | none => rfl
  | some v => simp only [leAllowed, decide_eq_true_eq] at hy ⊢; omega

theorem applies_eq (b : Budget) (reason : String)
    (h : Karp.Gen.BudgetFacts.emptyReasonsApply = true ∨ b.reasons ≠ some []) : applies b reason = appliesTo b reason := by
  unfold applies appliesTo
  cases hr : b.reasons with
  | none => rfl
  | some rs =>
    cases rs with
    | nil =>
      rcases h with h | h
      · simp [h]
      · exact absurd hr h
    | cons a l => simp

theorem countPool_cons (p : String) (c : Cand) (l : List Cand) :
    countPool p (c :: l) = (if c.pool == p then 1 else 0) + countPool p l := by
  unfold countPool
  by_cases h : (c.pool == p) = true
  · simp [h]; omega
  · simp [h]

theorem countPool_nil (p : String) : countPool p [] = 0 := rfl

theorem countPool_append (p : String) (a b : List Cand) : countPool p (a ++ b) = countPool p a + countPool p b := by
  unfold countPool; simp [List.filter_append]

theorem dec_self (m : Mapping) (p : String) : (m.dec p) p = m p - 1 := by simp [Mapping.dec]
theorem dec_other (m : Mapping) (p q : String) (h : q ≠ p) : (m.dec p) q = m q := by simp [Mapping.dec, h]

theorem dec_add (m : Mapping) (q p : String) (hz : m q ≠ 0) :
    (m.dec q) p + (if q == p then 1 else 0) = m p := by
  by_cases h : p = q
  · subst h; rw [dec_self]; simp; omega
  · rw [dec_other m q p h]
    simpa using fun h' : q = p => h h'.symm

theorem budgetFilter_count (keep : Cand → Bool) (cs : List Cand) (m : Mapping) (p : String) :
    countPool p (budgetFilter keep m cs).1 + (budgetFilter keep m cs).2 p = m p := by
  fun_induction budgetFilter keep m cs with
  | case1 => exact Nat.zero_add _
  | case2 _ _ _ _ ih | case3 _ _ _ _ _ ih => exact ih
  | case4 m c cs _ hz r ih =>
    have ih : countPool p r.1 + r.2 p = (m.dec c.pool) p := ih
    have := dec_add m c.pool p hz
    simp only [countPool_cons]
    omega

theorem budgetFilter_count_le (keep : Cand → Bool) (cs : List Cand) (m : Mapping) (p : String) :
    countPool p (budgetFilter keep m cs).1 ≤ m p := by
  have := budgetFilter_count keep cs m p; omega

theorem budgetFilter_exact (keep : Cand → Bool) (cs : List Cand) (m : Mapping) (p : String) :
    countPool p (budgetFilter keep m cs).1 = min (m p) (countPool p (cs.filter keep)) := by
  fun_induction budgetFilter keep m cs with
  | case1 => simp [countPool_nil]
  | case2 m c cs hk ih => rw [ih, List.filter_cons_of_neg (by simpa using hk)]
  | case3 m c cs hk hz ih =>
    -- the pool of `c` has nothing left: counting `c` in does not raise the minimum
    rw [ih, List.filter_cons_of_pos (by simpa using hk), countPool_cons]
    by_cases hp : c.pool = p
    · subst hp; simp [hz]
    · simp [hp]
  | case4 m c cs hk hz r ih =>
    have ih : countPool p r.1 = min ((m.dec c.pool) p) (countPool p (cs.filter keep)) := ih
    have := dec_add m c.pool p hz
    rw [List.filter_cons_of_pos (by simpa using hk)]
    simp only [countPool_cons, ih]
    omega

theorem budgetFilter_sub (keep : Cand → Bool) (cs : List Cand) (m : Mapping) :
    ∀ c ∈ (budgetFilter keep m cs).1, c ∈ cs ∧ keep c = true ∧ m c.pool ≠ 0 := by
  fun_induction budgetFilter keep m cs with
  | case1 => intro c hc; cases hc
  | case2 _ _ _ _ ih | case3 _ _ _ _ _ ih => exact fun c hc => (ih c hc).imp_left (List.mem_cons_of_mem _)
  | case4 m a cs hk hz r ih =>
    intro c hc
    rcases List.mem_cons.mp hc with rfl | hc
    · exact ⟨List.mem_cons_self, by simpa using hk, hz⟩
    · obtain ⟨h1, h2, h3⟩ := ih c hc
      exact ⟨List.mem_cons_of_mem _ h1, h2, fun h0 => h3 (by unfold Mapping.dec; split <;> omega)⟩

theorem countPool_take_le (p : String) (l : List Cand) (k : Nat) : countPool p (l.take k) ≤ countPool p l := by
  unfold countPool
  exact ((List.take_sublist k l).filter _).length_le

theorem countPool_group (q g : String) (cands : List Cand) (k : Nat) :
    countPool q ((cands.filter (fun c => c.pool == g)).take k) ≤ (if g = q then k else 0) := by
  unfold countPool
  split
  · exact Nat.le_trans (List.length_filter_le _ _) (List.length_take_le _ _)
  · rename_i h
    rw [Nat.le_zero, List.length_eq_zero_iff, List.filter_eq_nil_iff]
    intro c hc
    have := (List.mem_filter.mp (List.mem_of_mem_take hc)).2
    simp only [beq_iff_eq] at this ⊢
    exact this ▸ h

theorem selectFirst_some (ok : Cand → Bool) (m : Mapping) (cs : List Cand) (c : Cand)
    (h : selectFirst ok m cs = some c) : c ∈ cs ∧ m c.pool ≠ 0 ∧ ok c = true := by
  fun_induction selectFirst ok m cs with
  | case1 => cases h
  | case2 _ _ _ ih | case4 _ _ _ _ ih => exact (ih h).imp_left (List.mem_cons_of_mem _)
  | case3 a cs hz hok => cases h; exact ⟨List.mem_cons_self, hz, hok⟩

theorem countPool_single_le (m : Mapping) (c : Cand) (h : m c.pool ≠ 0) (p : String) : countPool p [c] ≤ m p := by
  have := dec_add m c.pool p h
  rw [countPool_cons, countPool_nil]
  omega

theorem reserveGrant_le (remaining : Int) (wanted : Nat) : reserveGrant remaining wanted ≤ wanted := by
  fun_cases reserveGrant remaining wanted <;> omega

theorem staticCount_le (mp ncands : Nat) (over : Bool) (remaining : Int) :
    staticCount mp ncands over remaining ≤ mp ∧ staticCount mp ncands over remaining ≤ ncands := by
  have := reserveGrant_le remaining (min mp ncands)
  fun_cases staticCount mp ncands over remaining <;> omega

theorem allWithin_count (nominated : Cand → Bool) (cs : List Cand) (m : Mapping)
    (h : allWithin nominated m cs = true) (p : String) : countPool p cs ≤ m p := by
  fun_induction allWithin nominated m cs with
  | case1 => exact Nat.zero_le _
  | case2 m c cs ih =>
    simp only [Bool.and_eq_true, Bool.not_eq_true', bne_iff_ne, ne_eq] at h
    have := ih h.2
    have := dec_add m c.pool p h.1.2
    rw [countPool_cons]
    omega

theorem counted_eq (pool : String) (n : Node) : counted pool n = isPoolNode pool n := by
  unfold counted isPoolNode
  cases n.managed <;> cases n.initialized <;> cases n.terminating <;> cases (n.pool == pool) <;> rfl

theorem numNodes_eq (nodes : List Node) (pool : String) : numNodes nodes pool = poolSize nodes pool := by
  unfold numNodes poolSize
  congr 1
  apply List.filter_congr
  intro n _
  exact counted_eq pool n

theorem disrupting_eq (nodes : List Node) (pool : String) : disrupting nodes pool = alreadyDisrupting nodes pool := by
  unfold disrupting alreadyDisrupting
  congr 1
  apply List.filter_congr
  intro n _
  unfold disruptingNode
  rw [counted_eq]

/-- well-formedness of a pool list: unique names, admissible `nodes` values, and — unless the source has the repaired
    guard — no empty non-nil reason list (known finding `C05-empty-reasons`) -/
structure GoodPools (ps : List Pool) : Prop where
  nodup : (ps.map (·.name)).Nodup
  adm : ∀ p ∈ ps, ∀ b ∈ p.budgets, nodesSpec b.nodes ≠ .malformed
  reasons : Karp.Gen.BudgetFacts.emptyReasonsApply = true ∨ ∀ p ∈ ps, ∀ b ∈ p.budgets, b.reasons ≠ some []

theorem lookup_buildMapping (f : Pool → Nat) (ps : List Pool) (h : (ps.map (·.name)).Nodup) (p : Pool) (hp : p ∈ ps) :
    ((ps.map (fun q => (q.name, f q))).lookup p.name).getD 0 = f p := by
  induction ps with
  | nil => simp at hp
  | cons q ps ih =>
    simp only [List.map_cons, List.nodup_cons] at h
    rcases List.mem_cons.mp hp with rfl | hp'
    · simp
    · have hne : (p.name == q.name) = false := by
        simpa using fun heq : p.name = q.name => h.1 (heq ▸ List.mem_map.mpr ⟨p, hp', rfl⟩)
      simp only [List.map_cons, List.lookup, hne]
      exact ih h.2 hp'

theorem world_mapping_eq (cron : Cron) (w : World) (reason : String) (h : (w.pools.map (·.name)).Nodup)
    (p : Pool) (hp : p ∈ w.pools) :
    w.mapping cron reason p.name = poolRemaining cron p w.nodes w.now reason := by
  unfold World.mapping Mapping.ofList buildMapping
  exact lookup_buildMapping (fun q => poolRemaining cron q w.nodes w.now reason) w.pools h p hp

theorem selectStatic_count (m : Mapping) (over : String → Bool) (remaining : String → Int) (cands : List Cand) (q : String) :
    ∀ (groups : List String), groups.Nodup →
      countPool q (selectStatic m over remaining groups cands) ≤ (if q ∈ groups then m q else 0) := by
  intro groups
  induction groups with
  | nil => intro _; simp [selectStatic, countPool]
  | cons g gs ih =>
    intro hnd
    simp only [List.nodup_cons] at hnd
    have ih' := ih hnd.2
    unfold selectStatic at ih' ⊢
    rw [List.flatMap_cons, countPool_append]
    have h1 := countPool_group q g cands (staticCount (m g) (countPool g cands) (over g) (remaining g))
    have h2 := (staticCount_le (m g) (countPool g cands) (over g) (remaining g)).1
    by_cases hg : g = q
    · subst hg
      simp only [hnd.1, if_false, if_true, Nat.le_zero, List.mem_cons, true_or] at ih' h1 ⊢
      omega
    · have hq : ¬q = g := fun h => hg h.symm
      simp only [hg, hq, if_false, Nat.le_zero, List.mem_cons, false_or] at h1 ⊢
      omega

theorem validateEmptiness_some {m' : Mapping} {nominated : Cand → Bool} {cur v : List Cand}
    (h : validateEmptiness m' nominated cur = some v) : v = (budgetFilter (fun c => !nominated c) m' cur).1 := by
  unfold validateEmptiness at h
  split at h
  · cases h
  · simp only at h
    split at h <;> cases h
    rfl

/-- the outcomes of a round: nothing reaches the queue; what the emptiness validator let through; the re-listed
    candidates of a consolidation command its validator accepted; drift's one candidate; static drift's selection -/
theorem runRound_cases (cron : Cron) (w : World) (e : RoundEnv) :
    ((runRound cron w e).1 = [] ∧ ((runRound cron w e).2 = w ∨ (runRound cron w e).2 = e.later)) ∨
    (∃ v, validateEmptiness (e.later.mapping cron e.method.reason) e.nominated e.cur = some v ∧
        runRound cron w e = (v, e.later)) ∨
    (∃ cmd, validateConsolidation (e.later.mapping cron e.method.reason) e.nominated cmd e.cur = true ∧
        runRound cron w e = (e.cur, e.later)) ∨
    (∃ c, selectDrift e.ok (w.mapping cron e.method.reason) e.cands = some c ∧ runRound cron w e = ([c], w)) ∨
    runRound cron w e = (selectStatic (w.mapping cron e.method.reason) e.over e.remaining e.groups e.cands, w) := by
  fun_cases runRound cron w e
  -- emptiness (cases 1–3), multi (4–6), single (7–9): the method selected nothing …
  case case1 | case4 | case7 => exact .inl ⟨rfl, .inl rfl⟩
  -- … or its validator refused …
  case case2 | case6 | case9 => exact .inl ⟨rfl, .inr rfl⟩
  -- … or accepted
  case case3 => exact .inr (.inl ⟨_, ‹_›, rfl⟩)
  case case5 | case8 => exact .inr (.inr (.inl ⟨_, ‹_›, rfl⟩))
  -- drift, static drift
  case case10 =>
    cases hs : selectDrift e.ok (w.mapping cron e.method.reason) e.cands with
    | none => exact .inl ⟨rfl, .inl rfl⟩
    | some c => exact .inr (.inr (.inr (.inl ⟨c, rfl, rfl⟩)))
  case case11 => exact .inr (.inr (.inr (.inr rfl)))

theorem runRound_world (cron : Cron) (w : World) (e : RoundEnv) :
    (runRound cron w e).2 = w ∨ (runRound cron w e).2 = e.later := by
  rcases runRound_cases cron w e with ⟨_, h⟩ | ⟨_, _, h⟩ | ⟨_, _, h⟩ | ⟨_, _, h⟩ | h
  · exact h
  all_goals rw [h]
  · exact .inr rfl
  · exact .inr rfl
  · exact .inl rfl
  · exact .inl rfl

theorem runRound_world_of_later (cron : Cron) (w : World) (e : RoundEnv) (hlater : e.later = w) :
    (runRound cron w e).2 = w :=
  (runRound_world cron w e).elim id (· ▸ hlater)

theorem runRound_good (cron : Cron) (w : World) (e : RoundEnv) (hw : GoodPools w.pools)
    (he : GoodPools e.later.pools) : GoodPools (runRound cron w e).2.pools := by
  rcases runRound_world cron w e with h | h <;> rw [h] <;> assumption

theorem runRound_sub (cron : Cron) (w : World) (e : RoundEnv) :
    ∀ c ∈ (runRound cron w e).1, c ∈ e.cands ∨ c ∈ e.cur := by
  intro c hc
  rcases runRound_cases cron w e with ⟨h, _⟩ | ⟨v, hv, h⟩ | ⟨cmd, hv, h⟩ | ⟨d, hs, h⟩ | h <;> rw [h] at hc
  · cases hc
  · rw [validateEmptiness_some hv] at hc
    exact .inr (budgetFilter_sub _ _ _ c hc).1
  · exact .inr hc
  · cases List.mem_singleton.mp hc
    have := (selectFirst_some _ _ _ _ hs).1
    unfold driftOrder at this
    rcases List.mem_append.mp this with h | h <;> exact .inl (List.mem_filter.mp h).1
  · unfold selectStatic at hc
    obtain ⟨g, _, hg⟩ := List.mem_flatMap.mp hc
    exact .inl (List.mem_filter.mp (List.mem_of_mem_take hg)).1

/-- the candidates stand for nodes of the world: same name ⇒ same pool -/
def CandsOfNodes (nodes : List Node) (cs : List Cand) : Prop :=
  ∀ c ∈ cs, ∀ n ∈ nodes, n.name = c.name → n.pool = c.pool

theorem filter_length_le_add {α : Type} (P Q R : α → Bool) (l : List α)
    (h : ∀ x ∈ l, P x = true → Q x = true ∨ R x = true) :
    (l.filter P).length ≤ (l.filter Q).length + (l.filter R).length := by
  simp only [← List.countP_eq_length_filter]
  induction l with
  | nil => exact Nat.zero_le _
  | cons x xs ih =>
    have ih' := ih (fun y hy => h y (List.mem_cons_of_mem _ hy))
    have hx := h x List.mem_cons_self
    simp only [List.countP_cons]
    cases hP : P x with
    | false => simp only [Bool.false_eq_true, if_false]; omega
    | true => rcases hx hP with h' | h' <;> simp only [h', if_true] <;> omega

theorem filter_length_mono {α : Type} (P Q : α → Bool) (l : List α) (h : ∀ x ∈ l, P x = true → Q x = true) :
    (l.filter P).length ≤ (l.filter Q).length := by
  simp only [← List.countP_eq_length_filter]
  exact List.countP_mono_left h

/-- the same nodes with (possibly) more of them marked: what `MarkForDeletion` does to the node list, and how the
    cluster state's and an observer's views of a track list differ -/
def raiseMarks (extra : Node → Bool) (nodes : List Node) : List Node :=
  nodes.map (fun n => { n with marked := n.marked || extra n })

theorem markNodes_raise (names : List String) (nodes : List Node) :
    markNodes names nodes = raiseMarks (fun n => names.contains n.name) nodes := by
  unfold markNodes raiseMarks
  apply List.map_congr_left
  intro n _
  show _ = { n with marked := n.marked || names.contains n.name }
  cases names.contains n.name <;> simp

theorem raiseMarks_names (extra : Node → Bool) (nodes : List Node) :
    (raiseMarks extra nodes).map (·.name) = nodes.map (·.name) := by
  unfold raiseMarks
  rw [List.map_map]
  rfl

theorem raiseMarks_poolSize (extra : Node → Bool) (nodes : List Node) (p : String) :
    poolSize (raiseMarks extra nodes) p = poolSize nodes p := by
  unfold poolSize raiseMarks
  rw [List.filter_map, List.length_map]
  congr 1

theorem markNodes_poolSize (names : List String) (nodes : List Node) (p : String) :
    poolSize (markNodes names nodes) p = poolSize nodes p := by
  rw [markNodes_raise, raiseMarks_poolSize]

theorem raiseMarks_disrupting (extra : Node → Bool) (nodes : List Node) (p : String) :
    alreadyDisrupting nodes p ≤ alreadyDisrupting (raiseMarks extra nodes) p := by
  unfold alreadyDisrupting raiseMarks
  rw [List.filter_map, List.length_map]
  apply filter_length_mono
  intro n _ h
  simp only [Function.comp, isPoolNode, Bool.and_eq_true, Bool.or_eq_true] at h ⊢
  exact ⟨h.1, h.2.imp_right .inl⟩

theorem raiseMarks_disrupting_le (extra : Node → Bool) (nodes : List Node) (p : String) :
    alreadyDisrupting (raiseMarks extra nodes) p ≤
      alreadyDisrupting nodes p + (nodes.filter (fun n => extra n && n.pool == p)).length := by
  unfold alreadyDisrupting raiseMarks
  rw [List.filter_map, List.length_map]
  refine filter_length_le_add _ _ _ _ (fun n _ h => ?_)
  simp only [Function.comp, isPoolNode, Bool.and_eq_true, Bool.or_eq_true] at h ⊢
  rcases h.2 with h2 | h2 | h2
  · exact .inl ⟨h.1, .inl h2⟩
  · exact .inl ⟨h.1, .inr h2⟩
  · exact .inr ⟨h2, h.1.1.1.1⟩

def namedIn (names : List String) (p : String) (nodes : List Node) : Nat :=
  (nodes.filter (fun n => names.contains n.name && n.pool == p)).length

theorem filter_name_le_one (s : String) (nodes : List Node) (hnd : (nodes.map (·.name)).Nodup) :
    (nodes.filter (fun n => n.name == s)).length ≤ 1 := by
  have := List.nodup_iff_count.mp hnd s
  rwa [List.count_eq_countP, List.countP_map, List.countP_eq_length_filter] at this

theorem namedIn_le_countPool (p : String) (nodes : List Node) (hnd : (nodes.map (·.name)).Nodup) :
    ∀ (A : List Cand), CandsOfNodes nodes A → namedIn (A.map (·.name)) p nodes ≤ countPool p A := by
  intro A
  induction A with
  | nil => intro _; simp [namedIn, countPool]
  | cons c A ih =>
    intro hc
    have ih' := ih (fun c' h => hc c' (List.mem_cons_of_mem _ h))
    -- the nodes named in `c :: A` are those named `c.name` and those named in `A`
    have hsplit : namedIn ((c :: A).map (·.name)) p nodes ≤
        (nodes.filter (fun n => n.name == c.name && n.pool == p)).length + namedIn (A.map (·.name)) p nodes := by
      refine filter_length_le_add _ _ _ nodes (fun n _ h => ?_)
      simp only [List.map_cons, List.contains_cons, Bool.and_eq_true, Bool.or_eq_true] at h ⊢
      exact h.1.imp (⟨·, h.2⟩) (⟨·, h.2⟩)
    -- at most one node is named `c.name`, and it is of `c`'s pool
    have hfirst : (nodes.filter (fun n => n.name == c.name && n.pool == p)).length ≤ (if c.pool == p then 1 else 0) := by
      split
      · refine Nat.le_trans (filter_length_mono _ _ _ (fun n _ h => ?_)) (filter_name_le_one c.name nodes hnd)
        exact (Bool.and_eq_true _ _ ▸ h).1
      · rename_i hp
        rw [Nat.le_zero, List.length_eq_zero_iff, List.filter_eq_nil_iff]
        intro n hn h
        simp only [Bool.and_eq_true, beq_iff_eq] at h
        exact hp (by rw [← hc c List.mem_cons_self n hn h.1, h.2]; simp)
    rw [countPool_cons]
    omega

theorem disrupting_after_accept (nodes : List Node) (hnd : (nodes.map (·.name)).Nodup) (A : List Cand)
    (hc : CandsOfNodes nodes A) (p : String) :
    alreadyDisrupting (markNodes (A.map (·.name)) nodes) p ≤ alreadyDisrupting nodes p + countPool p A := by
  rw [markNodes_raise]
  exact Nat.le_trans (raiseMarks_disrupting_le _ nodes p) (Nat.add_le_add_left (namedIn_le_countPool p nodes hnd A hc) _)

theorem accepted_counted (names : List String) (nodes : List Node) (p : String) :
    ∀ n ∈ markNodes names nodes, names.contains n.name = true → isPoolNode p n = true →
      (isPoolNode p n && (!n.ready || n.marked)) = true := by
  intro n hn hname hp
  obtain ⟨m, _, rfl⟩ := List.mem_map.mp hn
  have hm : names.contains m.name = true := by split at hname <;> exact hname
  simp only [hm, if_true] at hp ⊢
  simp [hp]

theorem Track.fresh_inv (name : String) : (Track.fresh name).inv = true := rfl

theorem inv_start (t : Track) (hinv : t.inv = true) (hpre : (!t.stateMarked && !t.inFlight) = true) :
    ({ t with mark := true, inFlight := true } : Track).inv = true := by
  rcases t with ⟨n, m, s, a, i⟩
  simp only [Track.inv, Track.stateMarked] at hinv hpre ⊢
  cases m <;> cases s <;> simp_all

theorem inv_finish (t : Track) (ok : Bool) (hinv : t.inv = true) (hpre : t.inFlight = true) :
    ({ t with api := t.api || ok, mark := t.mark && !completeUnmarks false ok, inFlight := false } : Track).inv = true := by
  rcases t with ⟨n, m, s, a, i⟩
  cases hpre
  -- in flight, so marked and not yet deleting in the API server
  simp only [Track.inv, completeUnmarks] at hinv ⊢
  cases m <;> cases a <;> simp_all

theorem inv_sync (t : Track) (hinv : t.inv = true) : ({ t with seen := t.api } : Track).inv = true := by
  rcases t with ⟨n, m, s, a, i⟩
  simp only [Track.inv] at hinv ⊢
  cases a <;> simp_all

theorem onNames_all {P : Track → Prop} (names : List String) (f : Track → Track) (ts : List Track)
    (h : ∀ t ∈ ts, P t) (hf : ∀ t ∈ ts, names.contains t.name = true → P (f t)) :
    ∀ t ∈ onNames names f ts, P t := by
  intro t ht
  obtain ⟨t0, h0, rfl⟩ := List.mem_map.mp ht
  split
  · exact hf t0 h0 ‹_›
  · exact h t0 h0

theorem qstep_inv (ts : List Track) (s : QStep) (hinv : ∀ t ∈ ts, t.inv = true) (hpre : s.pre ts = true) :
    ∀ t ∈ qstep false ts s, t.inv = true := by
  cases s with
  | start names =>
    simp only [QStep.pre, List.all_eq_true] at hpre
    exact onNames_all names _ ts hinv fun t h hc => inv_start t (hinv t h) (by simpa only [hc, Bool.not_true, Bool.false_or] using hpre t h)
  | finish names ok =>
    simp only [QStep.pre, List.all_eq_true] at hpre
    exact onNames_all names _ ts hinv fun t h hc => inv_finish t ok (hinv t h) (by simpa only [hc, Bool.not_true, Bool.false_or] using hpre t h)
  | sync names => exact onNames_all names _ ts hinv fun t h _ => inv_sync t (hinv t h)
  | appear name =>
    intro t ht
    simp only [qstep] at ht
    split at ht
    · exact hinv t ht
    · rcases List.mem_append.mp ht with h | h
      · exact hinv t h
      · cases List.mem_singleton.mp h
        exact Track.fresh_inv name

theorem qrun_inv (steps : List QStep) :
    ∀ ts : List Track, (∀ t ∈ ts, t.inv = true) → qrunOK false ts steps = true → ∀ t ∈ qrun false ts steps, t.inv = true := by
  induction steps with
  | nil => intro ts h _ t ht; exact h t ht
  | cons s ss ih =>
    intro ts h hok t ht
    simp only [qrunOK, Bool.and_eq_true] at hok
    exact ih (qstep false ts s) (qstep_inv ts s h hok.1) hok.2 t ht

theorem inv_counted (t : Track) (h : t.inv = true) (hb : t.beingDeleted = true) : t.stateMarked = true := by
  rcases t with ⟨n, m, s, a, i⟩
  simp only [Track.inv, Track.beingDeleted, Track.stateMarked] at h hb ⊢
  cases i <;> cases a <;> simp_all

theorem withTrack_view (ts : List Track) (hinv : ∀ t ∈ ts, t.inv = true) (nodes : List Node) :
    nodes.map (Node.withTrack Track.stateMarked ts) =
      raiseMarks (fun n => ts.any (fun t => t.name == n.name && t.stateMarked)) (nodes.map (Node.withTrack Track.beingDeleted ts)) := by
  unfold raiseMarks
  rw [List.map_map]
  apply List.map_congr_left
  intro n _
  simp only [Function.comp, Node.withTrack]
  -- what the observer calls being deleted the cluster state has marked: the observer's marks add nothing
  cases hb : ts.any (fun t => t.name == n.name && t.beingDeleted) with
  | false => simp
  | true =>
    obtain ⟨t, ht, hb⟩ := List.any_eq_true.mp hb
    simp only [Bool.and_eq_true] at hb
    have : ts.any (fun t => t.name == n.name && t.stateMarked) = true :=
      List.any_eq_true.mpr ⟨t, ht, by rw [hb.1, inv_counted t (hinv t ht) hb.2]; rfl⟩
    simp [this]
end Karp.Budget
