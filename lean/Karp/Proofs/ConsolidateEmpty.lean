/-
Lemmas about Emptiness (C06): `IsEmpty` (the eviction-cost sum, the clamp that keeps the sign) and the validation of an
Emptiness command (`mapCandidates`, the budget / nomination filter, `emptinessValidate`) of `Karp/Model/Consolidate.lean`.
Core Lean only.
-/
import Karp.Model.Consolidate
import Karp.Proofs.ListLemmas

namespace Karp.Consolidate

theorem podCostSum_nonneg (pods : List PodCost) : 0 ≤ podCostSum pods := by
  induction pods with
  | nil => exact Int.le_refl 0
  | cons p ps ih =>
    simp only [podCostSum, List.map_cons, List.sum_cons] at ih ⊢
    exact Int.add_nonneg (Int.le_max_left _ _) ih

theorem podCostSum_le_zero (pods : List PodCost) : podCostSum pods ≤ 0 ↔ ∀ p ∈ pods, evictionCostScaled p ≤ 0 := by
  induction pods with
  | nil => simp [podCostSum]
  | cons p ps ih =>
    have hn := podCostSum_nonneg ps
    simp only [podCostSum, List.map_cons, List.sum_cons, List.mem_cons, forall_eq_or_imp] at ih hn ⊢
    rw [← ih]
    omega

theorem clamp_pos (lo hi x : Int) (hlo : lo ≤ 0) (hhi : 0 < hi) :
    0 < (if x < lo then lo else if x > hi then hi else x) ↔ 0 < x := by
  omega

theorem evictionCost_pos_iff (p : PodCost) :
    0 < evictionCostScaled p ↔ 0 < (2 : Int) ^ 27 + p.delCost.getD 0 + 4 * p.prio.getD 0 := by
  unfold evictionCostScaled
  rw [clamp_pos _ _ _ (by decide) (by decide)]
  have hs : costScale = 27 := rfl
  simp only [hs, Karp.Gen.C06Facts.evictionBase, Karp.Gen.C06Facts.evictionDelExp, Karp.Gen.C06Facts.evictionPrioExp,
    Nat.sub_self, Int.pow_zero, Int.mul_one, Int.one_mul, show (2 : Int) ^ (27 - 25) = 4 from rfl]
  rw [Int.mul_comm]

theorem mapCandidates_mem {proposed current : List String} {n : String} :
    n ∈ mapCandidates proposed current ↔ n ∈ current ∧ n ∈ proposed := by
  unfold mapCandidates
  simp [List.mem_filter]

variable {poolOf : String → String} {nominated : String → Bool}

section
variable {b : List (String × Nat)} {x : String} {xs : List String}

theorem budgetFilter_cons_nominated (h : nominated x = true) :
    budgetFilter poolOf nominated b (x :: xs) = budgetFilter poolOf nominated b xs := by
  simp [budgetFilter, h]

theorem budgetFilter_cons_zero (h : nominated x = false) (h0 : (b.lookup (poolOf x)).getD 0 = 0) :
    budgetFilter poolOf nominated b (x :: xs) = budgetFilter poolOf nominated b xs := by
  simp [budgetFilter, h, h0]

theorem budgetFilter_cons_succ {k : Nat} (h : nominated x = false) (hk : (b.lookup (poolOf x)).getD 0 = k + 1) :
    budgetFilter poolOf nominated b (x :: xs) = x :: budgetFilter poolOf nominated ((poolOf x, k) :: b) xs := by
  simp [budgetFilter, h, hk]

end

theorem budgetFilter_mem (l : List String) (b : List (String × Nat)) (n : String) :
    n ∈ budgetFilter poolOf nominated b l → n ∈ l ∧ nominated n = false := by
  fun_induction budgetFilter poolOf nominated b l with
  | case1 b => exact fun h => nomatch h
  | case2 b x xs hx ih => exact fun h => ⟨List.mem_cons_of_mem _ (ih h).1, (ih h).2⟩
  | case3 b x xs hx hk ih => exact fun h => ⟨List.mem_cons_of_mem _ (ih h).1, (ih h).2⟩
  | case4 b x xs hx k hk ih =>
    intro h
    rcases List.mem_cons.mp h with rfl | h'
    · exact ⟨List.mem_cons_self, Bool.eq_false_iff.mpr hx⟩
    · exact ⟨List.mem_cons_of_mem _ (ih h').1, (ih h').2⟩

/-- a kept candidate uses up one disruption of its own pool -/
theorem budget_step {b : List (String × Nat)} {q : String} {k : Nat} (hk : (b.lookup q).getD 0 = k + 1) (p : String) :
    (((q, k) :: b).lookup p).getD 0 + (if (q == p) = true then 1 else 0) = (b.lookup p).getD 0 := by
  rw [lookup_cons_ite]
  by_cases hp : p = q
  · rw [if_pos hp, if_pos (beq_iff_eq.mpr hp.symm), hp, hk, Option.getD_some]
  · rw [if_neg hp, if_neg (fun h => hp (beq_iff_eq.mp h).symm), Nat.add_zero]

theorem budgetFilter_budget (l : List String) (b : List (String × Nat)) (p : String) :
    (budgetFilter poolOf nominated b l).countP (fun n => poolOf n == p) ≤ (b.lookup p).getD 0 := by
  fun_induction budgetFilter poolOf nominated b l with
  | case1 b => exact Nat.zero_le _
  | case2 b x xs hx ih => exact ih
  | case3 b x xs hx hk ih => exact ih
  | case4 b x xs hx k hk ih =>
    have := budget_step hk p
    rw [List.countP_cons]
    omega

theorem budgetFilter_exact (l : List String) (b : List (String × Nat))
    (h : ∀ p, l.countP (fun n => !nominated n && poolOf n == p) ≤ (b.lookup p).getD 0) :
    budgetFilter poolOf nominated b l = l.filter (fun n => !nominated n) := by
  fun_induction budgetFilter poolOf nominated b l with
  | case1 b => rfl
  | case2 b x xs hx ih =>
    simp only [List.countP_cons, List.filter_cons, hx, Bool.not_true, Bool.false_and, Bool.false_eq_true, if_false] at h ⊢
    exact ih h
  | case3 b x xs hx hk ih =>
    -- the candidate's own pool has no budget left although it counts towards it
    have hq := h (poolOf x)
    simp only [List.countP_cons, Bool.eq_false_iff.mpr hx, Bool.not_false, Bool.true_and, beq_self_eq_true, if_true, hk] at hq
    omega
  | case4 b x xs hx k hk ih =>
    have hx' := Bool.eq_false_iff.mpr hx
    rw [List.filter_cons, hx', Bool.not_false, if_pos rfl, ih fun p => ?_]
    have hp := h p
    have := budget_step hk p
    simp only [List.countP_cons, hx', Bool.not_false, Bool.true_and] at hp
    omega

variable {budgets : List (String × Nat)} {cmd current rel : List String}

/-- validation fails exactly when the budget / nomination filter leaves none of the command's candidates that are still
    candidates (the churn error is the case where there was none to filter) -/
theorem emptinessValidate_eq :
    emptinessValidate poolOf nominated budgets cmd current =
      if (budgetFilter poolOf nominated budgets (mapCandidates cmd current)).isEmpty then none
      else some (budgetFilter poolOf nominated budgets (mapCandidates cmd current)) := by
  unfold emptinessValidate
  simp only
  cases mapCandidates cmd current with
  | nil => rfl
  | cons a as => rw [List.isEmpty_cons, if_neg Bool.false_ne_true]

theorem emptinessValidate_some (h : emptinessValidate poolOf nominated budgets cmd current = some rel) :
    rel ≠ [] ∧ rel = budgetFilter poolOf nominated budgets (mapCandidates cmd current) := by
  rw [emptinessValidate_eq] at h
  split at h
  · cases h
  · cases h
    exact ⟨fun he => ‹¬ _› (List.isEmpty_iff.mpr he), rfl⟩

theorem emptinessRelease_eq (poolOf : String → String) (nominated : String → Bool) (budgets : List (String × Nat))
    (cmd current : List String) :
    emptinessRelease poolOf nominated budgets cmd current =
      budgetFilter poolOf nominated budgets (mapCandidates cmd current) := by
  unfold emptinessRelease
  rw [emptinessValidate_eq]
  cases budgetFilter poolOf nominated budgets (mapCandidates cmd current) <;> rfl

end Karp.Consolidate
