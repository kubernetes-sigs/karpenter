/-
Helper lemmas for C11: association lists (`Map`), string sets, resource vectors.
-/
import Karp.Model.ClusterState

namespace Karp.ClusterState

/-- appending the elements not seen yet keeps a list duplicate-free and adds exactly the new elements (`dedup`, `volUnion`) -/
theorem foldl_insertNew {α : Type} [BEq α] [LawfulBEq α] (l : List α) : ∀ acc : List α, acc.Nodup →
    (l.foldl (fun acc x => if acc.contains x then acc else acc ++ [x]) acc).Nodup ∧
    ∀ x, x ∈ l.foldl (fun acc x => if acc.contains x then acc else acc ++ [x]) acc ↔ x ∈ acc ∨ x ∈ l := by
  induction l with
  | nil => intro acc h; exact ⟨h, fun x => by simp⟩
  | cons a l ih =>
    intro acc h
    simp only [List.foldl_cons]
    by_cases hc : acc.contains a = true
    · rw [if_pos hc]
      have ha : a ∈ acc := List.contains_iff_mem.mp hc
      refine ⟨(ih acc h).1, fun x => ?_⟩
      rw [(ih acc h).2 x, List.mem_cons]
      constructor
      · exact fun hx => hx.imp_right Or.inr
      · rintro (hx | hx | hx)
        · exact Or.inl hx
        · exact Or.inl (hx ▸ ha)
        · exact Or.inr hx
    · rw [if_neg hc]
      have hna : a ∉ acc := fun hm => hc (List.contains_iff_mem.mpr hm)
      have h' : (acc ++ [a]).Nodup := by
        rw [List.nodup_append]
        refine ⟨h, by simp, ?_⟩
        intro y hy z hz
        simp at hz
        rw [hz]; intro e; exact hna (e ▸ hy)
      refine ⟨(ih _ h').1, fun x => ?_⟩
      rw [(ih _ h').2 x]
      simp only [List.mem_append, List.mem_cons, List.not_mem_nil, or_false, or_assoc]

theorem Res.add_zero (a : Res) : a.add Res.zero = a := by
  simp only [Res.add, Res.zero, Int.add_zero]
theorem Res.zero_add (a : Res) : Res.zero.add a = a := by
  simp only [Res.add, Res.zero, Int.zero_add]
theorem Res.sub_zero (a : Res) : a.sub Res.zero = a := by
  simp only [Res.sub, Res.zero, Int.sub_zero]
theorem Res.add_comm (a b : Res) : a.add b = b.add a := by
  simp only [Res.add, Int.add_comm]
theorem Res.add_assoc (a b c : Res) : (a.add b).add c = a.add (b.add c) := by
  simp only [Res.add, Int.add_assoc]
theorem Res.add_sub_cancel (a b : Res) : (a.add b).sub b = a := by
  simp only [Res.add, Res.sub, Int.add_sub_cancel]
theorem Res.add_sub_comm (a b c : Res) : (a.add b).sub c = (a.sub c).add b := by
  simp only [Res.add, Res.sub, Int.sub_eq_add_neg, Int.add_right_comm]
theorem Res.sub_add_cancel (a b : Res) : (a.sub b).add b = a := by
  simp only [Res.add, Res.sub, Int.sub_add_cancel]
theorem Res.add_left_comm (a b c : Res) : a.add (b.add c) = b.add (a.add c) := by
  simp only [Res.add, Int.add_left_comm]

theorem Res.isZero_iff (a : Res) : a.isZero = true ↔ a = Res.zero := by
  simp [Res.isZero]

namespace Map
variable {α : Type}

@[simp] theorem get_nil (k : String) : Map.get ([] : Map α) k = none := rfl

theorem get_cons (k' : String) (v : α) (m : Map α) (k : String) :
    Map.get ((k', v) :: m) k = if k' = k then some v else Map.get m k := rfl

theorem erase_nil (k : String) : Map.erase ([] : Map α) k = [] := rfl

theorem erase_cons (k0 : String) (v : α) (m : Map α) (k : String) :
    Map.erase ((k0, v) :: m) k = if k0 = k then Map.erase m k else (k0, v) :: Map.erase m k := by
  by_cases h : k0 = k
  · simp [Map.erase, List.filter, h]
  · simp [Map.erase, List.filter, h]

theorem keys_cons (k0 : String) (v : α) (m : Map α) : Map.keys ((k0, v) :: m) = k0 :: Map.keys m := rfl
theorem keys_nil : Map.keys ([] : Map α) = [] := rfl

theorem get_erase (m : Map α) (k k' : String) :
    Map.get (Map.erase m k) k' = if k' = k then none else Map.get m k' := by
  induction m with
  | nil => simp [erase_nil]
  | cons e m ih =>
    obtain ⟨k0, v⟩ := e
    rw [erase_cons]
    by_cases h0 : k0 = k
    · simp only [h0, if_true, ih, get_cons]
      by_cases h : k' = k
      · simp [h]
      · have : k ≠ k' := fun e => h e.symm
        simp [h, this]
    · simp only [h0, if_false, get_cons, ih]
      by_cases h : k' = k
      · simp [h, h0]
      · simp [h]

theorem get_erase_self (m : Map α) (k : String) : Map.get (Map.erase m k) k = none := by
  simp [get_erase]

theorem get_erase_ne (m : Map α) (k k' : String) (h : k' ≠ k) : Map.get (Map.erase m k) k' = Map.get m k' := by
  simp [get_erase, h]

theorem get_put (m : Map α) (k k' : String) (v : α) :
    Map.get (Map.put m k v) k' = if k' = k then some v else Map.get m k' := by
  unfold Map.put
  rw [get_cons, get_erase]
  by_cases h : k' = k
  · simp [h]
  · have : k ≠ k' := fun e => h e.symm
    simp [h, this]

theorem get_put_self (m : Map α) (k : String) (v : α) : Map.get (Map.put m k v) k = some v := by
  simp [get_put]

theorem get_put_ne (m : Map α) (k k' : String) (v : α) (h : k' ≠ k) : Map.get (Map.put m k v) k' = Map.get m k' := by
  simp [get_put, h]

theorem forall_upd {P : String → α → Prop} {m m' : Map α} {k0 : String} {new : Option α}
    (hget : ∀ k, Map.get m' k = if k = k0 then new else Map.get m k) (h : ∀ k v, Map.get m k = some v → P k v)
    (h0 : ∀ v, new = some v → P k0 v) : ∀ k v, Map.get m' k = some v → P k v := by
  intro k v hg
  rw [hget] at hg
  by_cases hk : k = k0
  · rw [if_pos hk] at hg; rw [hk]; exact h0 v hg
  · rw [if_neg hk] at hg; exact h k v hg

theorem forall_put {P : String → α → Prop} {m : Map α} (h : ∀ k v, Map.get m k = some v → P k v) {k0 : String} {v0 : α}
    (h0 : P k0 v0) : ∀ k v, Map.get (Map.put m k0 v0) k = some v → P k v :=
  forall_upd (fun _ => get_put _ _ _ _) h (fun _ e => Option.some.inj e ▸ h0)

theorem forall_erase {P : String → α → Prop} {m : Map α} (h : ∀ k v, Map.get m k = some v → P k v) (k0 : String) :
    ∀ k v, Map.get (Map.erase m k0) k = some v → P k v :=
  forall_upd (fun _ => get_erase _ _ _) h (fun _ e => nomatch e)

theorem erase_of_get_none (m : Map α) (k : String) (h : Map.get m k = none) : Map.erase m k = m := by
  induction m with
  | nil => rfl
  | cons e m ih =>
    obtain ⟨k0, v⟩ := e
    rw [get_cons] at h
    by_cases h0 : k0 = k
    · simp [h0] at h
    · simp only [h0, if_false] at h
      rw [erase_cons]; simp [h0, ih h]

theorem erase_erase (m : Map α) (k : String) : Map.erase (Map.erase m k) k = Map.erase m k :=
  erase_of_get_none _ _ (get_erase_self m k)

theorem put_erase (m : Map α) (k : String) (v : α) : Map.put (Map.erase m k) k v = Map.put m k v := by
  simp [Map.put, erase_erase]

theorem has_eq (m : Map α) (k : String) : Map.has m k = (Map.get m k).isSome := rfl

theorem getD_eq (m : Map α) (k : String) (d : α) : Map.getD m k d = (Map.get m k).getD d := rfl

def NoDup (m : Map α) : Prop := (Map.keys m).Nodup

theorem noDup_nil : NoDup ([] : Map α) := by simp [NoDup, Map.keys]

theorem noDup_cons (k0 : String) (v : α) (m : Map α) : NoDup ((k0, v) :: m) ↔ k0 ∉ Map.keys m ∧ NoDup m := by
  simp [NoDup, keys_cons]

theorem mem_keys_iff (m : Map α) (k : String) : k ∈ Map.keys m ↔ (Map.get m k).isSome = true := by
  induction m with
  | nil => simp [keys_nil]
  | cons e m ih =>
    obtain ⟨k0, v0⟩ := e
    rw [keys_cons, get_cons, List.mem_cons, ih]
    by_cases h0 : k0 = k
    · simp [h0]
    · have : k ≠ k0 := fun e => h0 e.symm
      simp [h0, this]

theorem mem_keys_of_get {m : Map α} {k : String} {v : α} (h : Map.get m k = some v) : k ∈ Map.keys m := by
  rw [mem_keys_iff, h]; rfl

theorem get_none_of_not_mem_keys {m : Map α} {k : String} (h : k ∉ Map.keys m) : Map.get m k = none := by
  rw [mem_keys_iff] at h
  cases hg : Map.get m k with
  | none => rfl
  | some v => simp [hg] at h

theorem mem_keys_erase (m : Map α) (k x : String) : x ∈ Map.keys (Map.erase m k) ↔ x ∈ Map.keys m ∧ x ≠ k := by
  rw [mem_keys_iff, mem_keys_iff, get_erase]
  by_cases h : x = k
  · simp [h]
  · simp [h]

theorem noDup_erase {m : Map α} (h : NoDup m) (k : String) : NoDup (Map.erase m k) := by
  induction m with
  | nil => simpa [erase_nil] using h
  | cons e m ih =>
    obtain ⟨k0, v⟩ := e
    rw [noDup_cons] at h
    rw [erase_cons]
    by_cases h0 : k0 = k
    · simp only [h0, if_true]; exact ih h.2
    · simp only [h0, if_false]
      rw [noDup_cons]
      refine ⟨?_, ih h.2⟩
      rw [mem_keys_erase]
      intro hm; exact h.1 hm.1

theorem noDup_put {m : Map α} (h : NoDup m) (k : String) (v : α) : NoDup (Map.put m k v) := by
  unfold Map.put
  rw [noDup_cons]
  refine ⟨?_, noDup_erase h k⟩
  rw [mem_keys_erase]
  intro hm; exact hm.2 rfl

theorem mem_of_get {m : Map α} {k : String} {v : α} (h : Map.get m k = some v) : (k, v) ∈ m := by
  induction m with
  | nil => simp at h
  | cons e m ih =>
    obtain ⟨k0, v0⟩ := e
    rw [Map.get_cons] at h
    by_cases h0 : k0 = k
    · rw [if_pos h0] at h
      rw [h0, Option.some.inj h]; exact List.mem_cons_self
    · rw [if_neg h0] at h
      exact List.mem_cons_of_mem _ (ih h)

theorem get_of_mem {m : Map α} {k : String} {v : α} (hn : Map.NoDup m) (h : (k, v) ∈ m) : Map.get m k = some v := by
  induction m with
  | nil => simp at h
  | cons e m ih =>
    obtain ⟨k0, v0⟩ := e
    rw [Map.noDup_cons] at hn
    rw [Map.get_cons]
    rcases List.mem_cons.mp h with h | h
    · have h1 : k = k0 := (Prod.mk.inj h).1
      have h2 : v = v0 := (Prod.mk.inj h).2
      rw [if_pos h1.symm, h2]
    · have : k0 ≠ k := by
        intro e
        apply hn.1
        rw [e]
        exact Map.mem_keys_of_get (ih hn.2 h)
      rw [if_neg this]; exact ih hn.2 h

theorem any_val_iff {m : Map String} (hn : Map.NoDup m) (id : String) :
    m.any (fun e => decide (e.2 = id)) = true ↔ ∃ name, Map.get m name = some id := by
  rw [List.any_eq_true]
  constructor
  · intro ⟨e, he, hd⟩
    obtain ⟨k, v⟩ := e
    have : v = id := by simpa using hd
    exact ⟨k, this ▸ Map.get_of_mem hn he⟩
  · intro ⟨name, hg⟩
    exact ⟨(name, id), Map.mem_of_get hg, by simp⟩

end Map

theorem mem_sInsert (x y : String) (l : List String) : y ∈ sInsert x l ↔ y = x ∨ y ∈ l := by
  unfold sInsert
  split
  · rename_i h
    have hx : x ∈ l := by simpa using h
    exact ⟨Or.inr, fun a => a.elim (fun e => e ▸ hx) id⟩
  · simp

theorem mem_sErase (x y : String) (l : List String) : y ∈ sErase x l ↔ y ≠ x ∧ y ∈ l := by
  unfold sErase
  simp [List.mem_filter]
  exact And.comm

end Karp.ClusterState
