/-
C11 helper lemmas: the object layer of the cache (which Node / NodeClaim / mark each state node holds and the two
name maps) as a small transition system `OC`, the projection of the model onto it (pods play no role here), and what the
operations of `OC` do to a lookup.
-/
import Karp.Proofs.ClusterStatePoolSteps

namespace Karp.ClusterState
open Cluster Karp.Spec.ClusterAbs

namespace Map
variable {α β : Type}

def mapVals (f : α → β) (m : Map α) : Map β := m.map (fun e => (e.1, f e.2))

theorem mapVals_nil (f : α → β) : mapVals f ([] : Map α) = [] := rfl
theorem mapVals_cons (f : α → β) (k : String) (v : α) (m : Map α) : mapVals f ((k, v) :: m) = (k, f v) :: mapVals f m := rfl

theorem get_mapVals (f : α → β) (m : Map α) (k : String) : Map.get (mapVals f m) k = (Map.get m k).map f := by
  induction m with
  | nil => rfl
  | cons e m ih =>
    obtain ⟨k0, v⟩ := e
    rw [mapVals_cons, get_cons, get_cons, ih]
    by_cases h : k0 = k <;> simp [h]

theorem mapVals_erase (f : α → β) (m : Map α) (k : String) : mapVals f (Map.erase m k) = Map.erase (mapVals f m) k := by
  induction m with
  | nil => rfl
  | cons e m ih =>
    obtain ⟨k0, v⟩ := e
    rw [erase_cons, mapVals_cons, erase_cons]
    by_cases h : k0 = k
    · simp only [h, if_true, ih]
    · simp only [h, if_false, mapVals_cons, ih]

theorem mapVals_put (f : α → β) (m : Map α) (k : String) (v : α) : mapVals f (Map.put m k v) = Map.put (mapVals f m) k (f v) := by
  unfold Map.put
  rw [mapVals_cons, mapVals_erase]

theorem mapVals_put_same (f : α → β) (m : Map α) (k : String) (v v' : α) (hg : Map.get m k = some v) (hf : f v' = f v)
    (hn : NoDup m) : ∀ k', Map.get (mapVals f (Map.put m k v')) k' = Map.get (mapVals f m) k' := by
  intro k'
  rw [get_mapVals, get_mapVals, get_put]
  by_cases h : k' = k
  · rw [if_pos h, h, hg]; simp [hf]
  · rw [if_neg h]

end Map

structure Objs where
  node : Option NodeObj := none
  claim : Option ClaimObj := none
  marked : Bool := false
  nominated : Bool := false
deriving DecidableEq, Repr

def SNode.objs (s : SNode) : Objs := ⟨s.node, s.claim, s.marked, s.nominated⟩

structure OC where
  nodes : Map Objs := []
  nn : Map String := []
  cn : Map String := []
deriving Repr

/-- two object layers are the same when all lookups agree (the order of the entries is irrelevant) -/
structure OC.Eqv (a b : OC) : Prop where
  nodes : ∀ id, Map.get a.nodes id = Map.get b.nodes id
  nn : a.nn = b.nn
  cn : a.cn = b.cn

def proj (c : Cluster) : OC := ⟨Map.mapVals SNode.objs c.nodes, c.nodeNameToPid, c.claimNameToPid⟩

namespace OC

def detachNode (o : OC) (name id : String) (s : Objs) : OC :=
  { o with nodes := if s.claim.isNone then Map.erase o.nodes id else Map.put o.nodes id { s with node := none },
           nn := Map.erase o.nn name }

def cleanupNode (o : OC) (name : String) : Option OC :=
  match Map.get o.nn name with
  | some id =>
    if id ≠ "" then
      match Map.get o.nodes id with
      | none => none
      | some s => some (o.detachNode name id s)
    else some o
  | none => some o

def detachClaim (o : OC) (id : String) (s : Objs) : OC :=
  { o with nodes := if s.node.isNone then Map.erase o.nodes id else Map.put o.nodes id { s with claim := none } }

def forgetClaim (o : OC) (name : String) : OC := { o with cn := Map.erase o.cn name }

def cleanupNodeClaim (o : OC) (name : String) : Option OC :=
  match Map.get o.cn name with
  | some id =>
    if id ≠ "" then
      match Map.get o.nodes id with
      | none => none
      | some s => some ((o.detachClaim id s).forgetClaim name)
    else some (o.forgetClaim name)
  | none => some (o.forgetClaim name)

def installNode (o : OC) (node : NodeObj) (old : Objs) : OC :=
  { o with nodes := Map.put o.nodes node.pid ⟨some node, old.claim, old.marked, old.nominated⟩,
           nn := Map.put o.nn node.name node.pid }

def newStateFromNode (o : OC) (node : NodeObj) : Option OC :=
  let old := (Map.get o.nodes node.pid).getD {}
  match (if rekeyed o.nn node.name node.pid then o.cleanupNode node.name else some o) with
  | none => none
  | some o2 => some (o2.installNode node old)

def updateNode (o : OC) (node : NodeObj) : Option OC :=
  let managed := node.pool ≠ ""
  if node.pid = "" && managed then some o
  else if managed && !node.it && !node.init then some o
  else o.newStateFromNode (if node.pid = "" then { node with pid := node.name } else node)

def installClaim (o : OC) (claim : ClaimObj) : Option OC :=
  let old := (Map.get o.nodes claim.pid).getD {}
  match (if rekeyed o.cn claim.name claim.pid then o.cleanupNodeClaim claim.name else some o) with
  | none => none
  | some o2 => some { o2 with nodes := Map.put o2.nodes claim.pid ⟨old.node, some claim, old.marked, old.nominated⟩ }

def updateNodeClaim (o : OC) (claim : ClaimObj) : Option OC :=
  match (if claim.pid ≠ "" then o.installClaim claim else some o) with
  | none => none
  | some o => some { o with cn := Map.put o.cn claim.name claim.pid }

def setMark (o : OC) (pid : String) (b : Bool) : OC :=
  match Map.get o.nodes pid with
  | none => o
  | some s => { o with nodes := Map.put o.nodes pid { s with marked := b } }

def nominate (o : OC) (pid : String) : OC :=
  match Map.get o.nodes pid with
  | none => o
  | some s => { o with nodes := Map.put o.nodes pid { s with nominated := true } }

def step (o : OC) (api : Api) : Event → Option OC
  | .recNode name =>
    match Map.get api.nodes name with
    | none => o.cleanupNode name
    | some n => o.updateNode n
  | .recClaim name =>
    match Map.get api.claims name with
    | none => o.cleanupNodeClaim name
    | some cl => if !cl.managed then some o else o.updateNodeClaim cl
  | .mark pid => some (o.setMark pid true)
  | .unmark pid => some (o.setMark pid false)
  | .nominate pid => some (o.nominate pid)
  | _ => some o

end OC

theorem get_proj (c : Cluster) (id : String) : Map.get (proj c).nodes id = (Map.get c.nodes id).map SNode.objs :=
  Map.get_mapVals _ _ _

theorem get_detachNode (o : OC) (name id : String) (s : Objs) (id' : String) :
    Map.get (o.detachNode name id s).nodes id' =
      if id' = id then (if s.claim.isNone then none else some { s with node := none }) else Map.get o.nodes id' := by
  unfold OC.detachNode
  dsimp only
  by_cases hc : s.claim.isNone = true
  · rw [if_pos hc, Map.get_erase]; simp [hc]
  · rw [if_neg hc, Map.get_put]; simp [hc]

theorem detachNode_nn (o : OC) (name id : String) (s : Objs) : (o.detachNode name id s).nn = Map.erase o.nn name := rfl
theorem detachNode_cn (o : OC) (name id : String) (s : Objs) : (o.detachNode name id s).cn = o.cn := rfl

theorem get_installNode (o : OC) (node : NodeObj) (old : Objs) (id' : String) :
    Map.get (o.installNode node old).nodes id' =
      if id' = node.pid then some ⟨some node, old.claim, old.marked, old.nominated⟩ else Map.get o.nodes id' := by
  unfold OC.installNode; dsimp only; rw [Map.get_put]

theorem installNode_nn (o : OC) (node : NodeObj) (old : Objs) : (o.installNode node old).nn = Map.put o.nn node.name node.pid := rfl
theorem installNode_cn (o : OC) (node : NodeObj) (old : Objs) : (o.installNode node old).cn = o.cn := rfl

theorem get_detachClaim (o : OC) (name id : String) (s : Objs) (id' : String) :
    Map.get ((o.detachClaim id s).forgetClaim name).nodes id' =
      if id' = id then (if s.node.isNone then none else some { s with claim := none }) else Map.get o.nodes id' := by
  unfold OC.detachClaim OC.forgetClaim
  dsimp only
  by_cases hc : s.node.isNone = true
  · rw [if_pos hc, Map.get_erase]; simp [hc]
  · rw [if_neg hc, Map.get_put]; simp [hc]

theorem detachClaim_cn (o : OC) (name id : String) (s : Objs) : ((o.detachClaim id s).forgetClaim name).cn = Map.erase o.cn name := rfl
theorem detachClaim_nn (o : OC) (name id : String) (s : Objs) : ((o.detachClaim id s).forgetClaim name).nn = o.nn := rfl

def claimEntry (old : Objs) (cl : ClaimObj) : Objs := ⟨old.node, some cl, old.marked, old.nominated⟩

/-- installing a launched NodeClaim and recording its name -/
def OC.putClaim (o : OC) (cl : ClaimObj) (old : Objs) : OC :=
  { nodes := Map.put o.nodes cl.pid (claimEntry old cl), nn := o.nn, cn := Map.put o.cn cl.name cl.pid }

theorem get_putClaim (o : OC) (cl : ClaimObj) (old : Objs) (id' : String) :
    Map.get (o.putClaim cl old).nodes id' = if id' = cl.pid then some (claimEntry old cl) else Map.get o.nodes id' := by
  unfold OC.putClaim; dsimp only; rw [Map.get_put]

theorem OC.newStateFromNode_eq (o : OC) (node : NodeObj) :
    o.newStateFromNode node =
      (if rekeyed o.nn node.name node.pid then o.cleanupNode node.name else some o).map
        (fun o2 => o2.installNode node ((Map.get o.nodes node.pid).getD {})) := by
  unfold OC.newStateFromNode
  dsimp only
  generalize (if rekeyed _ node.name node.pid = true then _ else _ : Option OC) = m
  cases m <;> rfl

theorem OC.installClaim_eq (o : OC) (claim : ClaimObj) :
    o.installClaim claim =
      (if rekeyed o.cn claim.name claim.pid then o.cleanupNodeClaim claim.name else some o).map
        (fun o2 => { o2 with nodes := Map.put o2.nodes claim.pid (claimEntry ((Map.get o.nodes claim.pid).getD {}) claim) }) := by
  unfold OC.installClaim
  dsimp only
  generalize (if rekeyed _ claim.name claim.pid = true then _ else _ : Option OC) = m
  cases m <;> rfl

theorem OC.updateNodeClaim_eq (o : OC) (claim : ClaimObj) :
    o.updateNodeClaim claim =
      (if claim.pid ≠ "" then o.installClaim claim else some o).map (fun o2 => { o2 with cn := Map.put o2.cn claim.name claim.pid }) := by
  unfold OC.updateNodeClaim
  generalize (if claim.pid ≠ "" then _ else _ : Option OC) = m
  cases m <;> rfl

theorem OC.updateNode_eq (o : OC) (node : NodeObj) :
    o.updateNode node = if (nodeKey node).isSome then o.newStateFromNode (nodeStored node) else some o := by
  by_cases h1 : (node.pid = "" && node.pool ≠ "") = true
  · simp only [OC.updateNode, nodeKey, h1, if_true, Option.isSome_none, Bool.false_eq_true, if_false]
  · by_cases h2 : (node.pool ≠ "" && !node.it && !node.init) = true
    · simp only [OC.updateNode, nodeKey, h1, h2, if_true, Option.isSome_none, Bool.false_eq_true, if_false]
    · simp only [OC.updateNode, nodeKey, nodeStored, h1, h2, Option.isSome_some, Bool.false_eq_true, if_true, if_false]

end Karp.ClusterState
