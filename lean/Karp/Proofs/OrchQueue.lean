/-
C08, a pass of the orchestration queue: the wait loop, the phases of `Reconcile`, the courses a pass can take
(`Course`), what every step of a history carries over and what it does to the queue entries.
-/
import Karp.Proofs.OrchQueueCommands

namespace Karp.OrchQueue

inductive Rel2 {α β : Type} (R : α → β → Prop) : List α → List β → Prop
  | nil : Rel2 R [] []
  | cons {a b l₁ l₂} : R a b → Rel2 R l₁ l₂ → Rel2 R (a :: l₁) (b :: l₂)

theorem Rel2.refl {α : Type} {R : α → α → Prop} (h : ∀ a, R a a) : ∀ l : List α, Rel2 R l l
  | [] => Rel2.nil
  | a :: t => Rel2.cons (h a) (Rel2.refl h t)

theorem Rel2.pres {α : Type} {R : α → α → Prop} {P : α → Prop} (hR : ∀ a b, R a b → P a → P b) :
    ∀ {l l' : List α}, Rel2 R l l' → (∀ a ∈ l, P a) → ∀ b ∈ l', P b := by
  intro l l' h
  induction h with
  | nil => simp
  | cons hab _ ih =>
    intro hl b hb
    rcases List.mem_cons.mp hb with e | e
    · subst e; exact hR _ _ hab (hl _ (by simp))
    · exact ih (fun a ha => hl a (by simp [ha])) b e

/-- what a pass may do to a replacement record: nothing, or latch it because the API shows it Initialized -/
def Latch (r r' : Repl) : Prop := r' = r ∨ (r.api = .init ∧ r.latched = false ∧ r' = { r with latched := true })

def noUpd : (Cand → Cand) → Prop := fun _ => False
theorem noUpd_api : ∀ f, noUpd f → apiUpd f := fun _ h => h.elim

/-- the rest of the loop once replacement `r` has been looked at: `r'` is what is kept of it, `g` what it does to
    the verdict -/
def waitRest (K : Nat) (rs : List Repl) (i : Nat) (r' : Repl) (g : WaitRes → WaitRes) (w : World) :
    List Repl × WaitRes × World :=
  (r' :: (waitLoop K rs (i + 1) w).1, g (waitLoop K rs (i + 1) w).2.1, (waitLoop K rs (i + 1) w).2.2)

theorem waitLoop_cons (K : Nat) (r : Repl) (rs : List Repl) (i : Nat) (w : World) :
    waitLoop K (r :: rs) i w =
      if r.latched then waitRest K rs i r id w
      else if (call w (.getRepl K i)).1 = .err then waitRest K rs i r .andWaiting (call w (.getRepl K i)).2
      else if (call w (.getRepl K i)).1 = .notFound || r.api = .absent then
        if !r.known then (r :: rs, .gone, (call w (.getRepl K i)).2)
        else waitRest K rs i r .andWaiting (call w (.getRepl K i)).2
      else if r.api = .init then waitRest K rs i { r with latched := true } id (call w (.getRepl K i)).2
      else waitRest K rs i r .andWaiting (call w (.getRepl K i)).2 := by
  unfold waitLoop waitRest
  simp only
  rfl

def WaitSpec (rs : List Repl) (w : World) (x : List Repl × WaitRes × World) : Prop :=
  Rel2 Latch rs x.1 ∧ (x.2.1 = .ready → ∀ r' ∈ x.1, r'.latched = true) ∧ Eff noUpd w x.2.2

theorem andWaiting_ne_ready (x : WaitRes) : x.andWaiting ≠ .ready := by cases x <;> nofun

theorem waitRest_spec {K : Nat} {rs : List Repl} {i : Nat} {r r' : Repl} {g : WaitRes → WaitRes} {w w1 : World}
    (ih : WaitSpec rs w1 (waitLoop K rs (i + 1) w1)) (he : Eff noUpd w w1) (hl : Latch r r')
    (hg : ∀ x, g x = .ready → x = .ready ∧ r'.latched = true) : WaitSpec (r :: rs) w (waitRest K rs i r' g w1) := by
  obtain ⟨h1, h2, h3⟩ := ih
  refine ⟨Rel2.cons hl h1, fun hr x hx => ?_, he.trans h3⟩
  obtain ⟨hr1, hr2⟩ := hg _ hr
  rcases List.mem_cons.mp hx with e | e
  · rw [e]; exact hr2
  · exact h2 hr1 x e

theorem waitLoop_spec (K : Nat) : ∀ (rs : List Repl) (i : Nat) (w : World), WaitSpec rs w (waitLoop K rs i w)
  | [], _, w => ⟨Rel2.nil, fun _ _ h => (List.not_mem_nil h).elim, Eff.refl w⟩
  | r :: rs, i, w => by
    have hc : Eff noUpd w (call w (.getRepl K i)).2 := Eff.call1 w _
    have keep : ∀ w1, Eff noUpd w w1 → WaitSpec (r :: rs) w (waitRest K rs i r .andWaiting w1) := fun w1 he =>
      waitRest_spec (waitLoop_spec K rs (i + 1) w1) he (Or.inl rfl) (fun x h => absurd h (andWaiting_ne_ready x))
    rw [waitLoop_cons]
    by_cases hl : r.latched = true
    · rw [if_pos hl]
      exact waitRest_spec (waitLoop_spec K rs (i + 1) w) (Eff.refl w) (Or.inl rfl) (fun _ h => ⟨h, hl⟩)
    rw [if_neg hl]
    by_cases he : (call w (.getRepl K i)).1 = .err
    · rw [if_pos he]; exact keep _ hc
    rw [if_neg he]
    split
    · split
      · exact ⟨Rel2.refl (R := Latch) (fun _ => Or.inl rfl) _, nofun, hc⟩
      · exact keep _ hc
    · by_cases hinit : r.api = .init
      · rw [if_pos hinit]
        exact waitRest_spec (waitLoop_spec K rs (i + 1) _) hc (Or.inr ⟨hinit, by simpa using hl, rfl⟩)
          (fun _ h => ⟨h, rfl⟩)
      · rw [if_neg hinit]; exact keep _ hc

theorem latch_map_api : ∀ {rs rs' : List Repl}, Rel2 Latch rs rs' → rs'.map (·.api) = rs.map (·.api) := by
  intro rs rs' h
  induction h with
  | nil => rfl
  | cons hab _ ih =>
    simp only [List.map_cons, ih]
    rcases hab with e | ⟨_, _, e⟩ <;> simp [e]

theorem latch_ready : ∀ {rs rs' : List Repl}, Rel2 Latch rs rs' → (∀ r' ∈ rs', r'.latched = true) →
    ∀ r ∈ rs, r.latched = true ∨ r.api = .init := by
  intro rs rs' h
  induction h with
  | nil => simp
  | cons hab _ ih =>
    intro hl r hr
    rcases List.mem_cons.mp hr with e | e
    · subst e
      rcases hab with e' | ⟨hi, _, _⟩
      · left; have := hl _ (List.mem_cons_self); rw [e'] at this; exact this
      · right; exact hi
    · exact ih (fun r' h' => hl r' (by simp [h'])) r e

theorem latch_replOK {r r' : Repl} (h : Latch r r') (hr : ReplOK r) : ReplOK r' := by
  rcases h with e | ⟨hi, _, e⟩
  · rw [e]; exact hr
  · rw [e]; exact ⟨fun _ => hr.init hi, hr.init, hr.ever, hr.exist⟩

theorem latch_latched {r r' : Repl} (h : Latch r r') (hr : r.latched = true) : r'.latched = true := by
  rcases h with e | ⟨_, _, e⟩
  · rw [e]; exact hr
  · rw [e]

theorem waitLoop_allLatched (K : Nat) : ∀ (rs : List Repl) (i : Nat) (w : World),
    (∀ r ∈ rs, r.latched = true) → (waitLoop K rs i w).2.1 = .ready
  | [], _, _, _ => rfl
  | r :: rs, i, w, h => by
    rw [waitLoop_cons, if_pos (h r (by simp))]
    exact waitLoop_allLatched K rs (i + 1) w (fun r' hr' => h r' (by simp [hr']))

/-! ### a queue pass

The phases of `Reconcile` for command `K`, as functions of the world the pass starts in: the wait loop, its result
stored in the command, the Delete fan-out (reached only when the loop found every replacement ready), and the
record that Deletes were issued. -/

def waited (K : Nat) (w : World) : List Repl × WaitRes × World := waitLoop K (cmdAt w K).repls 0 w
def stored (K : Nat) (w : World) : World := setCmd (waited K w).2.2 K (fun c => { c with repls := (waited K w).1 })
def deleted (K : Nat) (w : World) : Bool × List DelEvent × World :=
  delAll ((waited K w).1.map (·.api)) (cmdAt w K).live (stored K w)
def recorded (K : Nat) (w : World) : World :=
  setCmd (deleted K w).2.2 K (fun c => { c with issued := c.issued || !(deleted K w).2.1.isEmpty })

theorem waited_spec (K : Nat) (w : World) : WaitSpec (cmdAt w K).repls w (waited K w) := waitLoop_spec K _ 0 w

theorem deleted_spec (K : Nat) (w : World) :
    Eff (· = setDeleting) (stored K w) (deleted K w).2.2 ∧
      ∀ e ∈ (deleted K w).2.1, e.repls = (waited K w).1.map (·.api) ∧ e.cand ∈ (cmdAt w K).live :=
  delAll_spec _ _ _

theorem waited_cmds (K : Nat) (w : World) : (waited K w).2.2.cmds = w.cmds := (waited_spec K w).2.2.frame.1

theorem deleted_cmds (K : Nat) (w : World) : (deleted K w).2.2.cmds = (stored K w).cmds := (deleted_spec K w).1.frame.1

theorem cmdAt_stored {K : Nat} {w : World} (hlt : K < w.cmds.length) :
    cmdAt (stored K w) K = { cmdAt w K with repls := (waited K w).1 } := by
  rw [stored, cmdAt_setCmd, if_pos ⟨rfl, by rw [waited_cmds]; exact hlt⟩, cmdAt_congr (waited_cmds K w)]

theorem issued_stored (K : Nat) (w : World) : (cmdAt (stored K w) K).issued = (cmdAt w K).issued := by
  rw [stored, cmdAt_setCmd]
  split <;> rw [cmdAt_congr (waited_cmds K w)]

theorem ready_of_waited {K : Nat} {w : World} (h : (waited K w).2.1 = .ready) :
    ∀ r ∈ (cmdAt w K).repls, r.latched = true ∨ r.api = .init :=
  latch_ready (waited_spec K w).1 ((waited_spec K w).2.1 h)

/-- what a pass for command `K` has done to `w` by the time it requeues or completes the command: it stands in `wp`
    and has issued the Delete calls `evs` -/
structure Before (K : Nat) (w : World) (evs : List DelEvent) (wp : World) : Prop where
  keep : Keep w wp
  carried : Carried w wp
  calm : Calm w → Calm wp
  events : ∀ e ∈ evs, e.cand ∈ (cmdAt w K).live ∧ e.repls = (cmdAt w K).repls.map (·.api) ∧
    ∀ r ∈ (cmdAt w K).repls, r.latched = true ∨ r.api = .init
  issued : (cmdAt wp K).issued = ((cmdAt w K).issued || !evs.isEmpty)

theorem before_stored (K : Nat) (w : World) : Before K w [] (stored K w) where
  keep := (keep_eff ((waited_spec K w).2.2.mono noUpd_api)).trans (keep_setCmd _ K _ (fun _ => rfl))
  carried := by
    have hc := waited_cmds K w
    refine (carried_cmds_eq hc).trans (carried_setCmd _ K _ (fun _ hok => ?_) id)
    rw [cmdAt_congr hc] at hok ⊢
    exact cmdOK_of_repls (cmdAt w K) { cmdAt w K with repls := (waited K w).1 } rfl
      (Rel2.pres (fun _ _ hab => latch_replOK hab) (waited_spec K w).1)
      (Rel2.pres (fun _ _ hab => latch_latched hab) (waited_spec K w).1) hok
  calm h := calm_setCmd (calm_eff (waited_spec K w).2.2 h) K _
  events := nofun
  issued := by rw [issued_stored]; simp

theorem before_recorded {K : Nat} {w : World} (h : (waited K w).2.1 = .ready) :
    Before K w (deleted K w).2.1 (recorded K w) where
  keep := ((before_stored K w).keep.trans (keep_eff ((deleted_spec K w).1.mono deleting_api))).trans
    (keep_setCmd _ K _ (fun _ => rfl))
  carried := by
    have hc := deleted_cmds K w
    refine ((before_stored K w).carried.trans (carried_cmds_eq hc)).trans
      (carried_setCmd _ K _ (fun hlt hok => ⟨hok.1, fun _ => ?_⟩) (fun h => by simp [h]))
    rw [hc, stored, setCmd_length, waited_cmds] at hlt
    show ∀ r ∈ (cmdAt (deleted K w).2.2 K).repls, r.latched = true
    rw [cmdAt_congr hc, cmdAt_stored hlt]
    exact (waited_spec K w).2.1 h
  calm hc := calm_setCmd (calm_eff (deleted_spec K w).1 ((before_stored K w).calm hc)) K _
  events e he := ⟨((deleted_spec K w).2 e he).2,
    by rw [((deleted_spec K w).2 e he).1, latch_map_api (waited_spec K w).1], ready_of_waited h⟩
  issued := by
    rw [recorded, cmdAt_setCmd, deleted_cmds, stored, setCmd_length, waited_cmds]
    split
    · show ((cmdAt (deleted K w).2.2 K).issued || _) = _
      rw [cmdAt_congr (deleted_cmds K w), issued_stored]
    · -- a command out of range is the empty command: no live candidate, no Delete
      rename_i hn
      rw [cmdAt_congr (deleted_cmds K w), issued_stored, deleted, cmdAt_of_not_lt fun hlt => hn ⟨rfl, hlt⟩]
      rfl

/-- the courses of `Reconcile`: nothing to do, or a pass for the command `K` that candidate `ci` is queued for. A pass
    gives up before the delete phase (a replacement is gone, or the retry window has passed while waiting) or after
    it, when it is late and the code applies the window to that phase as well. -/
inductive Course (w : World) : Res × List DelEvent × World → Prop
  | skip : Course w (.skip, [], w)
  | nocmd : Course w (.nocmd, [], w)
  | requeue (ci K) {evs wp} : (candAt w ci).owner = some K → Before K w evs wp → Course w (.requeue, evs, wp)
  | failed (ci K) {evs wp} : (candAt w ci).owner = some K → Before K w evs wp →
      (evs = [] ∧ (waited K w).2.1 ≠ .ready) ∨
        (w.mode ≠ .waitOnly ∧ timedOut w (cmdAt w K) = true ∧ (waited K w).2.1 = .ready) →
      Course w (.failed, evs, failCommand K wp)
  | succeeded (ci K) {evs wp} : (candAt w ci).owner = some K → Before K w evs wp →
      Course w (.succeeded, evs, succeedCommand K wp)

theorem failsLate_true {m : TimeoutMode} {late delErr : Bool} (h : failsLate m late delErr = true) :
    m ≠ .waitOnly ∧ late = true := by
  cases m <;> simp [failsLate] at h ⊢
  · exact h
  · exact h.1

theorem reconcileCand_course (ci : Nat) (w : World) : Course w (reconcileCand ci w) := by
  unfold reconcileCand
  split
  · exact Course.nocmd
  · rename_i K hK
    have unready : (waited K w).2.1 ≠ .ready → Course w (.failed, [], failCommand K (stored K w)) :=
      fun hw => Course.failed ci K hK (before_stored K w) (Or.inl ⟨rfl, hw⟩)
    simp only
    split
    · rename_i hw; exact unready (by rw [waited, hw]; nofun)
    · rename_i hw
      split
      · exact unready (by rw [waited, hw]; nofun)
      · exact Course.requeue ci K hK (before_stored K w)
    · rename_i hw
      split
      · rename_i hf
        exact Course.failed ci K hK (before_recorded hw) (Or.inr ⟨(failsLate_true hf).1, (failsLate_true hf).2, hw⟩)
      · split
        · exact Course.requeue ci K hK (before_recorded hw)
        · exact Course.succeeded ci K hK (before_recorded hw)

theorem course_events {w : World} {r : Res} {evs : List DelEvent} {w' : World} (h : Course w (r, evs, w')) :
    ∀ e ∈ evs, ∃ ci K, (candAt w ci).owner = some K ∧ e.cand ∈ (cmdAt w K).live ∧
      e.repls = (cmdAt w K).repls.map (·.api) ∧
      ∀ r ∈ (cmdAt w K).repls, r.latched = true ∨ r.api = .init := by
  cases h with
  | skip | nocmd => nofun
  | requeue ci K hK hb | failed ci K hK hb | succeeded ci K hK hb => exact fun e he => ⟨ci, K, hK, hb.events e he⟩

theorem course_owner {w : World} {r : Res} {evs : List DelEvent} {w' : World} (h : Course w (r, evs, w')) (j : Nat) :
    (candAt w' j).owner = (candAt w j).owner ∨ ((candAt w' j).owner = none ∧ (r = .failed ∨ r = .succeeded)) := by
  cases h with
  | skip | nocmd => exact Or.inl rfl
  | requeue _ _ _ hb => exact Or.inl (hb.keep.owner j)
  | failed _ K _ hb =>
    have ho := (fail_shape K hb.keep j).1
    split at ho
    · exact Or.inr ⟨ho, Or.inl rfl⟩
    · exact Or.inl ho
  | succeeded _ K _ hb =>
    have ho := succeed_owner K hb.keep j
    split at ho
    · exact Or.inr ⟨ho, Or.inr rfl⟩
    · exact Or.inl ho

theorem carried_course {w : World} {r : Res} {evs : List DelEvent} {w' : World} (h : Course w (r, evs, w')) :
    Carried w w' := by
  cases h with
  | skip | nocmd => exact Carried.refl w
  | requeue _ _ _ hb => exact hb.carried
  | failed _ K _ hb => exact hb.carried.trans (carried_failCommand K _)
  | succeeded _ K _ hb => exact hb.carried.trans (carried_succeedCommand K _)

theorem course_issued {w : World} {r : Res} {evs : List DelEvent} {w' : World} (h : Course w (r, evs, w'))
    (hne : evs ≠ []) : ∃ ci K, (candAt w ci).owner = some K ∧ (cmdAt w' K).issued = true := by
  have recd : ∀ {K wp}, Before K w evs wp → (cmdAt wp K).issued = true := by
    intro K wp hb
    rw [hb.issued]
    cases evs with
    | nil => exact absurd rfl hne
    | cons _ _ => simp
  cases h with
  | skip | nocmd => exact absurd rfl hne
  | requeue ci K hK hb => exact ⟨ci, K, hK, recd hb⟩
  | failed ci K hK hb => exact ⟨ci, K, hK, by rw [cmdAt_congr (failCommand_cmds _ _)]; exact recd hb⟩
  | succeeded ci K hK hb => exact ⟨ci, K, hK, by rw [succeedCommand_issued]; exact recd hb⟩

/-- what a pass from `w` that gives command `K` up leaves in `w'` -/
structure GivenUp (w : World) (K : Nat) (w' : World) : Prop where
  shape : ∀ j,
    (candAt w' j).owner = (if j ∈ (cmdAt w K).live ∧ j < w.cands.length then none else (candAt w j).owner) ∧
    (candAt w' j).mark = (if j ∈ (cmdAt w K).live ∧ j < w.cands.length then false else (candAt w j).mark)
  record : CmdOK (cmdAt w K) → (cmdAt w' K).issued = true →
    w.mode ≠ .waitOnly ∧ timedOut w (cmdAt w K) = true ∧ ∀ r ∈ (cmdAt w K).repls, r.latched = true ∨ r.api = .init
  quiet : Calm w → ∀ j ∈ (cmdAt w K).live, (candAt w j).gone = false →
    (candAt w' j).taint = false ∧ (candAt w' j).cond = false

theorem course_failed {w : World} {evs : List DelEvent} {w' : World} (h : Course w (.failed, evs, w')) :
    ∃ ci K, (candAt w ci).owner = some K ∧ GivenUp w K w' := by
  cases h with
  | failed ci K hK hb why =>
    refine ⟨ci, K, hK, fail_shape K hb.keep, fun hok hi => ?_, fun hc j hj hg =>
      failCommand_quiet K (hb.calm hc) j (by rw [hb.keep.live]; exact hj) (by rw [hb.keep.gone]; exact hg)⟩
    rcases why with ⟨he, hr⟩ | ⟨hm, ht, hr⟩
    · -- stopped before the delete phase: `issued` is as it was, and were it set the loop would have been ready
      rw [cmdAt_congr (failCommand_cmds _ _), hb.issued, he] at hi
      exact absurd (waitLoop_allLatched K _ 0 w (hok.2 (by simpa using hi))) hr
    · exact ⟨hm, ht, ready_of_waited hr⟩

/-- the world a step starts from: the per-step fault counter is cleared (observation only) -/
def reset (w : World) : World := { w with fired := 0 }

@[simp] theorem candAt_reset (w : World) (j : Nat) : candAt (reset w) j = candAt w j := rfl
@[simp] theorem cmdAt_reset (w : World) (k : Nat) : cmdAt (reset w) k = cmdAt w k := rfl
@[simp] theorem reset_cmds (w : World) : (reset w).cmds = w.cmds := rfl
@[simp] theorem reset_cands (w : World) : (reset w).cands = w.cands := rfl
@[simp] theorem reset_mode (w : World) : (reset w).mode = w.mode := rfl
theorem calm_reset {w : World} (hq : Quiet w) (hr : 0 < w.retrySteps) : Calm (reset w) := ⟨hq, hr⟩
@[simp] theorem timedOut_reset (w : World) (c : Cmd) : timedOut (reset w) c = timedOut w c := rfl

theorem step_reconcile (w : World) (k on : Nat) : step w (.reconcile k on) = reconcile k on (reset w) := rfl
theorem step_start (w : World) (k : Nat) (via : Bool) :
    step w (.start k via) = ((startCommand k via (reset w)).1, [], (startCommand k via (reset w)).2) := rfl
theorem step_cleanup (w : World) : step w .cleanup = ((cleanup (reset w)).1, [], (cleanup (reset w)).2) := rfl
theorem step_restart (w : World) : step w .restart = (.ok, [], restart (reset w)) := rfl

theorem step_course (w : World) (k on : Nat) :
    Course (reset w) ((step w (.reconcile k on)).1, (step w (.reconcile k on)).2.1, (step w (.reconcile k on)).2.2) := by
  rw [step_reconcile]
  unfold reconcile
  simp only
  split
  · exact Course.skip
  · exact reconcileCand_course _ _

theorem failed_pass (w : World) (k on : Nat) (hfail : (step w (.reconcile k on)).1 = .failed) :
    ∃ ci K, (candAt w ci).owner = some K ∧ GivenUp w K (step w (.reconcile k on)).2.2 := by
  have hc := step_course w k on
  rw [hfail] at hc
  obtain ⟨ci, K, hK, h⟩ := course_failed hc
  exact ⟨ci, K, hK, h.shape, h.record, h.quiet⟩

theorem carried_step (w : World) (s : Step) : Carried w (step w s).2.2 := by
  have h0 : Carried w (reset w) := carried_cmds_eq rfl
  cases s with
  | start k via => rw [step_start]; exact h0.trans (carried_startCommand k via _)
  | reconcile k on => exact h0.trans (carried_course (step_course w k on))
  | advance ns =>
    simp only [step]
    split
    · exact carried_cmds_eq rfl
    · exact h0
  | env op k i => exact h0.trans (carried_envStep op k i _)
  | candGone i => exact h0.trans (carried_cmds_eq (candGone_cmds i _))
  | sync => exact h0.trans (carried_syncAll _)
  | restart => rw [step_restart]; exact h0.trans (carried_restart _)
  | cleanup => rw [step_cleanup]; exact h0.trans (carried_eff (eff_cleanup _))

theorem accepted_start_free {w : World} {k : Nat} {via : Bool} (hok : (step w (.start k via)).1 = .ok) :
    ∀ j ∈ (cmdAt w k).cands, (candAt w j).owner = none ∧ (candAt w j).gone = false := by
  rw [step_start] at hok
  rcases startCommand_cases k via (reset w) with ⟨hne, _⟩ | ⟨_, _, hfree, _⟩
  · exact absurd hok hne
  · exact hfree

/-- the queue entry of node `j` across a step: kept, released (restart, completing pass), or entered by an accepted
    start of a command that lists `j` and found it free -/
theorem step_owner (w : World) (s : Step) (j : Nat) :
    (candAt (step w s).2.2 j).owner = (candAt w j).owner ∨
    ((candAt (step w s).2.2 j).owner = none ∧
      (s = .restart ∨ ∃ k on, s = .reconcile k on ∧ ((step w s).1 = .failed ∨ (step w s).1 = .succeeded))) ∨
    ∃ k via, s = .start k via ∧ (step w s).1 = .ok ∧ k < w.cmds.length ∧ j ∈ (cmdAt w k).cands ∧
      (candAt w j).owner = none ∧ (candAt (step w s).2.2 j).owner = some k := by
  cases s with
  | start k via =>
    rw [step_start]
    rcases startCommand_owner_mark k via (reset w) with ⟨_, hk⟩ | ⟨hok, hlt, hfree, hall⟩
    · exact Or.inl (hk j).1
    · rcases hall j with ⟨ho, _⟩ | ⟨hm, ho, _⟩
      · exact Or.inl ho
      · exact Or.inr (Or.inr ⟨k, via, rfl, hok, hlt, hm, (hfree j hm).1, ho⟩)
  | reconcile k on =>
    rcases course_owner (step_course w k on) j with ho | ⟨ho, hr⟩
    · exact Or.inl ho
    · exact Or.inr (Or.inl ⟨ho, Or.inr ⟨k, on, rfl, hr⟩⟩)
  | advance ns =>
    left
    simp only [step]
    split <;> rfl
  | env op k i => exact Or.inl (congrArg Cand.owner (candAt_congr (envStep_cands op k i (reset w)) j))
  | candGone i => exact Or.inl (candGone_cand i (reset w) j).1
  | sync => exact Or.inl rfl
  | restart => rw [step_restart]; exact Or.inr (Or.inl ⟨(restart_cand (reset w) j).1, Or.inl rfl⟩)
  | cleanup => rw [step_cleanup]; exact Or.inl ((keep_eff ((eff_cleanup (reset w)).mono tc_api)).owner j)

end Karp.OrchQueue
