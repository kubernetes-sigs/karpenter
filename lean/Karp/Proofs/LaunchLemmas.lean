/-
Lemmas for C15 about
* the launch under failing API writes (`Karp.Drift.launchReconcile`): an invariant over all histories of reconciles;
* `instanceTypeNotFound` and the availability of offerings.
-/
import Karp.Model.Drift

namespace Karp.Drift

/-! ### Labels as maps: two label lists are the same map when every lookup agrees -/

def SameMap (a b : Labels) : Prop := ∀ k, a.lookup k = b.lookup k

theorem SameMap.refl (a : Labels) : SameMap a a := fun _ => rfl

theorem lookup_populate (a p : Labels) (k : String) :
    (populateLabels a p).lookup k = (a.lookup k).or (p.lookup k) := by
  unfold populateLabels assign
  rw [List.lookup_append]

theorem populate_sameMap (l0 p a : Labels) (h : SameMap a l0 ∨ SameMap a (populateLabels l0 p)) :
    SameMap (populateLabels a p) (populateLabels l0 p) := by
  intro k
  rw [lookup_populate, lookup_populate]
  rcases h with h | h
  · rw [h k]
  · rw [h k, lookup_populate]
    cases l0.lookup k <;> cases p.lookup k <;> rfl

/-! ### The launch invariant -/

/-- what holds of the stored NodeClaim and the launch cache in every state reachable from a fresh NodeClaim with labels
    `l0` whose provider answers `Create` with `p` -/
structure LaunchInv (l0 p : Labels) (s : LaunchSt) : Prop where
  cache : s.cache = none ∨ s.cache = some p
  creates : (s.creates = 0 ∧ s.cache = none ∧ s.launched = false) ∨
            (s.creates = 1 ∧ (s.cache = some p ∨ s.launched = true))
  labels : SameMap s.labels l0 ∨ SameMap s.labels (populateLabels l0 p)
  launched : s.launched = true → SameMap s.labels (populateLabels l0 p)

theorem launchInv_init (l0 p : Labels) : LaunchInv l0 p { labels := l0 } :=
  ⟨Or.inl rfl, Or.inl ⟨rfl, rfl, rfl⟩, Or.inl (SameMap.refl _), fun h => by cases h⟩

theorem launchInv_step (l0 p : Labels) (s : LaunchSt) (f : Nat) (h : LaunchInv l0 p s) :
    LaunchInv l0 p (launchReconcile s p f).1 := by
  -- the answer that is merged: the cached one or the provider's — `p` either way; `Create` is called at most once
  have hc : ¬ s.launched = true →
      s.cache.getD p = p ∧ (if s.cache.isSome = true then s.creates else s.creates + 1) = 1 := by
    intro hl
    rcases h.creates with ⟨c0, cn, _⟩ | ⟨c1, hc | hc⟩
    · rw [cn, c0]; exact ⟨rfl, rfl⟩
    · rw [hc, c1]; exact ⟨rfl, rfl⟩
    · exact absurd hc hl
  have hm := populate_sameMap l0 p s.labels h.labels
  fun_cases launchReconcile s p f
  case case1 => exact h
  case case2 hl =>
    -- already launched: only the cache entry goes
    refine ⟨Or.inl rfl, ?_, h.labels, fun _ => h.launched hl⟩
    rcases h.creates with ⟨_, _, h3⟩ | ⟨h1, _⟩
    · exact absurd hl (by rw [h3]; exact Bool.false_ne_true)
    · exact Or.inr ⟨h1, Or.inr hl⟩
  all_goals obtain ⟨hg, hn⟩ := hc (by assumption)
  case case3 =>
    -- the metadata patch fails: only the cache and the call count change
    exact ⟨Or.inr (congrArg some hg), Or.inr ⟨hn, Or.inl (congrArg some hg)⟩, h.labels, fun hx => absurd hx (by assumption)⟩
  -- the labels are merged, whether or not the status patch fails
  all_goals exact ⟨Or.inr (congrArg some hg), Or.inr ⟨hn, Or.inl (congrArg some hg)⟩, Or.inr (hg ▸ hm), fun _ => hg ▸ hm⟩

theorem launchInv_final (l0 p : Labels) (fs : List Nat) (s : LaunchSt) (h : LaunchInv l0 p s) :
    LaunchInv l0 p (launchFinal s p fs) := by
  induction fs generalizing s with
  | nil => exact h
  | cons f rest ih => exact ih _ (launchInv_step l0 p s f h)

theorem launchInv_run (l0 p : Labels) (fs : List Nat) (s : LaunchSt) (h : LaunchInv l0 p s) :
    ∀ r ∈ launchRun s p fs, LaunchInv l0 p r.1 := by
  induction fs generalizing s with
  | nil => intro r hr; cases hr
  | cons f rest ih =>
    intro r hr
    simp only [launchRun, List.mem_cons] at hr
    rcases hr with hr | hr
    · rw [hr]; exact launchInv_step l0 p s f h
    · exact ih _ (launchInv_step l0 p s f h) r hr

/-! ### `instanceTypeNotFound` does not read availability -/

/-- the catalogue with every availability flag forgotten -/
def listed (its : List ITD) : List (String × List Karp.Req.Reqs) := its.map (fun it => (it.name, it.offerings.map (·.reqs)))

theorem find_listed (its its' : List ITD) (h : listed its = listed its') (n : String) :
    (its.find? (fun it => it.name == n)).map (fun it => it.offerings.map (·.reqs)) =
    (its'.find? (fun it => it.name == n)).map (fun it => it.offerings.map (·.reqs)) := by
  have key : ∀ l : List ITD, (l.find? (fun it => it.name == n)).map (fun it => it.offerings.map (·.reqs)) =
      ((listed l).find? (fun x => x.1 == n)).map (·.2) := by
    intro l; unfold listed; rw [List.find?_map, Option.map_map]; rfl
  rw [key, key, h]

theorem instanceTypeNotFound_listed (its its' : List ITD) (h : listed its = listed its') (labels : Labels)
    (wk rl : List String) : instanceTypeNotFound its labels wk rl = instanceTypeNotFound its' labels wk rl := by
  have hf := find_listed its its' h ((labels.lookup instanceTypeKey).getD "")
  unfold instanceTypeNotFound
  generalize its.find? (fun it => it.name == (labels.lookup instanceTypeKey).getD "") = a at hf ⊢
  generalize its'.find? (fun it => it.name == (labels.lookup instanceTypeKey).getD "") = b at hf ⊢
  cases a <;> cases b
  · rfl
  · cases hf
  · cases hf
  · -- the offerings are read only through their requirements
    have e : ∀ (R : Karp.Req.Reqs) (x : ITD), (x.offerings.any (fun o => R.compatible o.reqs wk)) =
        ((x.offerings.map (·.reqs)).any (fun o => R.compatible o wk)) := fun R x => by rw [List.any_map]; rfl
    simp only [e, Option.some.inj hf]

end Karp.Drift
