/-
The pass with reservations and limits (C19): what a verdict means (`Accounts`), first per pod against the templates and
the claim counters the pod met, then, because the counters only grow, against the counters at the end of the pass.
-/
import Karp.Proofs.WeightPriceLemmas
import Karp.Proofs.FirstSuccessLemmas
import Karp.Model.ReservedFallback

namespace Karp.ReservedFallback
open List Karp.WeightOrder Karp.FirstSuccess

theorem poolBefore_strictWeak : StrictWeak poolBefore :=
  before_strictWeak.comap (fun q : RPool => ({ name := q.key, weight := q.weight } : Pool))

theorem poolBefore_of_weight {q r : RPool} (h : q.weight < r.weight) : poolBefore r q = true :=
  before_of_weight (p := { name := q.key, weight := q.weight }) (q := { name := r.key, weight := r.weight }) h

/-- claims opened on template `j` according to a state -/
def usedAt (st : TState) (j : Nat) : Nat := (st.getD j (0, 0)).2

theorem usedAt_eq_getD_map (st : TState) (j : Nat) : usedAt st j = (st.map (·.2)).getD j 0 := by
  unfold usedAt
  simp only [List.getD, List.getElem?_map]
  cases st[j]? <;> rfl

theorem fullAt_mono {u u' : Nat} (q : RPool) (h : u ≤ u') (hf : fullAt u q = true) : fullAt u' q = true := by
  unfold fullAt at hf ⊢
  revert hf
  cases q.limit with
  | none => exact id
  | some l =>
    simp only [decide_eq_true_eq]
    exact fun hf => Nat.lt_of_lt_of_le hf (Nat.mul_le_mul_right _ (Nat.succ_le_succ h))

theorem outcomeFor_fail (st : Nat × Nat) (q : RPool) (p : RPod) :
    outcomeFor st q p = .fail ↔ (canHost q p = false ∨ fullAt st.2 q = true) := by
  fun_cases outcomeFor st q p <;> simp_all

theorem outcomeFor_reserved (st : Nat × Nat) (q : RPool) (p : RPod) (h : outcomeFor st q p = .reserved) : 0 < q.cap := by
  revert h
  fun_cases outcomeFor st q p
  · nofun
  · nofun
  · nofun
  · nofun
  · exact fun _ => Nat.pos_of_ne_zero ‹_›

theorem outs_getD (ordered : List RPool) (st : TState) (p : RPod) (hlen : st.length = ordered.length)
    (j : Nat) (r : RPool) (hj : ordered[j]? = some r) :
    ((ordered.zip st).map (fun (q, k) => outcomeFor k q p)).getD j .fail = outcomeFor (st.getD j (0, 0)) r p := by
  have hjs : j < st.length := hlen ▸ (List.getElem?_eq_some_iff.mp hj).1
  have hz : (ordered.zip st)[j]? = some (r, st[j]) :=
    List.getElem?_zip_eq_some.mpr ⟨hj, List.getElem?_eq_getElem hjs⟩
  simp only [List.getD, List.getElem?_map, hz, List.getElem?_eq_getElem hjs, Option.map_some, Option.getD_some]

/-- what a verdict on pod `p` means among the candidates `cands`, where `rank r q` says that `r` is tried before `q`
    and `full r` that the limit of `r` admits no further node -/
def Accounts (cands : List RPool) (rank : RPool → RPool → Prop) (full : RPool → Prop) (p : RPod) : Verdict → Prop
  | .placed qn => ∃ q ∈ cands, q.name = qn ∧ canHost q p = true ∧
      ∀ r ∈ cands, rank r q → (canHost r p = false ∨ full r)
  | .deferred => ∃ q ∈ cands, canHost q p = true ∧ 0 < q.cap ∧
      ∀ r ∈ cands, rank r q → (canHost r p = false ∨ full r)
  | .unschedulable => ∀ r ∈ cands, (canHost r p = false ∨ full r)

theorem Accounts.imp {cands cands' : List RPool} {rank rank' : RPool → RPool → Prop} {full full' : RPool → Prop}
    {p : RPod} {v : Verdict} (hc : ∀ r, r ∈ cands' ↔ r ∈ cands) (hr : ∀ r q, rank' r q → rank r q)
    (hf : ∀ r, full r → full' r) (h : Accounts cands rank full p v) : Accounts cands' rank' full' p v := by
  have hb : ∀ q, (∀ r ∈ cands, rank r q → (canHost r p = false ∨ full r)) →
      ∀ r ∈ cands', rank' r q → (canHost r p = false ∨ full' r) :=
    fun q hb r hr' hrk => (hb r ((hc r).mp hr') (hr r q hrk)).imp id (hf r)
  cases v with
  | placed qn =>
    obtain ⟨q, hq, hn, hcan, h⟩ := h
    exact ⟨q, (hc q).mpr hq, hn, hcan, hb q h⟩
  | deferred =>
    obtain ⟨q, hq, hcan, hcap, h⟩ := h
    exact ⟨q, (hc q).mpr hq, hcan, hcap, hb q h⟩
  | unschedulable =>
    exact fun r hr' => (h r ((hc r).mp hr')).imp id (hf r)

def FullIn (ordered : List RPool) (st : TState) (r : RPool) : Prop :=
  ∃ j : Nat, ordered[j]? = some r ∧ fullAt (usedAt st j) r = true

def Grows (st st' : TState) : Prop := ∀ j, usedAt st j ≤ usedAt st' j

theorem Grows.refl (st : TState) : Grows st st := fun _ => Nat.le_refl _
theorem Grows.trans {a b c : TState} (h1 : Grows a b) (h2 : Grows b c) : Grows a c :=
  fun j => Nat.le_trans (h1 j) (h2 j)

theorem FullIn.mono {ordered : List RPool} {st st' : TState} (hg : Grows st st') (r : RPool) :
    FullIn ordered st r → FullIn ordered st' r :=
  fun ⟨j, hj, hf⟩ => ⟨j, hj, fullAt_mono r (hg j) hf⟩

theorem grows_modify (st : TState) (i : Nat) (q : RPool) : Grows st (st.modify i (claimOn q)) := by
  intro j
  unfold usedAt
  rw [List.getD_eq_getElem?_getD, List.getD_eq_getElem?_getD, List.getElem?_modify]
  cases st[j]? with
  | none => exact Nat.le_refl _
  | some s =>
    show s.2 ≤ (if i = j then claimOn q s else s).2
    split
    · exact Nat.le_succ _
    · exact Nat.le_refl _

theorem stepPod_spec (ordered : List RPool) (hsorted : Sorted poolBefore ordered) (st : TState) (p : RPod)
    (hlen : st.length = ordered.length) :
    ((stepPod ordered st p).2.length = ordered.length) ∧ Grows st (stepPod ordered st p).2 ∧
    Accounts ordered (fun r q => poolBefore r q = true) (FullIn ordered st) p (stepPod ordered st p).1 := by
  unfold stepPod
  simp only
  have hget := outs_getD ordered st p hlen
  generalize houts : (ordered.zip st).map (fun (q, k) => outcomeFor k q p) = outs at hget
  have hol : outs.length = ordered.length := by
    rw [← houts, List.length_map, List.length_zip, hlen, Nat.min_self]
  -- a plain failure at the pool's index is the pool's doing or its counter's
  rcases walk_sorted poolBefore_strictWeak hsorted hol (bad := fun r => canHost r p = false ∨ FullIn ordered st r)
      (fun j r hj hf => ((outcomeFor_fail _ r p).mp (hget j r hj ▸ hf)).imp id fun hfull => ⟨j, hj, hfull⟩) with
    ⟨hfd, hall⟩ | ⟨m, o, q, hfd, hdec, hmq, ho, hbefore⟩ <;> rw [hfd]
  · exact ⟨hlen, Grows.refl _, hall⟩
  · rw [hget m q hmq] at ho
    have hcan : canHost q p = true := by
      cases hc : canHost q p with
      | true => rfl
      | false => exact absurd (ho ▸ (outcomeFor_fail _ q p).mpr (.inl hc)) hdec
    cases o with
    | fail => exact absurd rfl hdec
    | ok =>
      simp only [hmq]
      exact ⟨by rw [List.length_modify]; exact hlen, grows_modify st m _, q, mem_of_getElem? hmq, rfl, hcan, hbefore⟩
    | reserved => exact ⟨hlen, Grows.refl _, q, mem_of_getElem? hmq, hcan, outcomeFor_reserved _ q p ho, hbefore⟩

theorem runPods_spec (ordered : List RPool) (hsorted : Sorted poolBefore ordered) :
    ∀ (pods : List RPod) (st : TState), st.length = ordered.length →
    Grows st (runPods ordered st pods).2 ∧
    ∀ pn v, (pn, v) ∈ (runPods ordered st pods).1 → ∃ p ∈ pods, p.name = pn ∧
      Accounts ordered (fun r q => poolBefore r q = true) (FullIn ordered (runPods ordered st pods).2) p v := by
  intro pods
  induction pods with
  | nil => intro st _; exact ⟨Grows.refl _, fun pn v h => by simp [runPods] at h⟩
  | cons p ps ih =>
    intro st hlen
    obtain ⟨hl, hg, hs⟩ := stepPod_spec ordered hsorted st p hlen
    obtain ⟨hg', hrest⟩ := ih _ hl
    simp only [runPods]
    refine ⟨hg.trans hg', ?_⟩
    intro pn v h
    simp only [List.mem_cons, Prod.mk.injEq] at h
    rcases h with ⟨rfl, rfl⟩ | h
    · exact ⟨p, List.mem_cons_self, rfl, hs.imp (fun _ => Iff.rfl) (fun _ _ => id) (FullIn.mono (hg.trans hg'))⟩
    · obtain ⟨p', hp', hn, he⟩ := hrest pn v h
      exact ⟨p', List.mem_cons_of_mem _ hp', hn, he⟩

theorem mem_queueOrder {pods : List RPod} {p : RPod} (h : p ∈ queueOrder pods) : p ∈ pods := by
  unfold queueOrder at h
  obtain ⟨⟨a, i⟩, hmem, rfl⟩ := List.mem_map.mp h
  have := (sortBy_perm podBefore _).mem_iff.mp hmem
  exact (List.of_mem_zip this).1

def FullAtEnd (pools : List RPool) (pods : List RPod) (r : RPool) : Prop :=
  ∃ j : Nat, (templates pools)[j]? = some r ∧ fullAt ((finalUsed pools pods).getD j 0) r = true

/-- what a verdict of the pass must mean in terms of the pools (no reference to the template order) -/
def Justified (pools : List RPool) (pods : List RPod) (p : RPod) : Verdict → Prop
  | .placed qn => ∃ q ∈ pools, q.name = qn ∧ canHost q p = true ∧
      ∀ r ∈ pools, (poolBefore r q = true ∨ q.weight < r.weight) → (canHost r p = false ∨ FullAtEnd pools pods r)
  | .deferred => ∃ q ∈ pools, canHost q p = true ∧ 0 < q.cap ∧
      ∀ r ∈ pools, (poolBefore r q = true ∨ q.weight < r.weight) → (canHost r p = false ∨ FullAtEnd pools pods r)
  | .unschedulable => ∀ r ∈ pools, (canHost r p = false ∨ FullAtEnd pools pods r)

end Karp.ReservedFallback
