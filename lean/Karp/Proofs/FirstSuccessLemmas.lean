/-
`parallelizeUntil` + `addToNewNodeClaim` (C19): the sequential walk by cases, over a sorted list of candidates
(`walk_sorted`) and over the NodePools in weight order (`weight_priority_of_filter`); the invariant of the
worker/publication protocol under every interleaving; the bookkeeping of the progress measure.
-/
import Karp.Model.FirstSuccess
import Karp.Proofs.WeightPriceLemmas
import Karp.Proofs.ListLemmas

namespace Karp.FirstSuccess

def IsFirst (outs : List Outcome) (m : Nat) : Prop :=
  m < outs.length ∧ outs.getD m .fail ≠ .fail ∧ ∀ j, j < m → outs.getD j .fail = .fail

theorem isFirst_unique {outs : List Outcome} {m m' : Nat} (h : IsFirst outs m) (h' : IsFirst outs m') : m = m' := by
  rcases Nat.lt_trichotomy m m' with hlt | heq | hgt
  · exact absurd (h'.2.2 m hlt) h.2.1
  · exact heq
  · exact absurd (h.2.2 m' hgt) h'.2.1

theorem isFirst_le {outs : List Outcome} {m i : Nat} (h : IsFirst outs m) (hi : outs.getD i .fail ≠ .fail) : m ≤ i := by
  rcases Nat.lt_or_ge i m with hlt | hge
  · exact absurd (h.2.2 i hlt) hi
  · exact hge

theorem IsFirst.zero {o : Outcome} (os : List Outcome) (h : o ≠ .fail) : IsFirst (o :: os) 0 :=
  ⟨Nat.zero_lt_succ _, h, fun _ hj => absurd hj (Nat.not_lt_zero _)⟩

theorem IsFirst.succ {os : List Outcome} {m : Nat} (h : IsFirst os m) : IsFirst (.fail :: os) (m + 1) :=
  ⟨Nat.succ_lt_succ h.1, h.2.1, fun j hj => by
    cases j with
    | zero => rfl
    | succ j => exact h.2.2 j (Nat.lt_of_succ_lt_succ hj)⟩

theorem firstDecisive_cases (outs : List Outcome) :
    (firstDecisive outs = none ∧ ∀ i, outs.getD i .fail = .fail) ∨
    ∃ m o, firstDecisive outs = some (m, o) ∧ IsFirst outs m ∧ outs.getD m .fail = o := by
  fun_induction firstDecisive outs with
  | case1 => exact .inl ⟨rfl, fun _ => rfl⟩
  | case2 os ih =>
    rcases ih with ⟨h, hall⟩ | ⟨m, o, h, hm, ho⟩ <;> rw [h]
    · refine .inl ⟨rfl, fun i => ?_⟩
      cases i with
      | zero => rfl
      | succ i => exact hall i
    · exact .inr ⟨m + 1, o, rfl, hm.succ, ho⟩
  | case3 o os hne => exact .inr ⟨0, o, rfl, .zero os hne, rfl⟩

theorem sequentialResult_cases (outs : List Outcome) :
    (sequentialResult outs = none ∧ ∀ i, outs.getD i .fail = .fail) ∨
    ∃ m, IsFirst outs m ∧
      ((outs.getD m .fail = .ok ∧ sequentialResult outs = some m) ∨
       (outs.getD m .fail = .reserved ∧ sequentialResult outs = none)) := by
  unfold sequentialResult
  rcases firstDecisive_cases outs with ⟨hfd, hall⟩ | ⟨m, o, hfd, hm, ho⟩ <;> rw [hfd]
  · exact .inl ⟨rfl, hall⟩
  · refine .inr ⟨m, hm, ?_⟩
    cases o with
    | fail => exact absurd ho hm.2.1
    | ok => exact .inl ⟨ho, rfl⟩
    | reserved => exact .inr ⟨ho, rfl⟩

section
open Karp.WeightOrder
variable {α : Type} {lt : α → α → Bool} {l : List α} {outs : List Outcome}

/-- a walk over a list sorted by `lt` stops at the first candidate that does not plainly fail: whatever a plain failure
    at a candidate's index means for the candidate (`bad`), it holds of every candidate ranked before the one the walk
    stops at, and of all of them if it stops nowhere -/
theorem walk_sorted (hsw : StrictWeak lt) (hs : Sorted lt l) (hlen : outs.length = l.length) {bad : α → Prop}
    (hbad : ∀ j q, l[j]? = some q → outs.getD j .fail = .fail → bad q) :
    (firstDecisive outs = none ∧ ∀ q ∈ l, bad q) ∨
    ∃ m o p, firstDecisive outs = some (m, o) ∧ o ≠ .fail ∧ l[m]? = some p ∧ outs.getD m .fail = o ∧
      ∀ q ∈ l, lt q p = true → bad q := by
  rcases firstDecisive_cases outs with ⟨hfd, hall⟩ | ⟨m, o, hfd, hm, ho⟩
  · exact .inl ⟨hfd, fun q hq => (List.getElem?_of_mem hq).elim fun j hj => hbad j q hj (hall j)⟩
  · have hmlt : m < l.length := hlen ▸ hm.1
    have hmp : l[m]? = some l[m] := List.getElem?_eq_getElem hmlt
    refine .inr ⟨m, o, _, hfd, ho ▸ hm.2.1, hmp, ho, fun q hq hlt => ?_⟩
    obtain ⟨j, hjm, hj⟩ := exists_index_lt_of_lt hsw hs hmp hq hlt
    exact hbad j q hj (hm.2.2 j hjm)

/-- a pool that is filtered out neither receives the pod nor stands in the way of a lower-ranked pool -/
theorem weight_priority_of_filter (pools ord : List Pool) (keep : Pool → Bool) (f : Pool → Outcome)
    (hsort : allowedSort before (pools.filter keep) ord = true) :
    match sequentialResult (ord.map f) with
    | some i => ∃ p, ord[i]? = some p ∧ p ∈ pools ∧ keep p = true ∧ f p = .ok ∧
        ∀ q ∈ pools, keep q = true → (before q p = true ∨ p.weight < q.weight) → f q = .fail
    | none => (∀ q ∈ pools, keep q = true → f q = .fail) ∨
        ∃ p ∈ pools, keep p = true ∧ f p = .reserved ∧
          ∀ q ∈ pools, keep q = true → (before q p = true ∨ p.weight < q.weight) → f q = .fail := by
  obtain ⟨hperm, hsorted⟩ := (allowedSort_iff _ _ _).mp hsort
  have hmem : ∀ q, q ∈ ord ↔ q ∈ pools ∧ keep q = true := fun q => hperm.mem_iff.symm.trans List.mem_filter
  have hget : ∀ (j : Nat) (q : Pool), ord[j]? = some q → (ord.map f).getD j .fail = f q := by
    intro j q hjq
    rw [List.getD_eq_getElem?_getD, List.getElem?_map, hjq]
    rfl
  unfold sequentialResult
  rcases walk_sorted before_strictWeak hsorted (List.length_map f) (bad := fun q => f q = .fail)
      (fun j q hjq hf => hget j q hjq ▸ hf) with
    ⟨hfd, hall⟩ | ⟨m, o, p, hfd, hdec, hmp, ho, hbefore⟩ <;> rw [hfd]
  · exact Or.inl fun q hq hk => hall q ((hmem q).mpr ⟨hq, hk⟩)
  · obtain ⟨hpp, hk⟩ := (hmem p).mp (List.mem_of_getElem? hmp)
    have hbefore : ∀ q ∈ pools, keep q = true → (before q p = true ∨ p.weight < q.weight) → f q = .fail :=
      fun q hq hk hrank => hbefore q ((hmem q).mpr ⟨hq, hk⟩) (hrank.elim id before_of_weight)
    rw [hget m p hmp] at ho
    cases o with
    | fail => exact absurd rfl hdec
    | ok => exact ⟨p, hmp, hpp, hk, ho, hbefore⟩
    | reserved => exact Or.inr ⟨p, hpp, hk, ho, hbefore⟩

/-- the same when the evaluation is a Boolean test: the walk never ends waiting -/
theorem weight_priority_of_test (pools ord : List Pool) (keep g : Pool → Bool) (f : Pool → Outcome)
    (hf : ∀ p, f p = if g p then .ok else .fail) (hsort : allowedSort before (pools.filter keep) ord = true) :
    match sequentialResult (ord.map f) with
    | some i => ∃ p, ord[i]? = some p ∧ p ∈ pools ∧ (keep p && g p) = true ∧
        ∀ q ∈ pools, (before q p = true ∨ p.weight < q.weight) → (keep q && g q) = false
    | none => ∀ q ∈ pools, (keep q && g q) = false := by
  have h := weight_priority_of_filter pools ord keep f hsort
  have hval : ∀ p, (f p = .ok ↔ g p = true) ∧ (f p = .fail ↔ g p = false) ∧ f p ≠ .reserved := fun p => by
    rw [hf]; cases g p <;> simp
  generalize sequentialResult _ = res at h ⊢
  cases res with
  | some i =>
    obtain ⟨p, hp, hpp, hk, hok, hall⟩ := h
    exact ⟨p, hp, hpp, Bool.and_eq_true_iff.mpr ⟨hk, (hval p).1.mp hok⟩,
      fun q hq hr => Bool.and_eq_false_imp.mpr fun hkq => (hval q).2.1.mp (hall q hq hkq hr)⟩
  | none =>
    rcases h with h | ⟨p, _, _, hres, _⟩
    · exact fun q hq => Bool.and_eq_false_imp.mpr fun hkq => (hval q).2.1.mp (h q hq hkq)
    · exact absurd hres (hval p).2.2
end

theorem all_take_fail (outs : List Outcome) (i : Nat) :
    (outs.take i).all (· == .fail) = true ↔ ∀ j, j < i → outs.getD j .fail = .fail := by
  induction outs generalizing i with
  | nil => simp
  | cons o os ih =>
    cases i with
    | zero => simp
    | succ i =>
      simp only [List.take_succ_cons, List.all_cons, Bool.and_eq_true, beq_iff_eq, ih, Nat.forall_lt_succ_left,
        List.getD_cons_zero, List.getD_cons_succ]

theorem qualifies_iff (outs : List Outcome) (i : Nat) :
    Karp.Spec.WeightPrice.qualifies outs i = true ↔ IsFirst outs i ∧ outs.getD i .fail = .ok := by
  rw [Karp.Spec.WeightPrice.qualifies, Bool.and_eq_true, beq_iff_eq, all_take_fail, IsFirst]
  constructor
  · rintro ⟨h1, h2⟩
    refine ⟨⟨Nat.lt_of_not_le fun hge => ?_, by rw [h1]; decide, h2⟩, h1⟩
    -- an index past the end reads as a plain failure
    rw [List.getD_eq_getElem?_getD, List.getElem?_eq_none hge] at h1
    cases h1
  · exact fun ⟨⟨_, _, h2⟩, h1⟩ => ⟨h1, h2⟩

def claimFor (outs : List Outcome) (j : Nat) : Option Nat :=
  if outs.getD j .fail = .ok then some j else none

theorem finish_fail {outs : List Outcome} {i : Nat} (s : St) (w : Nat) (h : outs.getD i .fail = .fail) :
    finish outs s w i = { s with workers := s.workers.set w .idle } := by
  unfold finish; rw [h]

theorem finish_decisive {outs : List Outcome} {i : Nat} (s : St) (w : Nat) (h : outs.getD i .fail ≠ .fail) :
    finish outs s w i =
      if rejects s.idx i then { s with workers := s.workers.set w .done }
      else { s with workers := s.workers.set w .done, idx := some i, claim := claimFor outs i } := by
  unfold finish claimFor
  cases ho : outs.getD i .fail with
  | fail => exact absurd ho h
  | ok => rfl
  | reserved => rfl

/-- holds in every state of every schedule; `firstHeld`: the first decisive piece, once handed out, is still being
    worked on or is the published index -/
structure Inv (outs : List Outcome) (s : St) : Prop where
  busyLt : ∀ (w i : Nat), s.workers[w]? = some (W.busy i) → i < s.next
  idxOk : match s.idx with
    | some j => outs.getD j .fail ≠ .fail ∧ s.claim = claimFor outs j
    | none => s.claim = none
  doneAfterFirst : ∀ (m : Nat), IsFirst outs m → (∃ w : Nat, s.workers[w]? = some W.done) → m < s.next
  firstHeld : ∀ (m : Nat), IsFirst outs m → m < s.next → (∃ w : Nat, s.workers[w]? = some (W.busy m)) ∨ s.idx = some m

theorem inv_init (n : Nat) (outs : List Outcome) : Inv outs (init n outs) := by
  have hidle : ∀ (w : Nat) (x : W), (init n outs).workers[w]? = some x → x = .idle :=
    fun w x h => (List.mem_replicate.mp (List.mem_of_getElem? h)).2
  exact ⟨fun w i h => (nomatch hidle w _ h), rfl, fun m _ ⟨w, h⟩ => (nomatch hidle w _ h),
    fun m _ h => absurd h (Nat.not_lt_zero m)⟩

section
variable {α : Type} {l : List α} {w w' : Nat} {v x : α}

theorem eq_or_of_getElem?_set (h : (l.set w v)[w']? = some x) : x = v ∨ l[w']? = some x := by
  rw [List.getElem?_set] at h
  split at h
  · split at h
    · exact .inl (Option.some.inj h).symm
    · cases h
  · exact .inr h

theorem exists_getElem?_set (w : Nat) (v : α) (h : ∃ w' : Nat, l[w']? = some x) (hw : l[w]? ≠ some x) :
    ∃ w' : Nat, (l.set w v)[w']? = some x := by
  obtain ⟨w', h'⟩ := h
  refine ⟨w', ?_⟩
  have hne : w ≠ w' := by
    intro e; subst e; exact hw h'
  rw [List.getElem?_set_ne hne]
  exact h'
end

section
variable {outs : List Outcome} {s : St}

theorem Inv.publish (h : Inv outs s) {i : Nat} (ho : outs.getD i .fail ≠ .fail)
    (hrej : rejects s.idx i = false) : Inv outs { s with idx := some i, claim := claimFor outs i } := by
  refine ⟨h.busyLt, ⟨ho, rfl⟩, h.doneAfterFirst, fun m hm hlt => ?_⟩
  refine (h.firstHeld m hm hlt).imp id fun hidx => ?_
  -- `idx = some m` with `m` first would have rejected the decisive piece `i ≥ m`
  rw [hidx] at hrej
  exact absurd (isFirst_le hm ho) (of_decide_eq_false hrej)

theorem Inv.release (h : Inv outs s) (w : Nat) {v : W} (hv : v.isBusy = false)
    (hdone : v = .done → ∀ m, IsFirst outs m → m < s.next)
    (hheld : ∀ m, IsFirst outs m → s.workers[w]? = some (.busy m) → s.idx = some m) :
    Inv outs { s with workers := s.workers.set w v } := by
  refine ⟨fun w' i' h' => ?_, h.idxOk, fun m hm ⟨w', h'⟩ => ?_, fun m hm hlt => ?_⟩
  · rcases eq_or_of_getElem?_set h' with e | e
    · subst e; cases hv
    · exact h.busyLt w' i' e
  · rcases eq_or_of_getElem?_set h' with e | e
    · exact hdone e.symm m hm
    · exact h.doneAfterFirst m hm ⟨w', e⟩
  · by_cases hb : s.workers[w]? = some (.busy m)
    · exact .inr (hheld m hm hb)
    · exact (h.firstHeld m hm hlt).imp (fun hex => exists_getElem?_set w v hex hb) id

theorem Inv.take (h : Inv outs s) {w : Nat} (hw : s.workers[w]? = some .idle) :
    Inv outs { s with next := s.next + 1, workers := s.workers.set w (.busy s.next) } := by
  refine ⟨fun w' i' h' => ?_, h.idxOk, fun m hm ⟨w', h'⟩ => ?_, fun m hm hm' => ?_⟩
  · rcases eq_or_of_getElem?_set h' with e | e
    · cases e; exact Nat.lt_succ_self _
    · exact Nat.lt_succ_of_lt (h.busyLt w' i' e)
  · rcases eq_or_of_getElem?_set h' with e | e
    · cases e
    · exact Nat.lt_succ_of_lt (h.doneAfterFirst m hm ⟨w', e⟩)
  · rcases Nat.lt_succ_iff_lt_or_eq.mp hm' with hlt' | rfl
    · have hb : s.workers[w]? ≠ some (.busy m) := fun e => nomatch hw.symm.trans e
      exact (h.firstHeld m hm hlt').imp (fun hex => exists_getElem?_set w _ hex hb) id
    · exact .inl ⟨w, List.getElem?_set_self (List.getElem?_eq_some_iff.mp hw).1⟩
end

theorem inv_step (outs : List Outcome) (s : St) (w : Nat) (h : Inv outs s) : Inv outs (step outs s w) := by
  fun_cases step outs s w
  · exact h
  · exact h
  · -- worker `w` finishes piece `i`
    rename_i i hw
    have hi : i < s.next := h.busyLt w i hw
    have hsame : ∀ m, s.workers[w]? = some (.busy m) → m = i :=
      fun m hb => W.busy.inj (Option.some.inj (hb.symm.trans hw))
    by_cases ho : outs.getD i .fail = .fail
    · -- plain failure: piece `i` is not the first decisive one
      rw [finish_fail s w ho]
      exact h.release w rfl nofun fun m hm hb => absurd (hsame m hb ▸ ho) hm.2.1
    · rw [finish_decisive s w ho]
      -- a decisive piece has been handed out, so the first one has
      have hdone : W.done = .done → ∀ m, IsFirst outs m → m < s.next :=
        fun _ m hm => Nat.lt_of_le_of_lt (isFirst_le hm ho) hi
      split
      · -- rejected: `idx = some j` with `j ≤ i` decisive; if `i` is first then `j = i`
        rename_i hrej
        refine h.release w rfl hdone fun m hm hb => ?_
        obtain rfl := hsame m hb
        cases hidx : s.idx with
        | none => rw [hidx] at hrej; cases hrej
        | some j =>
          have hIdx := h.idxOk
          rw [hidx] at hrej hIdx
          exact congrArg some (Nat.le_antisymm (of_decide_eq_true hrej) (isFirst_le hm hIdx.1))
      · rename_i hrej
        exact (h.publish ho (Bool.eq_false_iff.mpr hrej)).release w rfl hdone
          fun m _ hb => congrArg some (hsame m hb).symm
  · -- an idle worker receives the next piece
    rename_i hw _
    exact h.take hw
  · -- channel closed and drained: every piece has been handed out
    rename_i hw hge
    exact h.release w rfl (fun _ m hm => Nat.lt_of_lt_of_le hm.1 (Nat.le_of_not_lt hge))
      fun m _ hb => nomatch hw.symm.trans hb

theorem inv_run (outs : List Outcome) (sched : List Nat) : ∀ s, Inv outs s → Inv outs (run outs s sched) := by
  induction sched with
  | nil => intro s h; exact h
  | cons w ws ih => intro s h; exact ih _ (inv_step outs s w h)

theorem Inv.result_eq {outs : List Outcome} {s : St} (h : Inv outs s) (hdone : ∀ x ∈ s.workers, x = W.done)
    (hne : outs ≠ [] → s.workers ≠ []) : result s = sequentialResult outs := by
  have hIdx := h.idxOk
  unfold result
  rcases sequentialResult_cases outs with ⟨hr, hall⟩ | ⟨m, hm, hcase⟩
  · rw [hr]
    cases hidx : s.idx with
    | none => rw [hidx] at hIdx; exact hIdx
    | some j => rw [hidx] at hIdx; exact absurd (hall j) hIdx.1
  · -- a returned worker means the first decisive piece was handed out; nobody holds it any more, so it is published
    obtain ⟨x, hx⟩ := List.exists_mem_of_ne_nil _ (hne (List.ne_nil_of_length_pos (Nat.zero_lt_of_lt hm.1)))
    obtain ⟨w, hw⟩ := List.getElem?_of_mem hx
    have hidx : s.idx = some m := by
      rcases h.firstHeld m hm (h.doneAfterFirst m hm ⟨w, hdone x hx ▸ hw⟩) with ⟨w', hw'⟩ | h'
      · cases hdone _ (List.mem_of_getElem? hw')
      · exact h'
    rw [hidx] at hIdx
    rw [hIdx.2]
    unfold claimFor
    rcases hcase with ⟨ho, hr⟩ | ⟨ho, hr⟩ <;> rw [hr, ho] <;> simp

theorem step_workers_length (outs : List Outcome) (s : St) (w : Nat) :
    (step outs s w).workers.length = s.workers.length := by
  fun_cases step outs s w
  · rfl
  · rfl
  · rename_i i _
    by_cases ho : outs.getD i .fail = .fail
    · rw [finish_fail s w ho]; exact List.length_set
    · rw [finish_decisive s w ho]; split <;> exact List.length_set
  · exact List.length_set
  · exact List.length_set

theorem run_workers_length (outs : List Outcome) (sched : List Nat) :
    ∀ s, (run outs s sched).workers.length = s.workers.length := by
  induction sched with
  | nil => intro s; rfl
  | cons w ws ih => intro s; rw [run, ih, step_workers_length]

/-- a worker's share of `progressMeasure`: 2 while it waits at the channel, 3 while it holds a piece, 0 once returned -/
def workerWeight (x : W) : Nat := (if x.isBusy then 1 else 0) + 2 * (if x.notDone then 1 else 0)

theorem progressMeasure_set (outs : List Outcome) (s : St) (w n : Nat) (x v : W) (idx claim : Option Nat)
    (hx : s.workers[w]? = some x)
    (h : 2 * (outs.length - n) + workerWeight v < 2 * (outs.length - s.next) + workerWeight x) :
    progressMeasure outs { next := n, workers := s.workers.set w v, idx := idx, claim := claim }
      < progressMeasure outs s := by
  have hb := countP_set_add W.isBusy hx v
  have hd := countP_set_add W.notDone hx v
  unfold workerWeight at h
  simp only [progressMeasure, ← List.countP_eq_length_filter]
  omega

end Karp.FirstSuccess
