/-
Bridge between the consolidation model and the executable specification (C06): the specification's "the request
permits this launch", node price and combined price are the model's offering compatibility, candidate price and
price sum on the scenario read as model input (`Karp/Model/ConsolidateScn.lean`), and the specification's price clause
follows from the model's price bound.  Core Lean only.
-/
import Karp.Proofs.Consolidate
import Karp.Model.ConsolidateScn
import Karp.Spec.Consolidation

namespace Karp.Consolidate
open Karp.Req Karp.Scn
open Karp.Spec.Consolidation (permits launches combinedPrice nodePrice strictlyCheaper firstV)

theorem permits_eq (ridKey : String) (R : Reqs) (o : Scn.Offering) :
    permits ridKey R o = offeringCompat ridKey R (offeringOf o) := by
  unfold permits offeringCompat
  rw [admitsIn_get, admitsIn_get, admitsIn_get]
  rfl

theorem find_map_offering (l : List Scn.Offering) (z ct : String) :
    (l.map offeringOf).find? (fun o => o.zone == z && o.ct == ct) =
      (l.find? (fun o => o.zone == z && o.ct == ct)).map offeringOf :=
  List.find?_map ..

theorem price_eq (s : Scenario) (n : Scn.Node) : (nodePrice s n).getD 0 = (candOf s n).price := by
  unfold nodePrice Cand.price candOf
  cases s.it? n.it with
  | none => rfl
  | some it =>
    dsimp only [Option.bind_some]
    rw [find_map_offering]
    cases it.offerings.find? (fun o => o.zone == n.zone && o.ct == n.ct) <;> rfl

theorem filterMap_nodes {s : Scenario} {nodes : List Scn.Node} (h : ∀ n ∈ nodes, s.node? n.name = some n) :
    (nodes.map (·.name)).filterMap s.node? = nodes := by
  induction nodes with
  | nil => rfl
  | cons a l ih =>
    simp only [List.map_cons, List.filterMap_cons, h a List.mem_cons_self]
    rw [ih (fun n hn => h n (List.mem_cons_of_mem _ hn))]

theorem firstV_none {l : List Karp.Spec.Consolidation.Verdict} (h : ∀ v ∈ l, v = none) : firstV l = none := by
  unfold firstV
  rw [List.findSome?_eq_none_iff]
  intro v hv
  simpa using h v hv

theorem firstV_singleton (v : Karp.Spec.Consolidation.Verdict) : firstV [v] = v := by
  cases v <;> rfl

theorem mem_launches {ridKey : String} {R : Reqs} {sit : Scn.IT} {o : Scn.Offering} :
    o ∈ launches ridKey R sit ↔
      o ∈ sit.offerings ∧ (offeringOf o).available = true ∧ offeringCompat ridKey R (offeringOf o) = true := by
  unfold launches
  rw [List.mem_filter, Bool.and_eq_true, permits_eq]
  rfl

theorem allSpot_eq {s : Scenario} {nodes : List Scn.Node} (hnodes : ∀ n ∈ nodes, s.node? n.name = some n) :
    Karp.Spec.Consolidation.allSpot s (nodes.map (·.name)) = (nodes.map (candOf s)).all (fun cn => cn.ct == spot) := by
  unfold Karp.Spec.Consolidation.allSpot
  rw [filterMap_nodes hnodes, List.all_map]
  rfl

theorem launchableTypes_length {s : Scenario} {ridKey : String} {cl : Scn.Claim} {l : List IType}
    (hits : cl.its = l.map (·.name)) (hcat : ∀ it ∈ l, ∃ sit, s.it? it.name = some sit ∧ itypeOf sit = it)
    (hl : ∀ it ∈ l, ∃ o ∈ it.offerings, o.available = true ∧ offeringCompat ridKey cl.reqs o = true) :
    (Karp.Spec.Consolidation.launchableTypes s ridKey cl).length = l.length := by
  unfold Karp.Spec.Consolidation.launchableTypes
  rw [hits]
  clear hits
  induction l with
  | nil => rfl
  | cons a l ih =>
    obtain ⟨sit, hs, he⟩ := hcat a List.mem_cons_self
    obtain ⟨o, ho, hav, hcomp⟩ := hl a List.mem_cons_self
    have hP : (!(launches ridKey cl.reqs sit).isEmpty) = true := by
      rw [← he] at ho
      obtain ⟨o', ho', rfl⟩ := List.mem_map.mp ho
      rw [Bool.not_eq_true', List.isEmpty_eq_false_iff]
      exact List.ne_nil_of_mem (mem_launches.mpr ⟨ho', hav, hcomp⟩)
    simp only [List.map_cons, List.filterMap_cons, hs, List.filter_cons, hP, if_true, List.length_cons]
    rw [ih (fun it hit => hcat it (List.mem_cons_of_mem _ hit)) (fun it hit => hl it (List.mem_cons_of_mem _ hit))]

/-- what the specification's spot-to-spot clause asks when spot-only candidates are replaced by a request that may
    launch spot: the gate and, for a single candidate, at least `spotFloor` launchable options -/
theorem spotToSpot_none {s : Scenario} {ridKey : String} {gate : Bool}
    {nodes : List Scn.Node} (hnodes : ∀ n ∈ nodes, s.node? n.name = some n)
    {cmd : Karp.Spec.Consolidation.Command} (hcands : cmd.cands = nodes.map (·.name))
    {cl : Scn.Claim} (hrepl : cmd.repl = [cl])
    (h : (nodes.map (candOf s)).all (fun cn => cn.ct == spot) = true → (cl.reqs.get ctKey).has spot = true →
      gate = true ∧ (nodes.length ≤ 1 →
        Karp.Spec.Consolidation.spotFloor ≤ (Karp.Spec.Consolidation.launchableTypes s ridKey cl).length)) :
    Karp.Spec.Consolidation.spotToSpot s ridKey gate cmd = none := by
  unfold Karp.Spec.Consolidation.spotToSpot
  rw [hrepl, List.map_singleton, firstV_singleton, ite_eq_right_iff]
  intro hcond
  rw [hcands, allSpot_eq hnodes, Bool.and_eq_true] at hcond
  obtain ⟨hg, hlen⟩ := h hcond.1 hcond.2
  rw [hg, Bool.not_true, if_neg Bool.false_ne_true, if_neg]
  intro h1
  rw [Bool.and_eq_true, beq_iff_eq, decide_eq_true_eq, hcands, List.length_map] at h1
  exact Nat.not_le_of_lt h1.2 (hlen (Nat.le_of_eq h1.1))

/-! ### Price tables per NodePool -/

open Karp.Spec.Consolidation (poolView combinedPriceT Tables)

theorem poolView_node? (t : Tables) (s : Scenario) (p n : String) : (poolView t s p).node? n = s.node? n := by
  unfold poolView
  cases t.lookup p <;> rfl

theorem poolView_nil (s : Scenario) (p : String) : poolView [] s p = s := rfl

theorem combinedPriceT_eq (t : Tables) {s : Scenario} {nodes : List Scn.Node} (h : ∀ n ∈ nodes, s.node? n.name = some n) :
    combinedPriceT t s (nodes.map (·.name)) = sumPrices (nodes.map (fun n => candOf (poolView t s n.pool) n)) := by
  unfold combinedPriceT sumPrices
  rw [filterMap_nodes h, List.map_map]
  congr 1
  apply List.map_congr_left
  intro n _
  exact price_eq (poolView t s n.pool) n

open Karp.Spec.Consolidation (strictlyCheaperT spotToSpotT onDemandFallbackT) in
theorem clausesT_nil (s : Scenario) (ridKey : String) (gate : Bool) (cmd : Karp.Spec.Consolidation.Command) :
    strictlyCheaperT [] s ridKey cmd = strictlyCheaper s ridKey cmd ∧
    spotToSpotT [] s ridKey gate cmd = Karp.Spec.Consolidation.spotToSpot s ridKey gate cmd ∧
    onDemandFallbackT [] s ridKey cmd = Karp.Spec.Consolidation.onDemandFallback s ridKey cmd :=
  ⟨rfl, rfl, rfl⟩

/-- the specification's price clause follows from the model's price bound: a replacement whose options `kept.take n` are
    catalog entries of its NodePool and whose every launchable offering is below the candidates' price sum passes -/
theorem strictlyCheaperT_none {t : Tables} {s : Scenario} {ridKey : String}
    {nodes : List Scn.Node} (hnodes : ∀ n ∈ nodes, s.node? n.name = some n)
    {kept : List IType} {n : Nat} {cmd : Karp.Spec.Consolidation.Command} (hcands : cmd.cands = nodes.map (·.name))
    {cl : Scn.Claim} (hrepl : cmd.repl = [cl]) (hits : cl.its = (kept.take n).map (·.name))
    (hcat : ∀ it ∈ kept, ∃ sit, (poolView t s cl.pool).it? it.name = some sit ∧ itypeOf sit = it)
    (hprice : ∀ it ∈ kept, ∀ o ∈ it.offerings, o.available = true → offeringCompat ridKey cl.reqs o = true →
      o.price < sumPrices (nodes.map (fun nd => candOf (poolView t s nd.pool) nd))) :
    Karp.Spec.Consolidation.strictlyCheaperT t s ridKey cmd = none := by
  unfold Karp.Spec.Consolidation.strictlyCheaperT
  rw [hrepl, hcands, combinedPriceT_eq t hnodes]
  simp only [List.map_cons, List.map_nil]
  rw [firstV_singleton]
  apply firstV_none
  intro v hv
  obtain ⟨itn, hitn, rfl⟩ := List.mem_map.mp hv
  rw [hits] at hitn
  obtain ⟨it, hit, rfl⟩ := List.mem_map.mp hitn
  have hk : it ∈ kept := List.mem_of_mem_take hit
  obtain ⟨sit, hs, he⟩ := hcat it hk
  simp only [hs]
  rw [List.find?_eq_none.mpr]
  intro o ho
  obtain ⟨hmem, hav, hperm⟩ := mem_launches.mp ho
  have := hprice it hk (offeringOf o) (he ▸ List.mem_map.mpr ⟨o, hmem, rfl⟩) hav hperm
  exact fun hle => Nat.not_le_of_lt this (of_decide_eq_true hle)

end Karp.Consolidate
