/-
Helper lemmas for C16 (`Props/C16.lean`), reaper by reaper: where the Deletes of a lifecycle pass come from, what
`findUnhealthyConditions` returns, which guards a Delete of node repair got through (in one reconcile, and over a
changing cluster), the integer form of the rounded-up percentage, and that a terminating Node is treated like any other.
-/
import Karp.Model.Reapers
import Karp.Spec.Reapers

namespace Karp.Reapers
open Karp.Spec.Reapers

theorem updateHealth_dels (i : LiveIn) (s : LState) : (updateHealth i s).2.dels = s.dels := by
  fun_cases updateHealth i s <;> rfl

theorem updateHealth_read_failed {i : LiveIn} {s : LState} (hp : i.pool ≠ .none)
    (hf : faultAt i.getFaults s.gets = .err ∨ faultAt i.getFaults s.gets = .conflict) :
    (updateHealth i s).1 ≠ .ok := by
  unfold updateHealth
  split
  · rename_i h; exact absurd h hp
  · dsimp only
    rcases hf with hf | hf <;> rw [hf] <;> exact nofun

/-- `(updateHealth i s).1 ≠ .ok`: a NodePool read or status write failed, other than by NotFound -/
theorem timeoutBranch_dels (i : LiveIn) (s : LState) :
    s.dels ≤ (timeoutBranch i s).2.dels ∧ (timeoutBranch i s).2.dels ≤ s.dels + 1 ∧
    ((updateHealth i s).1 ≠ .ok → (timeoutBranch i s).2.dels = s.dels) := by
  have h := updateHealth_dels i s
  unfold timeoutBranch
  rcases hu : updateHealth i s with ⟨r, s'⟩
  rw [hu] at h
  replace h : s'.dels = s.dels := h
  cases r <;> dsimp only
  · rw [← h]
    split <;> exact ⟨Nat.le_succ _, Nat.le_refl _, fun hne => absurd rfl hne⟩
  · exact ⟨Nat.le_of_eq h.symm, h ▸ Nat.le_succ _, fun _ => h⟩
  · exact ⟨Nat.le_of_eq h.symm, h ▸ Nat.le_succ _, fun _ => h⟩

/-- at most one timeout branch runs: the launch-timeout branch returns after its Delete -/
theorem liveness_cases (i : LiveIn) (l : Tri) (lAt : Int) (s₀ : LState) :
    (liveness i l lAt s₀).2 = s₀ ∨
    ((liveness i l lAt s₀).2 = (timeoutBranch i s₀).2 ∧ i.registered ≠ .true_ ∧
      ((l ≠ .true_ ∧ launchTimeout ≤ i.now - lAt) ∨ registrationTimeout ≤ i.now - i.registeredAt)) := by
  unfold liveness
  split
  · exact Or.inl rfl
  · rename_i hreg
    have hreg' : i.registered ≠ .true_ := by simpa using hreg
    unfold launchPart
    by_cases hl : (l != .true_) = true
    · rw [if_pos hl]
      by_cases hto : i.now - lAt < launchTimeout
      · rw [if_pos hto]; exact Or.inl rfl
      · rw [if_neg hto]
        refine Or.inr ⟨?_, hreg', Or.inl ⟨by simpa using hl, by omega⟩⟩
        rcases timeoutBranch i s₀ with ⟨r, s⟩
        cases r <;> rfl
    · rw [if_neg hl]
      dsimp only
      by_cases hr : i.now - i.registeredAt < registrationTimeout
      · rw [if_pos hr]; exact Or.inl rfl
      · rw [if_neg hr]
        refine Or.inr ⟨?_, hreg', Or.inr (by omega)⟩
        rcases timeoutBranch i s₀ with ⟨r, s⟩
        cases r <;> rfl

theorem lifecycle_cases (i : LiveIn) :
    (lifecycle i).deletes = 0 ∨
    ((lifecycle i).deletes = (timeoutBranch i (initState i)).2.dels ∧ i.registered ≠ .true_ ∧
      (((launchStep i).1 ≠ .true_ ∧ launchTimeout ≤ i.now - (launchStep i).2.1) ∨
        registrationTimeout ≤ i.now - i.registeredAt)) := by
  unfold lifecycle
  split
  · exact Or.inl rfl
  split
  · exact Or.inl rfl
  rcases liveness_cases i (launchStep i).1 (launchStep i).2.1 (initState i) with h | h
  · exact Or.inl (congrArg LState.dels h)
  · exact Or.inr ⟨congrArg LState.dels h.1, h.2⟩

theorem launchStep_pending {i : LiveIn} (h : (launchStep i).1 ≠ .true_) :
    i.launched ≠ .true_ ∧ (launchStep i).2.1 = i.launchedAt := by
  revert h
  fun_cases launchStep i
  case case1 => exact fun h => absurd rfl h  -- Launched was Unknown, Create succeeded
  case case2 hu _ => exact fun _ => ⟨by rw [beq_iff_eq.mp hu]; nofun, rfl⟩  -- Launched was Unknown, Create failed
  case case3 => exact fun h => ⟨h, rfl⟩  -- Launched was not Unknown: left as it is

theorem findUnhealthy_sound {ps : List Policy} {conds : List NCond} {c : NCond} {tol : Int}
    (h : findUnhealthy ps conds = some (c, tol)) :
    ∃ p ∈ ps, policyMatch p conds = some c ∧ p.toleration = tol := by
  -- the fold keeps: what it holds came from a policy of the list
  refine List.foldlRecOn ps _ (motive := fun r => ∀ c tol, r = some (c, tol) →
    ∃ p ∈ ps, policyMatch p conds = some c ∧ p.toleration = tol) ?_ ?_ c tol h
  · intro _ _ h; cases h
  intro best hbest p hp c tol hr
  cases hm : policyMatch p conds with
  | none => rw [hm] at hr; exact hbest c tol hr
  | some c' =>
    rw [hm] at hr
    dsimp only at hr
    split at hr
    · cases hr; exact ⟨p, hp, hm, rfl⟩
    · split at hr
      · cases hr; exact ⟨p, hp, hm, rfl⟩
      · exact hbest c tol hr

theorem policyMatch_spec (p : Policy) (conds : List NCond) (c : NCond) (h : policyMatch p conds = some c) :
    conds.find? (fun c => c.type == p.type) = some c ∧ c.status = p.status := by
  revert h
  fun_cases policyMatch p conds
  -- the only branch returning `some`: the node has a condition `c'` of the policy's type, with the policy's status
  case case1 c' hc hs => exact fun h => by cases h; exact ⟨hc, beq_iff_eq.mp hs⟩
  all_goals exact nofun

theorem tolerationLasted_of_found {ps : List Policy} {conds : List NCond} {c : NCond} {tol now : Int}
    (h : findUnhealthy ps conds = some (c, tol)) (hnow : c.since + tol ≤ now) : tolerationLasted ps conds now = true := by
  obtain ⟨p, hp, hmatch, rfl⟩ := findUnhealthy_sound h
  obtain ⟨hfind, hstatus⟩ := policyMatch_spec p _ c hmatch
  unfold tolerationLasted
  refine List.any_eq_true.mpr ⟨p, hp, ?_⟩
  rw [hfind]
  exact Bool.and_eq_true_iff.mpr ⟨beq_iff_eq.mpr hstatus, decide_eq_true hnow⟩

theorem isUnhealthy_eq (ps : List Policy) (n : RNode) : isUnhealthy ps n = nodeUnhealthy ps n := by
  unfold isUnhealthy nodeUnhealthy
  congr 1
  funext p
  unfold policyMatch getCond
  cases h : List.find? (fun c => c.type == p.type) n.conds with
  | none => simp
  | some c => by_cases hs : c.status = p.status <;> simp [hs]

theorem population_eq (i : RepairIn) : population i = breakerNodes i := by
  unfold population breakerNodes
  cases i.claimPool with
  | none => exact (List.filter_eq_self.mpr fun _ _ => rfl).symm
  | some p => rfl

/-- `u ≤ ⌈pct·n/100⌉` in the model's integer arithmetic and in the specification's division-free form -/
theorem scaled_roundUp_iff (pct u n : Nat) :
    u ≤ scaled pct n true ↔ atMostPercentRoundedUp pct u n = true := by
  unfold scaled atMostPercentRoundedUp
  simp only [if_true, Bool.or_eq_true, beq_iff_eq, decide_eq_true_eq]
  generalize pct * n = m
  rw [Nat.le_div_iff_mul_le (Nat.succ_pos 99)]
  omega

theorem threshold_eq (n : Nat) : threshold n = scaled Karp.Gen.Reapers.allowedUnhealthyPercent n true := rfl

theorem nodesHealthy_iff (i : RepairIn) :
    nodesHealthy i = true ↔
      atMostPercentRoundedUp Karp.Gen.Reapers.allowedUnhealthyPercent
        ((breakerNodes i).filter (nodeUnhealthy i.policies)).length (breakerNodes i).length = true := by
  unfold nodesHealthy unhealthyCount
  rw [threshold_eq, population_eq]
  have : isUnhealthy i.policies = nodeUnhealthy i.policies := funext (isUnhealthy_eq i.policies)
  rw [this]
  simp only [decide_eq_true_eq]
  exact scaled_roundUp_iff _ _ _

theorem mem_gcWith (flag : Bool) (i : GCIn) (d : String) (h : d ∈ (gcWith flag i).1) :
    i.listClaimsFault = false ∧ i.providerListFault = false ∧
    ∃ c ∈ i.claims, c.name = d ∧ candidate i c = true ∧ (gcOne flag i c).1 = true := by
  unfold gcWith at h
  split at h
  · simp at h
  · rename_i hf
    simp only [Bool.or_eq_true, not_or, Bool.not_eq_true] at hf
    refine ⟨hf.1, hf.2, ?_⟩
    simp only [List.mem_map, List.mem_filter] at h
    obtain ⟨r, ⟨⟨c, ⟨hc, hcand⟩, hr⟩, hdel⟩, hname⟩ := h
    subst hr
    exact ⟨c, hc, hname, hcand, hdel⟩

theorem gcWith_list_failed (flag : Bool) (i : GCIn) (h : i.listClaimsFault = true ∨ i.providerListFault = true) :
    gcWith flag i = ([], true) := by
  unfold gcWith
  rw [if_pos (by simpa using h)]

theorem candidate_providerLacks (i : GCIn) (c : Claim) (hp : i.providerListFault = false)
    (h : candidate i c = true) : c.registered = .true_ ∧ providerLacks i c = true := by
  unfold candidate at h
  simp only [Bool.and_eq_true, Bool.not_eq_true', beq_iff_eq] at h
  obtain ⟨⟨⟨_, hreg⟩, _⟩, hlive⟩ := h
  refine ⟨hreg, ?_⟩
  unfold providerLacks
  simp only [hp, Bool.not_false, Bool.true_and, List.all_eq_true, Bool.or_eq_true, bne_iff_ne]
  intro p hpm
  by_cases hd : p.deleting = true
  · exact Or.inr hd
  · left
    intro heq
    have : c.pid ∈ livePids i := by
      unfold livePids
      simp only [List.mem_map, List.mem_filter]
      exact ⟨p, ⟨hpm, by simpa using hd⟩, heq⟩
    have hc : (livePids i).contains c.pid = true := by simpa using this
    rw [hc] at hlive
    exact absurd hlive (by decide)

theorem nodeAbsentOrNotReady_eq (i : GCIn) (c : Claim) :
    nodeAbsentOrNotReady i c = (c.pid == "" || (!i.lookupFault.contains c.pid && (nodesOf i c.pid).all (!·.ready))) := by
  unfold nodeAbsentOrNotReady nodesOf
  rw [List.all_filter]
  rfl

theorem lookup_established (i : GCIn) (c : Claim)
    (h : lookup i c = .notFound ∨ lookup i c = .one false) : nodeAbsentOrNotReady i c = true := by
  rw [nodeAbsentOrNotReady_eq]
  revert h
  fun_cases lookup i c
  case case1 hp => exact fun _ => by rw [hp]; rfl  -- empty provider id
  -- the lookup did not fail and found no Node
  case case3 hp hf hn => exact fun _ => by rw [hn, (Bool.not_eq_true _).mp hf]; exact Bool.or_true _
  case case4 hp hf m hn =>  -- the lookup did not fail and found the one Node `m`
    intro h
    rw [hn, (Bool.not_eq_true _).mp hf, List.all_cons, h.elim nofun Lookup.one.inj]
    exact Bool.or_true _
  -- `.failed` and `.duplicate` are neither of the two
  all_goals exact fun h => by rcases h with h | h <;> cases h

theorem gcOne_deleted {flag : Bool} {i : GCIn} {c : Claim} (h : (gcOne flag i c).1 = true) :
    nodeAbsentOrNotReady i c = true ∨ (flag = false ∧ lookup i c = .failed) ∨ lookup i c = .duplicate := by
  unfold gcOne at h
  cases hlk : lookup i c with
  | failed =>
    cases flag with
    | true => rw [hlk] at h; cases h
    | false => exact Or.inr (Or.inl ⟨rfl, rfl⟩)
  | notFound => exact Or.inl (lookup_established i c (Or.inl hlk))
  | duplicate => exact Or.inr (Or.inr rfl)
  | one r =>
    cases r with
    | true => rw [hlk] at h; cases h
    | false => exact Or.inl (lookup_established i c (Or.inr hlk))

theorem lookup_not_duplicate (i : GCIn) (c : Claim) (huniq : ∀ pid, (nodesOf i pid).length ≤ 1) :
    lookup i c ≠ .duplicate := by
  have := huniq c.pid
  fun_cases lookup i c
  case case5 h0 h1 =>  -- the `.duplicate` branch
    -- neither no Node nor exactly one: two or more
    match hn : nodesOf i c.pid with
    | [] => exact absurd hn h0
    | [a] => exact absurd hn (h1 a)
    | _ :: _ :: _ => rw [hn] at this; exact absurd this (by simp)
  all_goals exact nofun

/-- the same cluster with the Nodes' deletion timestamps rewritten by `f` -/
def GCIn.withTerminating (i : GCIn) (f : GNode → Bool) : GCIn :=
  { i with nodes := i.nodes.map (fun n => { n with terminating := f n }) }

theorem nodesOf_withTerminating (i : GCIn) (f : GNode → Bool) (pid : String) :
    nodesOf (i.withTerminating f) pid = (nodesOf i pid).map (fun n => { n with terminating := f n }) := by
  unfold nodesOf GCIn.withTerminating
  simp only [List.filter_map]
  rfl

theorem lookup_withTerminating (i : GCIn) (f : GNode → Bool) (c : Claim) :
    lookup (i.withTerminating f) c = lookup i c := by
  unfold lookup
  rw [nodesOf_withTerminating]
  have hlf : (i.withTerminating f).lookupFault = i.lookupFault := rfl
  rw [hlf]
  cases nodesOf i c.pid with
  | nil => rfl
  | cons a l => cases l <;> rfl

theorem gcOne_withTerminating (flag : Bool) (i : GCIn) (f : GNode → Bool) (c : Claim) :
    gcOne flag (i.withTerminating f) c = gcOne flag i c := by
  unfold gcOne
  rw [lookup_withTerminating]
  rfl

theorem gcWith_withTerminating (flag : Bool) (i : GCIn) (f : GNode → Bool) :
    gcWith flag (i.withTerminating f) = gcWith flag i := by
  unfold gcWith
  have h1 : (i.withTerminating f).listClaimsFault = i.listClaimsFault := rfl
  have h2 : (i.withTerminating f).providerListFault = i.providerListFault := rfl
  have h3 : (i.withTerminating f).claims = i.claims := rfl
  have h4 : candidate (i.withTerminating f) = candidate i := rfl
  simp only [h1, h2, h3, h4, gcOne_withTerminating]

theorem gcMayDelete_withTerminating (i : GCIn) (f : GNode → Bool) (c : Claim) :
    gcMayDelete (i.withTerminating f) c = gcMayDelete i c := by
  unfold gcMayDelete nodeAbsentOrNotReady GCIn.withTerminating providerLacks
  simp only [List.all_map]
  rfl

def RNode.setTerminating (f : RNode → Bool) (n : RNode) : RNode := { n with terminating := f n }

def RepairIn.withTerminating (i : RepairIn) (f : RNode → Bool) : RepairIn :=
  { i with node := i.node.setTerminating f, others := i.others.map (RNode.setTerminating f) }

theorem population_withTerminating (i : RepairIn) (f : RNode → Bool) :
    population (i.withTerminating f) = (population i).map (RNode.setTerminating f) := by
  unfold population RepairIn.withTerminating
  cases i.claimPool with
  | none => simp
  | some p =>
    simp only [← List.map_cons, List.filter_map]
    rfl

theorem nodesHealthy_withTerminating (i : RepairIn) (f : RNode → Bool) :
    nodesHealthy (i.withTerminating f) = nodesHealthy i := by
  unfold nodesHealthy unhealthyCount
  rw [population_withTerminating, List.filter_map, List.length_map, List.length_map]
  rfl

theorem repairB_withTerminating (i : RepairIn) (f : RNode → Bool) :
    repairB (i.withTerminating f) = repairB i := by
  unfold repairB
  rw [nodesHealthy_withTerminating]
  rfl

theorem repairMayDelete_withTerminating (pct : Nat) (i : RepairIn) (f : RNode → Bool) :
    repairMayDelete pct (i.withTerminating f) = repairMayDelete pct i := by
  unfold repairMayDelete breakerClosed
  rw [← population_eq, ← population_eq, population_withTerminating, List.filter_map, List.length_map, List.length_map]
  rfl

theorem cons_eraseIdx_perm {α : Type} : ∀ (l : List α) (k : Nat) (s : α), l[k]? = some s → (s :: l.eraseIdx k).Perm l
  | [], _, _, h => nomatch h
  | a :: l, 0, s, h => by cases h; exact .refl _
  | a :: l, k + 1, s, h => (List.Perm.swap a s _).trans ((cons_eraseIdx_perm l k s h).cons a)

theorem filter_eq_self_of_all {α : Type} (p : α → Bool) (l : List α) (h : ∀ x ∈ l, p x = true) : l.filter p = l :=
  List.filter_eq_self.mpr h

theorem length_updateAt (st : List SNode) (k : Nat) (f : SNode → SNode) : (updateAt st k f).length = st.length := by
  unfold updateAt
  split
  · exact List.length_set
  · rfl

theorem countP_updateAt (q : SNode → Bool) {st : List SNode} {k : Nat} {s : SNode} (hk : st[k]? = some s) (f : SNode → SNode) :
    (updateAt st k f).countP q + (if q s = true then 1 else 0) = st.countP q + (if q (f s) = true then 1 else 0) := by
  obtain ⟨hlt, hget⟩ := List.getElem?_eq_some_iff.mp hk
  have := List.boole_getElem_le_countP (p := q) hlt
  unfold updateAt
  rw [hk]
  dsimp only
  rw [List.countP_set hlt, hget]
  rw [hget] at this
  omega

theorem countP_updateAt_same (q : SNode → Bool) (st : List SNode) (k : Nat) (f : SNode → SNode) (hf : ∀ s, q (f s) = q s) :
    (updateAt st k f).countP q = st.countP q := by
  cases hk : st[k]? with
  | none => unfold updateAt; rw [hk]
  | some s =>
    have := countP_updateAt q hk f
    rw [hf] at this
    omega

theorem seqStep_entry {ps : List Policy} {st : List SNode} {ev : REvent} {i : RepairIn} {o : Out} {b : RBranch}
    (h : seqStep ps st ev = some (i, o, b)) : o = repair i := by
  revert h
  fun_cases seqStep ps st ev
  case case1 => exact fun h => by cases h; rfl  -- a reconcile of a Node that is still present
  all_goals exact nofun

theorem runSeq_entries (ps : List Policy) (evs : List REvent) :
    ∀ (st : List SNode) (i : RepairIn) (o : Out) (b : RBranch),
      some (i, o, b) ∈ runSeq ps st evs → o = repair i := by
  induction evs with
  | nil => intro st i o b h; cases h
  | cons ev rest ih =>
    intro st i o b h
    rw [runSeq] at h
    rcases List.mem_cons.mp h with h | h
    · exact seqStep_entry h.symm
    · exact ih _ i o b h

/-- single pool `p`, every Node present and managed -/
def Uniform (p : String) (st : List SNode) : Prop :=
  ∀ s ∈ st, s.present = true ∧ s.hasClaim = true ∧ s.node.pool = p ∧ s.claimPool = some p

theorem uniform_updateAt {p : String} {st : List SNode} (hu : Uniform p st) (k : Nat) (f : SNode → SNode)
    (hf : ∀ s, (f s).present = s.present ∧ (f s).hasClaim = s.hasClaim ∧ (f s).node.pool = s.node.pool ∧
      (f s).claimPool = s.claimPool) : Uniform p (updateAt st k f) := by
  unfold updateAt
  split
  · rename_i s hk
    intro x hx
    rcases List.mem_or_eq_of_mem_set hx with hx | rfl
    · exact hu x hx
    · obtain ⟨h1, h2, h3, h4⟩ := hf s
      rw [h1, h2, h3, h4]
      exact hu s (List.mem_of_getElem? hk)
  · exact hu

def unh (ps : List Policy) (st : List SNode) : Nat := st.countP (fun s => isUnhealthy ps s.node)
def pending (ps : List Policy) (st : List SNode) : Nat :=
  st.countP (fun s => isUnhealthy ps s.node && !s.claimDeleting)

theorem pending_le_unh (ps : List Policy) (st : List SNode) : pending ps st ≤ unh ps st := by
  unfold pending unh
  apply List.countP_mono_left
  intro s _ h
  simp only [Bool.and_eq_true] at h
  exact h.1

theorem seqIn_uniform (ps : List Policy) (p : String) (st : List SNode) (hu : Uniform p st)
    (k : Nat) (now : Int) (nlf df : Fault) (i : RepairIn) (h : seqIn ps st k now nlf df = some i) :
    ∃ s, st[k]? = some s ∧ i.node = s.node ∧ i.claimDeleting = s.claimDeleting ∧ i.policies = ps ∧
      unhealthyCount i = unh ps st ∧ (population i).length = st.length := by
  unfold seqIn at h
  cases hk : st[k]? with
  | none => rw [hk] at h; cases h
  | some s =>
    rw [hk] at h
    -- the reconciled Node and the others are the cluster, rearranged
    have hperm := cons_eraseIdx_perm st k s hk
    have hall := fun x hx => hu x (hperm.subset hx)
    obtain ⟨hp, _, _, hcp⟩ := hall s List.mem_cons_self
    simp only [hp, Bool.not_true, Bool.false_eq_true, if_false, Option.some.injEq] at h
    have hpop : population i = (s :: st.eraseIdx k).map (·.node) := by
      subst h
      unfold population
      dsimp only
      rw [hcp, List.filter_eq_self.mpr fun x hx => (hall x (List.mem_cons_of_mem _ hx)).1]
      show ((s :: st.eraseIdx k).map (·.node)).filter (fun n => n.pool == p) = _
      rw [List.filter_map]
      exact congrArg _ (List.filter_eq_self.mpr fun x hx => beq_iff_eq.mpr (hall x hx).2.2.1)
    subst h
    refine ⟨s, rfl, rfl, rfl, rfl, ?_, ?_⟩
    · unfold unhealthyCount unh
      rw [hpop, ← List.countP_eq_length_filter, List.countP_map]
      exact hperm.countP_eq _
    · rw [hpop, List.length_map]
      exact hperm.length_eq

theorem isUnhealthy_of_found {ps : List Policy} {n : RNode} {c : NCond} {tol : Int}
    (h : findUnhealthy ps n.conds = some (c, tol)) : isUnhealthy ps n = true := by
  obtain ⟨p, hp, hmatch, _⟩ := findUnhealthy_sound h
  unfold isUnhealthy
  simp only [List.any_eq_true]
  exact ⟨p, hp, by rw [hmatch]; rfl⟩

theorem repair_delete_cases (i : RepairIn) (h : 0 < (repair i).deletes) :
    ∃ c tol, findUnhealthy i.policies i.node.conds = some (c, tol) ∧ c.since + tol ≤ i.now ∧
      i.claimListFault = false ∧ i.nodeListFault = .none ∧ nodesHealthy i = true ∧ i.claimDeleting = false ∧
      (repair i).deletes = 1 := by
  unfold repair at h ⊢
  revert h
  fun_cases repairB i
  -- the last branch, the only one with a Delete: both lists obtained, toleration over, breaker closed, not deleting
  case case11 hcl _ c tol hf _ hnow hn hh _ hd =>
    exact fun _ => ⟨c, tol, hf, Int.not_lt.mp hnow, (Bool.not_eq_true _).mp hcl, hn, by simpa using hh,
      (Bool.not_eq_true _).mp hd, rfl⟩
  all_goals exact fun h => nomatch h

/-- the events of a quiet stretch: reconciles whose Delete the API server accepts, and Nodes starting to
    terminate; no condition changes, nothing disappears -/
def Quiet : REvent → Prop
  | .reconcile _ _ _ df => df = .none
  | .terminate _ => True
  | _ => False

theorem applyEvent_quiet (ps : List Policy) {p : String} {st : List SNode} (hu : Uniform p st) {ev : REvent} (hq : Quiet ev)
    (deleted : Bool) :
    Uniform p (applyEvent st ev deleted) ∧ (applyEvent st ev deleted).length = st.length ∧
      unh ps (applyEvent st ev deleted) = unh ps st := by
  have upd : ∀ k f, (∀ s : SNode, (f s).present = s.present ∧ (f s).hasClaim = s.hasClaim ∧
      (f s).node.pool = s.node.pool ∧ (f s).claimPool = s.claimPool) → (∀ s, (f s).node.conds = s.node.conds) →
      Uniform p (updateAt st k f) ∧ (updateAt st k f).length = st.length ∧ unh ps (updateAt st k f) = unh ps st :=
    fun k f h1 h2 => ⟨uniform_updateAt hu k f h1, length_updateAt st k f,
      countP_updateAt_same _ st k f fun s => by unfold isUnhealthy; rw [h2]⟩
  cases ev with
  | setCond _ _ | gone _ => exact hq.elim
  | terminate k => exact upd k _ (fun _ => ⟨rfl, rfl, rfl, rfl⟩) fun _ => rfl
  | reconcile k _ _ _ =>
    cases deleted
    · exact ⟨hu, rfl, rfl⟩
    · exact upd k _ (fun _ => ⟨rfl, rfl, rfl, rfl⟩) fun _ => rfl

theorem totalDeletes_cons (r : Option (RepairIn × Out × RBranch)) (tr : List (Option (RepairIn × Out × RBranch))) :
    totalDeletes (r :: tr) = totalDeletes [r] + totalDeletes tr := by
  simp only [totalDeletes, List.map_cons, List.sum_cons, List.map_nil, List.sum_nil, Nat.add_zero]

theorem seqStep_quiet (ps : List Policy) {p : String} {st : List SNode} (hu : Uniform p st) {ev : REvent} (hq : Quiet ev) :
    pending ps (applyEvent st ev (stepDeleted ev (seqStep ps st ev))) + totalDeletes [seqStep ps st ev] = pending ps st ∧
    (0 < totalDeletes [seqStep ps st ev] → unh ps st ≤ threshold st.length) := by
  cases ev with
  | setCond _ _ | gone _ => exact hq.elim
  | terminate k => exact ⟨countP_updateAt_same _ st k _ fun _ => rfl, fun h => nomatch h⟩
  | reconcile k now nlf df =>
    cases (show df = .none from hq)
    unfold seqStep
    dsimp only
    cases hs : seqIn ps st k now nlf .none with
    | none => exact ⟨rfl, fun h => nomatch h⟩
    | some i =>
      obtain ⟨s, hk, hnode, hcd, rfl, hcnt, hlen⟩ := seqIn_uniform ps p st hu k now nlf .none i hs
      show pending _ (if ((repair i).deletes > 0 && true) = true then updateAt st k _ else st) + ((repair i).deletes + 0) = _ ∧
        (0 < (repair i).deletes + 0 → _)
      by_cases hd : 0 < (repair i).deletes
      · obtain ⟨c, tol, hf, _, _, _, hhealthy, hndel, hone⟩ := repair_delete_cases i hd
        rw [if_pos (by simpa using hd), hone]
        refine ⟨?_, fun _ => ?_⟩
        · have := countP_updateAt (fun s => isUnhealthy i.policies s.node && !s.claimDeleting) hk fun s => { s with claimDeleting := true }
          rw [← hnode, ← hcd, isUnhealthy_of_found hf, hndel] at this
          simpa [pending] using this
        · unfold nodesHealthy at hhealthy
          rw [hcnt, hlen] at hhealthy
          exact of_decide_eq_true hhealthy
      · rw [if_neg (by simpa using hd), Nat.le_zero.mp (Nat.not_lt.mp hd)]
        exact ⟨rfl, fun h => nomatch h⟩

theorem runSeq_quiet (ps : List Policy) (p : String) (evs : List REvent) :
    ∀ (st : List SNode), Uniform p st → (∀ ev ∈ evs, Quiet ev) →
      totalDeletes (runSeq ps st evs) ≤ pending ps st ∧
      (0 < totalDeletes (runSeq ps st evs) → unh ps st ≤ threshold st.length) := by
  induction evs with
  | nil => intro st _ _; exact ⟨Nat.zero_le _, fun h => nomatch h⟩
  | cons ev rest ih =>
    intro st hu hq
    have hqe : Quiet ev := hq ev List.mem_cons_self
    rw [runSeq, totalDeletes_cons]
    obtain ⟨hu', hlen, hunh⟩ := applyEvent_quiet ps hu hqe (stepDeleted ev (seqStep ps st ev))
    obtain ⟨h1, h2⟩ := ih _ hu' fun e he => hq e (List.mem_cons_of_mem _ he)
    obtain ⟨h3, h4⟩ := seqStep_quiet ps hu hqe
    rw [hunh, hlen] at h2
    refine ⟨by omega, fun h => ?_⟩
    by_cases hd : 0 < totalDeletes [seqStep ps st ev]
    · exact h4 hd
    · exact h2 (by omega)

/-- what `repairTWith true` (the lookup with its early return for a Node without provider id) deleted: the one
    NodeClaim carrying the Node's (non-empty) provider id, and `repairB` on it issued the Delete -/
theorem repairTWith_deleted (i : RepairTIn) (d : String) (h : d ∈ (repairTWith true i).deleted) :
    ∃ c, c ∈ i.claims ∧ c.name = d ∧ i.nodePid ≠ "" ∧ c.pid = i.nodePid ∧ nodeClaimsForWith true i = [c] ∧
      0 < (repair (i.view c)).deletes := by
  revert h
  fun_cases repairTWith true i
  case case2 _ c hc r =>  -- the LIST did not fail and the lookup returned the one NodeClaim `c`
    intro h
    dsimp only at h
    split at h
    · rename_i hpos
      have hmem : c ∈ nodeClaimsForWith true i := by rw [hc]; exact List.mem_singleton_self c
      unfold nodeClaimsForWith at hmem
      split at hmem
      · cases hmem
      · rename_i hp
        obtain ⟨h1, h2⟩ := List.mem_filter.mp hmem
        exact ⟨c, h1, (List.mem_singleton.mp h).symm, by simpa using hp, beq_iff_eq.mp h2, hc, hpos⟩
    · cases h
  all_goals exact nofun

theorem repairTargetMayDelete_iff (pct : Nat) (i : RepairTIn) (d : String) :
    repairTargetMayDelete pct i d = true ↔
      ∃ c ∈ i.claims, c.name = d ∧ i.nodePid ≠ "" ∧ c.pid = i.nodePid ∧ repairMayDelete pct (i.view c) = true := by
  unfold repairTargetMayDelete claimIsOfNode
  simp only [List.any_eq_true, Bool.and_eq_true, beq_iff_eq, bne_iff_ne]
  exact exists_congr fun c => and_congr_right fun _ =>
    ⟨fun ⟨⟨hn, ⟨hp, _⟩, he⟩, hm⟩ => ⟨hn, hp, he, hm⟩, fun ⟨hn, hp, he, hm⟩ => ⟨⟨hn, ⟨hp, he ▸ hp⟩, he⟩, hm⟩⟩

/-- the code's lookup is the guarded one, as long as the control-flow fact generated from the source says so -/
theorem repairT_eq_guarded (hfact : Karp.Gen.Reapers.nodeClaimLookupSkipsEmptyProviderID = true) (i : RepairTIn) :
    repairT i = repairTWith true i := by
  unfold repairT; rw [hfact]

end Karp.Reapers
