/-
World-level lemmas for C09: the invariant behind leak-freedom and its preservation by every step of the transition
system `Karp.Term.step` (for every fault vector), given that launches persist their provider id.
-/
import Karp.Proofs.TermLemmas

namespace Karp.Term


theorem claimStAfter_fields (st : ClaimState) (o : ClaimOut) :
    (claimStAfter st o).finalizer = (st.finalizer || o.finalizerAdded) ∧
    (claimStAfter st o).pid = (st.pid || (o.statusPersisted && o.launchPersisted)) ∧
    (claimStAfter st o).fresh = (st.fresh && !o.statusPersisted) := by
  unfold claimStAfter
  cases o.annotated <;> cases o.instPersisted <;> cases o.statusPersisted <;> simp

theorem triggerInst_gone (i : Inst) (h : triggerInst i ≠ .gone) : i ≠ .gone := by
  intro hg; subst hg; exact h rfl


/-- a lifecycle pass that creates an instance persists its provider id in that very pass -/
def launchPersists (w : World) : Event → Bool
  | .reconcileClaim f p =>
    match w.claim with
    | none => true
    | some c =>
      if !c.st.deleting && !launchDomain c.st then true
      else !(w.claimPass c f p).created || (w.claimPass c f p).launchPersisted
  | _ => true

def launchesPersist (w : World) : List Event → Bool
  | [] => true
  | e :: es => launchPersists w e && launchesPersist (step w e) es

/-- the invariant behind leak-freedom -/
structure Inv (w : World) : Prop where
  notLost : w.lost = false
  backed : w.inst ≠ .gone → ∃ c, w.claim = some c ∧ c.st.finalizer = true ∧ c.st.pid = true
  freshNoPid : ∀ c, w.claim = some c → c.st.fresh = true → c.st.pid = false

theorem Inv.inst_gone {w : World} (h : Inv w) (hno : ∀ c, w.claim = some c → c.st.pid = false) : w.inst = .gone :=
  Decidable.byContradiction fun hne => by
    obtain ⟨c, hc, _, hp⟩ := h.backed hne
    rw [hno c hc] at hp
    cases hp

theorem Inv.inst_gone_of_no_pid {w : World} {c : ClaimW} (h : Inv w) (hc : w.claim = some c) (hp : c.st.pid = false) :
    w.inst = .gone :=
  h.inst_gone fun c' hc' => by rw [hc] at hc'; cases hc'; exact hp

/-- `g` rewrites a NodeClaim without touching what the invariant reads, and drops none that carries the finalizer -/
def Keeps (g : ClaimW → Option ClaimW) : Prop :=
  ∀ c, (∀ c', g c = some c' → c'.st.finalizer = c.st.finalizer ∧ c'.st.pid = c.st.pid ∧ c'.st.fresh = c.st.fresh) ∧
    (c.st.finalizer = true → ∃ c', g c = some c')

theorem keeps_some : Keeps some := fun c => ⟨fun _ h => by cases h; exact ⟨rfl, rfl, rfl⟩, fun _ => ⟨c, rfl⟩⟩

theorem keeps_delete (now : Int) : Keeps (deleteClaimObj now) := by
  intro c
  fun_cases deleteClaimObj now c
  case case3 _ hf => exact ⟨fun _ h => (nomatch h), fun h => absurd h hf⟩  -- not deleting, no finalizer: the object is gone
  all_goals exact ⟨fun _ h => by cases h; exact ⟨rfl, rfl, rfl⟩, fun _ => ⟨_, rfl⟩⟩

theorem Keeps.ite {g : ClaimW → Option ClaimW} (h : Keeps g) (b : Bool) : Keeps fun c => if b = true then g c else some c := by
  intro c
  split
  · exact h c
  · exact keeps_some c

theorem Keeps.after {g : ClaimW → Option ClaimW} (h : Keeps g) (u : ClaimW → ClaimW)
    (hu : ∀ c, (u c).st.finalizer = c.st.finalizer ∧ (u c).st.pid = c.st.pid ∧ (u c).st.fresh = c.st.fresh) :
    Keeps fun c => g (u c) := by
  intro c
  obtain ⟨a, b, d⟩ := hu c
  exact ⟨fun c' hc' => a ▸ b ▸ d ▸ (h (u c)).1 c' hc', fun hf => (h (u c)).2 (a ▸ hf)⟩

theorem inv_of_keeps {w w' : World} (h : Inv w) {g : ClaimW → Option ClaimW} (hg : Keeps g) (hl : w'.lost = w.lost)
    (hi : w'.inst ≠ .gone → w.inst ≠ .gone) (hc : w'.claim = w.claim.bind g) : Inv w' := by
  refine ⟨hl ▸ h.notLost, fun hne => ?_, fun c' hc' hf => ?_⟩
  · obtain ⟨c, hw, hf, hp⟩ := h.backed (hi hne)
    obtain ⟨c', hc'⟩ := (hg c).2 hf
    obtain ⟨e1, e2, _⟩ := (hg c).1 c' hc'
    exact ⟨c', by rw [hc, hw]; exact hc', e1 ▸ hf, e2 ▸ hp⟩
  · rw [hc] at hc'
    cases hw : w.claim with
    | none => rw [hw] at hc'; cases hc'
    | some c =>
      rw [hw] at hc'
      obtain ⟨_, e2, e3⟩ := (hg c).1 c' hc'
      exact e2 ▸ h.freshNoPid c hw (e3 ▸ hf)

theorem inv_of_claim_eq (w w' : World) (h : Inv w) (hl : w'.lost = w.lost) (hi : w'.inst ≠ .gone → w.inst ≠ .gone) (hc : w'.claim = w.claim) : Inv w' :=
  inv_of_keeps h keeps_some hl hi (by rw [hc]; cases w.claim <;> rfl)

theorem inv_reconcileNode (w : World) (n : NodeObs) (o : NodeOut) (h : Inv w) : Inv (applyNodeOut w n o) := by
  -- the conditions the pass writes are not among the fields the invariant reads
  refine inv_of_keeps h (((keeps_delete w.now).ite o.deletedClaim).after (fun c => match o.conds with
      | none => c
      | some k => { c with drained := k.drained, drainedAt := floorSec k.drainedAt, vol := k.vol, st := { c.st with inst := k.inst } })
    fun c => by split <;> exact ⟨rfl, rfl, rfl⟩) rfl ?_ ?_
  · unfold applyNodeOut
    dsimp only
    split
    · exact triggerInst_gone _
    · exact id
  · unfold applyNodeOut
    cases w.claim <;> rfl

theorem inv_applyClaimOut (w : World) (c : ClaimW) (o : ClaimOut) (h : Inv w) (hc : w.claim = some c)
    (hremoved : o.removed = true → w.inst = .gone ∧ o.created = false)
    (hcreated : o.created = true → c.st.fresh = true ∧ o.launchPersisted = true ∧ o.statusPersisted = true ∧
      (c.st.finalizer = true ∨ o.finalizerAdded = true)) :
    Inv (applyClaimOut w c o) := by
  obtain ⟨e1, e2, e3⟩ := claimStAfter_fields c.st o
  have hgone : o.created = true → w.inst = .gone := fun hcr =>
    h.inst_gone_of_no_pid hc (h.freshNoPid c hc (hcreated hcr).1)
  have hinst : (applyClaimOut w c o).inst ≠ .gone → o.created = true ∨ w.inst ≠ .gone := by
    show (if o.created = true then Inst.running else if o.triggered = true then triggerInst w.inst else w.inst) ≠ .gone → _
    intro hne
    by_cases hcr : o.created = true
    · exact Or.inl hcr
    · rw [if_neg hcr] at hne
      split at hne
      · exact Or.inr (triggerInst_gone _ hne)
      · exact Or.inr hne
  have hlost : (applyClaimOut w c o).lost = false := by
    show (w.lost || (o.created && decide (w.inst ≠ .gone))) = false
    rw [h.notLost]
    by_cases hcr : o.created = true
    · simp [hcr, hgone hcr]
    · simp [hcr]
  cases hr : o.removed
  · -- the invariant holds with the updated claim in place; the pass keeps it, perhaps through `Delete`
    have h1 : Inv { applyClaimOut w c o with claim := some { c with st := claimStAfter c.st o } } := by
      refine ⟨hlost, fun hne => ⟨_, rfl, ?_⟩, fun c' hc' hf => ?_⟩
      · rw [e1, e2]
        rcases hinst hne with hcr | hne'
        · obtain ⟨_, hlp, hsp, hf⟩ := hcreated hcr
          rcases hf with hf | hf <;> simp [hf, hlp, hsp]
        · obtain ⟨c', hc', hf, hp⟩ := h.backed hne'
          rw [hc] at hc'; cases hc'
          simp [hf, hp]
      · cases hc'
        rw [e3] at hf
        simp only [Bool.and_eq_true, Bool.not_eq_true'] at hf
        rw [e2, h.freshNoPid c hc hf.1, hf.2]
        rfl
    refine inv_of_keeps h1 ((keeps_delete w.now).ite o.selfDeleted) rfl id ?_
    unfold applyClaimOut
    simp only [hr, Bool.false_eq_true, if_false, Option.bind_some]
  · obtain ⟨hg, hcr⟩ := hremoved hr
    refine ⟨hlost, fun hne => ?_, fun c' hc' => ?_⟩
    · rcases hinst hne with h' | h'
      · rw [hcr] at h'; cases h'
      · exact absurd hg h'
    · have : (applyClaimOut w c o).claim = none := by
        unfold applyClaimOut
        simp only [hr, if_true]
      rw [this] at hc'; cases hc'

theorem provAnswer_notFound {i : Inst} {fault : Fault} (h : provAnswer i fault = .notFound) : i = .gone := by
  revert h
  fun_cases provAnswer i fault
  case case2 hg => exact fun _ => hg  -- no fault, instance gone
  all_goals exact nofun

theorem inv_reconcileClaim (w : World) (c : ClaimW) (f : ClaimFaults) (p : ProvFaults) (h : Inv w) (hc : w.claim = some c)
    (hp : (!(w.claimPass c f p).created || (w.claimPass c f p).launchPersisted) = true) :
    Inv (applyClaimOut w c (w.claimPass c f p)) := by
  apply inv_applyClaimOut w c _ h hc
  · intro hr
    have facts := claimReconcile_removed hr
    refine ⟨?_, facts.created⟩
    cases hcp : c.st.pid
    · exact h.inst_gone_of_no_pid hc hcp
    · exact provAnswer_notFound ((facts.removed hr).2.2 hcp)
  · intro hcr
    have facts := claimReconcile_created hcr
    have hlp : (w.claimPass c f p).launchPersisted = true := by simpa [hcr] using hp
    exact ⟨(facts.created hcr).1, hlp, facts.persisted hlp, facts.finalizer (Or.inl hcr)⟩

theorem inv_step (w : World) (e : Event) (h : Inv w) (hp : launchPersists w e = true) : Inv (step w e) := by
  revert hp
  fun_cases step w e
  case case2 => exact fun _ => inv_reconcileNode w _ _ h  -- a node termination pass
  case case5 f p c hc hd =>  -- a lifecycle pass inside the modelled domain
    intro hp
    unfold launchPersists at hp
    simp only [hc, hd] at hp
    exact inv_reconcileClaim w c f p h hc hp
  case case7 =>  -- deleteClaim
    exact fun _ => inv_of_keeps h (keeps_delete w.now) rfl id rfl
  case case17 => exact fun _ => ⟨h.notLost, fun hne => absurd rfl hne, h.freshNoPid⟩  -- instanceGone
  -- no object to reconcile, a pass outside the domain, a pod / attachment that is there already: the world stays
  case case1 | case3 | case4 | case10 | case13 => exact fun _ => h
  -- the other events leave claim, instance and `lost` alone
  all_goals exact fun _ => inv_of_claim_eq w _ h rfl id rfl

theorem inv_trace (es : List Event) : ∀ (w : World), Inv w → launchesPersist w es = true → ∀ w' ∈ trace w es, Inv w' := by
  induction es with
  | nil => intro w _ _ w' hw'; cases hw'
  | cons e es ih =>
    intro w h hp w' hw'
    simp only [launchesPersist, Bool.and_eq_true] at hp
    rcases List.mem_cons.mp hw' with rfl | hw'
    · exact inv_step w e h hp.1
    · exact ih _ (inv_step w e h hp.1) hp.2 w' hw'

theorem run_eq_or_mem_trace (es : List Event) : ∀ w : World, run w es = w ∨ run w es ∈ trace w es := by
  induction es with
  | nil => exact fun _ => Or.inl rfl
  | cons e es ih =>
    exact fun w => Or.inr ((ih (step w e)).elim (fun h => h ▸ List.mem_cons_self) (List.mem_cons_of_mem _))

theorem inv_run (es : List Event) : ∀ (w : World), Inv w → launchesPersist w es = true → Inv (run w es) := by
  intro w h hp
  rcases run_eq_or_mem_trace es w with e | hm
  · rw [e]; exact h
  · exact inv_trace es w h hp _ hm

theorem inv_no_orphan (w : World) (h : Inv w) (hc : w.claim = none) : w.instanceExists = false := by
  unfold World.instanceExists
  rw [h.notLost, h.inst_gone fun c hc' => by rw [hc] at hc'; cases hc']
  rfl

end Karp.Term

