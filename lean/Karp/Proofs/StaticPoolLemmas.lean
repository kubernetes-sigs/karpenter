/-
Helper lemmas about static-drift passes (`Karp/Model/StaticPool.lean`), for any pool name and any number of pools:
`ComputeCommands` never reserves more slots for a pool than the pool has candidates as long as the pool's own candidate
count is one of the arguments of the cap; every command gives its reserved node slot back; nothing a pool does touches
another pool's reserved counter.

`ReleaseNodeCount` dereferences the pool's counter without a nil check.  A counter that reads 1 or more exists, so it is
enough to follow the values of the counters through a pass.
-/
import Karp.Proofs.PoolStateLemmas
import Karp.Model.StaticPool
namespace Karp.StaticPool
open Karp.PoolState

theorem reservedOf_update (s : State) (p nc x : Name) (m : Bool) : reservedOf (update s p nc m) x = reservedOf s x := by
  by_cases hp : p = 0
  · rw [update, if_pos hp]
  · rw [update_eq s p nc m hp, reservedOf_mark, reservedOf_setMapping]

theorem release_reserved (p : Name) (s : State) (h : 1 ≤ reservedOf s p) :
    ∃ s', release .asIs s p 1 = some s' ∧ ∀ x, reservedOf s' x = reservedOf s x - if x = p then 1 else 0 := by
  unfold release
  cases hl : s.limits p with
  | none => simp [reservedOf, hl] at h
  | some cur =>
    have hc : 1 ≤ cur := by simpa [reservedOf, hl] using h
    refine ⟨_, rfl, fun x => ?_⟩
    by_cases hx : x = p
    · subst hx
      simp only [reservedOf, upd_same, hl, Option.getD_some, if_true]
      omega
    · simp [reservedOf, upd, hx]

theorem startCommandP_releases (p : Name) (s : State) (cand new : Nat) (lost createOk : Bool)
    (hE : lost = true → Karp.Gen.C03Pool.startCommandReleasesEarly = true) (hpos : 1 ≤ reservedOf s p) :
    ∃ s' ok made, startCommandP p s cand new lost createOk = some (s', ok, made) ∧
      ∀ x, reservedOf s' x = reservedOf s x - if x = p then 1 else 0 := by
  unfold startCommandP
  cases lost with
  | true =>
    simp only [if_true, hE rfl]
    obtain ⟨s3, hs3, hr3⟩ := release_reserved p s hpos
    rw [hs3]
    exact ⟨s3, false, false, rfl, hr3⟩
  | false =>
    simp only [Bool.false_eq_true, if_false]
    generalize hs2 : (if createOk = true then update (markPending s p cand) p new false else markPending s p cand) = s2
    have r2 : ∀ x, reservedOf s2 x = reservedOf s x := by
      intro x
      subst hs2
      split
      · exact (reservedOf_update _ p new x false).trans (reservedOf_mark s p cand x .pending)
      · exact reservedOf_mark s p cand x .pending
    obtain ⟨s3, hs3, hr3⟩ := release_reserved p s2 (by rw [r2]; exact hpos)
    rw [hs3]
    refine ⟨_, createOk, createOk, rfl, fun x => ?_⟩
    rw [← r2 x, ← hr3 x]
    split
    · exact reservedOf_mark s3 p cand x .deleting
    · rfl

theorem driftGoP_releases (p g next : Nat) (lost createFail : List Nat)
    (hE : lost ≠ [] → Karp.Gen.C03Pool.startCommandReleasesEarly = true) :
    ∀ (todo : List Nat) (s : State) (i creates created started failed : Nat), (todo.length : Int) ≤ reservedOf s p →
      (driftGoP p g lost createFail next s i creates created started failed todo).panicked = false ∧
      ∀ x, reservedOf (driftGoP p g lost createFail next s i creates created started failed todo).st x
        = reservedOf s x - if x = p then (todo.length : Int) else 0 := by
  intro todo
  induction todo with
  | nil =>
    intro s i c cr st f _
    exact ⟨rfl, fun x => by simp [driftGoP]⟩
  | cons cand rest ih =>
    intro s i c cr st f hlen
    simp only [List.length_cons] at hlen
    obtain ⟨s', ok, made, hs, hr⟩ := startCommandP_releases p s cand (next + cr) (lost.contains i) (!createFail.contains c)
      (fun hl => hE (List.ne_nil_of_mem (List.contains_iff_mem.mp hl))) (by omega)
    simp only [driftGoP, hs]
    have hlen' : (rest.length : Int) ≤ reservedOf s' p := by rw [hr p, if_pos rfl]; omega
    refine ⟨(ih s' _ _ _ _ _ hlen').1, fun x => ?_⟩
    rw [(ih s' _ _ _ _ _ hlen').2 x, hr x, List.length_cons]
    split <;> omega

theorem driftGoP_take_releases (p g next : Nat) (lost createFail cands : List Nat) (s : State)
    (hE : lost ≠ [] → Karp.Gen.C03Pool.startCommandReleasesEarly = true)
    (hle : g ≤ cands.length) (hres : (g : Int) ≤ reservedOf s p) :
    (driftGoP p g lost createFail next s 0 0 0 0 0 (cands.take g)).panicked = false ∧
    ∀ x, reservedOf (driftGoP p g lost createFail next s 0 0 0 0 0 (cands.take g)).st x
      = reservedOf s x - if x = p then (g : Int) else 0 := by
  have hlen : (cands.take g).length = g := by rw [List.length_take]; exact Nat.min_eq_left hle
  have := driftGoP_releases p g next lost createFail hE (cands.take g) s 0 0 0 0 0 (by rw [hlen]; exact hres)
  rwa [hlen] at this

theorem reserve_grant_bounds (p : Name) (s : State) (limit wanted : Int) (hw : 0 ≤ wanted) :
    0 ≤ (reserve s p limit wanted).2 ∧ (reserve s p limit wanted).2 ≤ wanted := by
  rw [reserve_grant]
  exact ⟨(clampGrant_bounds _ _ hw).1, (clampGrant_bounds _ _ hw).2.1⟩

/-! ### the cap on the drifts of a pool -/

theorem le_foldl_min (f : Nat → Nat) (l : List Nat) (m k : Nat) :
    k ≤ l.foldl (fun m x => min m (f x)) m ↔ k ≤ m ∧ ∀ x ∈ l, k ≤ f x := by
  induction l generalizing m with
  | nil => simp
  | cons a t ih => simp only [List.foldl_cons, ih, Nat.le_min, List.forall_mem_cons, and_assoc]

/-- `lo.Min` is at most each of its arguments -/
theorem driftCap_le_arg (args : List Nat) (budget own all k : Nat) (h : k ∈ args) :
    driftCap args budget own all ≤ capArg budget own all k := by
  cases args with
  | nil => cases h
  | cons a t =>
    obtain ⟨ha, ht⟩ := (le_foldl_min (capArg budget own all) t _ _).mp (Nat.le_refl (driftCap (a :: t) budget own all))
    rcases List.mem_cons.mp h with rfl | h1
    · exact ha
    · exact ht k h1

theorem driftCap_le_own (args : List Nat) (budget own all : Nat) (h : 1 ∈ args) : driftCap args budget own all ≤ own :=
  driftCap_le_arg args budget own all 1 h

theorem driftCap_le_budget (args : List Nat) (budget own all : Nat) (h : 0 ∈ args) : driftCap args budget own all ≤ budget :=
  driftCap_le_arg args budget own all 0 h

theorem computeOne_spec (args : List Nat) (hcap : 1 ∈ args) (all : Nat) (s : State) (P : PoolIn) :
    ∃ s1 g, computeOne args all s P = (s1, some g) ∧ g ≤ P.cands.length ∧
      ∀ x, reservedOf s1 x = if x = P.p then reservedOf s P.p + g else reservedOf s x := by
  obtain ⟨hg0, hgw⟩ := reserve_grant_bounds P.p s (nodeLimit P.limit) (driftCap args P.budget P.cands.length all : Nat)
    (Int.natCast_nonneg _)
  have hcapLe := driftCap_le_own args P.budget P.cands.length all hcap
  fun_cases computeOne args all s P
  · refine ⟨s, 0, rfl, Nat.zero_le _, fun x => ?_⟩
    split
    · rename_i hx
      rw [hx]
      exact (Int.add_zero _).symm
    · rfl
  · -- the grant is at most the cap and the cap at most the pool's candidates: the slice is in range
    rename_i hgt
    have : (reserve s P.p (nodeLimit P.limit) _).2.toNat > P.cands.length := hgt
    omega
  · exact ⟨_, _, rfl, by omega, fun x => by rw [reservedOf_reserve, Int.toNat_of_nonneg hg0]⟩

/-! ### a whole pass -/

/-- slots `ComputeCommands` took for pool `q` -/
def owed (q : Name) : List (PoolIn × Nat) → Int
  | [] => 0
  | Pg :: rest => (if q = Pg.1.p then (Pg.2 : Int) else 0) + owed q rest

theorem owed_nonneg (q : Name) (todo : List (PoolIn × Nat)) : 0 ≤ owed q todo := by
  induction todo with
  | nil => exact Int.le_refl 0
  | cons Pg rest ih =>
    refine Int.add_nonneg ?_ ih
    split
    · exact Int.natCast_nonneg _
    · exact Int.le_refl 0

theorem computeAll_spec (args : List Nat) (hcap : 1 ∈ args) (all : Nat) :
    ∀ (pools : List PoolIn) (s : State), ∃ sA todo, computeAll args all s pools = (sA, some todo) ∧
      (∀ Pg ∈ todo, Pg.2 ≤ Pg.1.cands.length) ∧
      (∀ q, reservedOf sA q = reservedOf s q + owed q todo) ∧
      todo.map (·.1) = pools := by
  intro pools
  induction pools with
  | nil =>
    intro s
    exact ⟨s, [], rfl, fun _ h => (nomatch h), fun q => by simp [owed], rfl⟩
  | cons P rest ih =>
    intro s
    obtain ⟨s1, g, hc, hle, hres⟩ := computeOne_spec args hcap all s P
    obtain ⟨sA, todo, hA, hall, hresA, hmap⟩ := ih s1
    refine ⟨sA, (P, g) :: todo, ?_, ?_, fun q => ?_, ?_⟩
    · simp only [computeAll, hc, hA]
    · intro Pg hPg
      rcases List.mem_cons.mp hPg with h | h
      · subst h
        exact hle
      · exact hall Pg h
    · rw [hresA q, hres q]
      simp only [owed]
      split
      · rename_i hq
        rw [hq, Int.add_assoc]
      · rw [Int.zero_add]
    · simp [hmap]

theorem startAll_spec :
    ∀ (todo : List (PoolIn × Nat)) (s : State),
      (∀ Pg ∈ todo, Pg.1.lost ≠ [] → Karp.Gen.C03Pool.startCommandReleasesEarly = true) →
      (∀ Pg ∈ todo, Pg.2 ≤ Pg.1.cands.length) →
      (∀ q, owed q todo ≤ reservedOf s q) →
      (startAll s todo).panicked = false ∧ ∀ q, reservedOf (startAll s todo).st q = reservedOf s q - owed q todo := by
  intro todo
  induction todo with
  | nil =>
    intro s _ _ _
    exact ⟨rfl, fun q => by simp [startAll, owed]⟩
  | cons Pg rest ih =>
    intro s hE hall howed
    obtain ⟨P, g⟩ := Pg
    simp only [owed] at howed
    obtain ⟨hp, hres⟩ := driftGoP_take_releases P.p g P.next P.lost P.createFail P.cands s
      (hE (P, g) List.mem_cons_self) (hall (P, g) List.mem_cons_self)
      (by have h := howed P.p; rw [if_pos rfl] at h; have := owed_nonneg P.p rest; omega)
    simp only [startAll, hp, Bool.false_eq_true, if_false]
    have := ih (driftGoP P.p g P.lost P.createFail P.next s 0 0 0 0 0 (P.cands.take g)).st
      (fun Pg h => hE Pg (List.mem_cons_of_mem _ h)) (fun Pg h => hall Pg (List.mem_cons_of_mem _ h))
      (fun q => by rw [hres q]; exact Int.le_sub_left_of_add_le (howed q))
    refine ⟨this.1, fun q => ?_⟩
    rw [this.2 q, hres q, owed, Int.sub_sub]

end Karp.StaticPool
