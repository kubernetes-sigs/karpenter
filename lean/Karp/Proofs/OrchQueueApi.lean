/-
C08, the API-level helpers of the orchestration queue: what worlds reached by API calls and single-candidate updates
keep (`Eff`), the guarded patch and its sweeps, the Delete fan-out, and all of them once the faults have stopped.
-/
import Karp.Model.OrchQueue

namespace Karp.OrchQueue

theorem updAt_eq_modify {α : Type} (l : List α) (i : Nat) (f : α → α) : updAt l i f = l.modify i f := by
  fun_induction updAt l i f <;> simp [*]

theorem length_updAt {α : Type} (l : List α) (i : Nat) (f : α → α) : (updAt l i f).length = l.length := by
  rw [updAt_eq_modify, List.length_modify]

theorem getElem?_updAt {α : Type} (l : List α) (i j : Nat) (f : α → α) :
    (updAt l i f)[j]? = if j = i then (l[j]?).map f else l[j]? := by
  rw [updAt_eq_modify, List.getElem?_modify]
  by_cases h : j = i
  · simp [h]
  · simp [h, Ne.symm h]

theorem getD_updAt {α : Type} (l : List α) (i j : Nat) (f : α → α) (d : α) :
    ((updAt l i f)[j]?).getD d = if j = i ∧ i < l.length then f ((l[j]?).getD d) else (l[j]?).getD d := by
  rw [getElem?_updAt]
  by_cases h : j = i
  · subst h
    by_cases hl : j < l.length
    · simp [hl]
    · simp [hl]
  · simp [h]

theorem mem_updAt {α : Type} {l : List α} {i : Nat} {f : α → α} {x : α} (h : x ∈ updAt l i f) :
    x ∈ l ∨ ∃ y, l[i]? = some y ∧ x = f y := by
  obtain ⟨j, hj⟩ := List.getElem?_of_mem h
  rw [getElem?_updAt] at hj
  split at hj
  · rename_i e
    subst e
    cases hy : l[j]? with
    | none => rw [hy] at hj; cases hj
    | some y => rw [hy] at hj; exact Or.inr ⟨y, rfl, (Option.some.inj hj).symm⟩
  · exact Or.inl (List.mem_of_getElem? hj)

theorem forall_updAt {α : Type} {P : α → Prop} {l : List α} {i : Nat} {f : α → α}
    (hl : ∀ x ∈ l, P x) (hf : ∀ x, P x → P (f x)) : ∀ x ∈ updAt l i f, P x := by
  intro x hx
  rcases mem_updAt hx with h | ⟨y, hy, e⟩
  · exact hl x h
  · subst e; exact hf y (hl y (List.mem_of_getElem? hy))

theorem candAt_setCand (w : World) (i j : Nat) (f : Cand → Cand) :
    candAt (setCand w i f) j = if j = i ∧ i < w.cands.length then f (candAt w j) else candAt w j :=
  getD_updAt w.cands i j f _

theorem cmdAt_setCmd (w : World) (k j : Nat) (f : Cmd → Cmd) :
    cmdAt (setCmd w k f) j = if j = k ∧ k < w.cmds.length then f (cmdAt w j) else cmdAt w j :=
  getD_updAt w.cmds k j f _

@[simp] theorem setCmd_cands (w : World) (k : Nat) (f : Cmd → Cmd) : (setCmd w k f).cands = w.cands := rfl
@[simp] theorem setCand_cmds (w : World) (i : Nat) (f : Cand → Cand) : (setCand w i f).cmds = w.cmds := rfl
@[simp] theorem candAt_setCmd (w : World) (k i : Nat) (f : Cmd → Cmd) : candAt (setCmd w k f) i = candAt w i := rfl
@[simp] theorem cmdAt_setCand (w : World) (k i : Nat) (f : Cand → Cand) : cmdAt (setCand w i f) k = cmdAt w k := rfl
@[simp] theorem setCand_length (w : World) (i : Nat) (f : Cand → Cand) : (setCand w i f).cands.length = w.cands.length :=
  length_updAt _ _ _
@[simp] theorem setCmd_length (w : World) (k : Nat) (f : Cmd → Cmd) : (setCmd w k f).cmds.length = w.cmds.length :=
  length_updAt _ _ _

theorem candAt_of_not_lt {w : World} {i : Nat} (h : ¬ i < w.cands.length) : candAt w i = {} := by
  simp [candAt, List.getElem?_eq_none (Nat.le_of_not_lt h)]

theorem candAt_congr {w' w : World} (hc : w'.cands = w.cands) (j : Nat) : candAt w' j = candAt w j := by
  simp [candAt, hc]

theorem cmdAt_congr {w' w : World} (hc : w'.cmds = w.cmds) (K : Nat) : cmdAt w' K = cmdAt w K := by
  simp [cmdAt, hc]

theorem cmdAt_of_not_lt {w : World} {K : Nat} (h : ¬ K < w.cmds.length) : cmdAt w K = { cands := [], repls := [] } := by
  simp [cmdAt, List.getElem?_eq_none (Nat.le_of_not_lt h)]

theorem cmdAt_of_getElem? {w : World} {k : Nat} {c : Cmd} (h : w.cmds[k]? = some c) : cmdAt w k = c := by
  simp [cmdAt, h]

theorem cmdAt_mem {w : World} {k : Nat} (h : k < w.cmds.length) : cmdAt w k ∈ w.cmds := by
  unfold cmdAt
  rw [List.getElem?_eq_getElem h]
  simp

/-- `Eff F w w'`: `w'` is reached from `w` by API calls and by updating single candidates with functions from `F` -/
inductive Eff (F : (Cand → Cand) → Prop) : World → World → Prop
  | refl (w : World) : Eff F w w
  | api {w w' : World} (k : Key) : Eff F w w' → Eff F w (call w' k).2
  | upd {w w' : World} (i : Nat) (f : Cand → Cand) : F f → Eff F w w' → Eff F w (setCand w' i f)

theorem Eff.trans {F} {a b c : World} (h1 : Eff F a b) (h2 : Eff F b c) : Eff F a c := by
  induction h2 with
  | refl => exact h1
  | api k _ ih => exact Eff.api k ih
  | upd i f hf _ ih => exact Eff.upd i f hf ih

theorem Eff.mono {F G : (Cand → Cand) → Prop} (hFG : ∀ f, F f → G f) {a b : World} (h : Eff F a b) : Eff G a b := by
  induction h with
  | refl => exact Eff.refl _
  | api k _ ih => exact Eff.api k ih
  | upd i f hf _ ih => exact Eff.upd i f (hFG f hf) ih

theorem Eff.call1 {F} (w : World) (k : Key) : Eff F w (Karp.OrchQueue.call w k).2 := Eff.api k (Eff.refl w)

theorem call_snd {w w1 : World} {k : Key} {o : Outcome} (h : call w k = (o, w1)) : w1 = (call w k).2 := by rw [h]

theorem Eff.of_call {F} {w w1 : World} {k : Key} {o : Outcome} (h : Karp.OrchQueue.call w k = (o, w1)) : Eff F w w1 :=
  call_snd h ▸ Eff.call1 w k

theorem Eff.pres {F} {P : World → Prop} (hc : ∀ w k, P w → P (Karp.OrchQueue.call w k).2)
    (hs : ∀ w i f, F f → P w → P (setCand w i f)) {a b : World} (h : Eff F a b) : P a → P b := by
  induction h with
  | refl => exact id
  | api k _ ih => exact fun h => hc _ k (ih h)
  | upd i f hf _ ih => exact fun h => hs _ i f hf (ih h)

theorem Eff.frame {F} {a b : World} (h : Eff F a b) :
    b.cmds = a.cmds ∧ b.retrySteps = a.retrySteps ∧ b.cands.length = a.cands.length :=
  Eff.pres (P := fun b => b.cmds = a.cmds ∧ b.retrySteps = a.retrySteps ∧ b.cands.length = a.cands.length)
    (fun _ _ h => h) (fun _ _ _ _ h => ⟨h.1, h.2.1, (setCand_length _ _ _).trans h.2.2⟩) h ⟨rfl, rfl, rfl⟩

theorem Eff.candPred {F} {p : Cand → Prop} (hF : ∀ f, F f → ∀ c, p c → p (f c)) {a b : World} (h : Eff F a b)
    (i : Nat) : p (candAt a i) → p (candAt b i) :=
  Eff.pres (P := fun w => p (candAt w i)) (fun _ _ h => h)
    (fun w j f hf h => by
      rw [candAt_setCand]
      split
      · exact hF f hf _ h
      · exact h) h

theorem Eff.field {F} {β : Type} (g : Cand → β) (hF : ∀ f, F f → ∀ c, g (f c) = g c) {a b : World} (h : Eff F a b)
    (i : Nat) : g (candAt b i) = g (candAt a i) :=
  Eff.candPred (p := fun c => g c = g (candAt a i)) (fun f hf c hc => (hF f hf c).trans hc) h i rfl

theorem Eff.field1 {f : Cand → Cand} {β : Type} {a b : World} (h : Eff (· = f) a b) (g : Cand → β)
    (hg : ∀ c, g (f c) = g c) (i : Nat) : g (candAt b i) = g (candAt a i) :=
  h.field g (fun f' (hf : f' = f) c => hf ▸ hg c) i

theorem eff_retry {F} (body : World → Outcome × World) (hb : ∀ w, Eff F w (body w).2) (n : Nat) (w : World) :
    Eff F w (retry n body w).2 := by
  fun_induction retry n body w with
  | case1 _ w => exact Eff.refl w
  | case2 _ w w' h => have := hb w; rw [h] at this; exact this
  | case3 n _ w w' h _ ih => have := hb w; rw [h] at this; exact this.trans (ih hb)
  | case4 n _ w _ => exact hb w

/-! ### a quiet fault plan: no fault applies to any call from now on -/

def Quiet (w : World) : Prop := ∀ k n, countOf w.counts k ≤ n → faultAt w.faults k n = none

theorem countOf_bump_ge (cs : List (Key × Nat)) (k k' : Key) : countOf cs k' ≤ countOf (bump cs k) k' := by
  fun_induction bump cs k with
  | case1 k => exact Nat.zero_le _
  | case2 k n t =>
    simp only [countOf]
    split <;> simp
  | case3 k k0 n t h ih =>
    simp only [countOf]
    split
    · exact Nat.le_refl _
    · exact ih

theorem quiet_call {w : World} (h : Quiet w) (k : Key) : (call w k).1 = .ok ∧ Quiet (call w k).2 := by
  constructor
  · show callOutcome w k = .ok
    unfold callOutcome
    rw [h k _ (Nat.le_refl _)]
  · intro k' n hn
    exact h k' n (Nat.le_trans (countOf_bump_ge w.counts k k') hn)

theorem call_eq_ok {w : World} (h : Quiet w) (k : Key) : call w k = (.ok, (call w k).2) :=
  Prod.ext (quiet_call h k).1 rfl

theorem candAt_call (w : World) (k : Key) (i : Nat) : candAt (call w k).2 i = candAt w i := rfl

theorem retry_noerr (n : Nat) (body : World → Outcome × World) (w : World) (h : (body w).1 ≠ .err) :
    retry (n + 1) body w = body w := by
  unfold retry
  split
  · rename_i w' heq; rw [heq] at h; exact absurd rfl h
  · rfl

theorem retry_ok (n : Nat) (body : World → Outcome × World) (w : World) (h : (body w).1 = .ok) :
    retry (n + 1) body w = body w :=
  retry_noerr n body w (by rw [h]; nofun)

/-- no fault applies from now on and at least one attempt is made: what the helpers need to do their work -/
def Calm (w : World) : Prop := Quiet w ∧ 0 < w.retrySteps

theorem calm_eff {F} {w w' : World} (he : Eff F w w') (h : Calm w) : Calm w' :=
  ⟨Eff.pres (P := Quiet) (fun _ k h => (quiet_call h k).2) (fun _ _ _ _ h => h) he h.1,
   by rw [he.frame.2.1]; exact h.2⟩

theorem calm_setCmd {w : World} (h : Calm w) (K : Nat) (f : Cmd → Cmd) : Calm (setCmd w K f) := h

/-! ### the guarded patch

`RequireNoScheduleTaint`, the condition patch of `markDisrupted` and `ClearNodeClaimsCondition` treat their one
object alike: Get it (a candidate that is gone answers NotFound); if `same` already holds of it nothing is sent;
else patch it and, when the patch succeeds, apply `f`; `retry.OnError` around that, and of the outcome only an
error is reported (`client.IgnoreNotFound`). -/

def setTaint (b : Bool) : Cand → Cand := fun c => { c with taint := b }
def setCond (b : Bool) : Cand → Cand := fun c => { c with cond := b }
def setDeleting : Cand → Cand := fun c => { c with deleting := true }

def patchAttempt (kGet kPatch : Key) (same : Cand → Prop) [DecidablePred same] (f : Cand → Cand) (i : Nat)
    (w : World) : Outcome × World :=
  match call w kGet with
  | (.ok, w1) =>
    if (candAt w1 i).gone then (.notFound, w1)
    else if same (candAt w1 i) then (.ok, w1)
    else
      match call w1 kPatch with
      | (.ok, w2) => (.ok, setCand w2 i f)
      | r => r
  | r => r

def reported (r : Outcome × World) : Bool × World :=
  match r with
  | (.err, w') => (true, w')
  | (_, w') => (false, w')

def patch (kGet kPatch : Key) (same : Cand → Prop) [DecidablePred same] (f : Cand → Cand) (i : Nat)
    (w : World) : Bool × World :=
  reported (retry w.retrySteps (patchAttempt kGet kPatch same f i) w)

theorem taintNode_eq (add : Bool) (i : Nat) (w : World) :
    taintNode add i w = patch (.getNode i) (.patchNode i) (fun c => c.taint = add) (setTaint add) i w := rfl
theorem condSet_eq (i : Nat) (w : World) :
    condSet i w = patch (.getNC i) (.statusNC i) (fun _ => False) (setCond true) i w := rfl
theorem condClear_eq (i : Nat) (w : World) :
    condClear i w = patch (.getNC i) (.statusNC i) (fun c => c.cond = false) (setCond false) i w := rfl

theorem reported_snd (r : Outcome × World) : (reported r).2 = r.2 := by
  unfold reported; split <;> rfl

theorem reported_fst {r : Outcome × World} (h : r.1 ≠ .err) : (reported r).1 = false := by
  unfold reported; split
  · exact absurd rfl h
  · rfl

section
variable {kGet kPatch : Key} {same : Cand → Prop} [DecidablePred same] {f : Cand → Cand} {i : Nat}

theorem eff_patchAttempt (w : World) : Eff (· = f) w (patchAttempt kGet kPatch same f i w).2 := by
  fun_cases patchAttempt kGet kPatch same f i w with
  | case1 w1 h1 | case2 w1 h1 => exact Eff.of_call h1
  | case3 w1 h1 _ _ w2 h2 => exact Eff.upd i f rfl ((Eff.of_call h1).trans (Eff.of_call h2))
  | case4 w1 h1 => exact (Eff.of_call h1).trans (Eff.call1 w1 _)
  | case5 => exact Eff.call1 w _

theorem eff_patch (w : World) : Eff (· = f) w (patch kGet kPatch same f i w).2 := by
  rw [patch, reported_snd]
  exact eff_retry _ eff_patchAttempt _ w

theorem patchAttempt_quiet {w : World} (hq : Quiet w) (hf : ∀ c, same (f c)) (h0 : same {}) :
    (patchAttempt kGet kPatch same f i w).1 ≠ .err ∧
      ((candAt w i).gone = false → same (candAt (patchAttempt kGet kPatch same f i w).2 i)) := by
  unfold patchAttempt
  rw [call_eq_ok hq]
  simp only
  split
  · rename_i hg
    exact ⟨nofun, fun h => by rw [candAt_call, h] at hg; cases hg⟩
  · split
    · rename_i hs; exact ⟨nofun, fun _ => hs⟩
    · rw [call_eq_ok (quiet_call hq kGet).2]
      simp only
      refine ⟨nofun, fun _ => ?_⟩
      rw [candAt_setCand]
      split
      · exact hf _
      · rename_i hn
        rw [candAt_of_not_lt (fun hlt => hn ⟨rfl, hlt⟩)]
        exact h0

theorem patch_quiet {w : World} (hc : Calm w) (hf : ∀ c, same (f c)) (h0 : same {}) :
    (patch kGet kPatch same f i w).1 = false ∧
      ((candAt w i).gone = false → same (candAt (patch kGet kPatch same f i w).2 i)) := by
  obtain ⟨n, hn⟩ : ∃ n, w.retrySteps = n + 1 := ⟨w.retrySteps - 1, by have := hc.2; omega⟩
  obtain ⟨he, hs⟩ := patchAttempt_quiet (kGet := kGet) (kPatch := kPatch) (i := i) hc.1 hf h0
  rw [patch, hn, retry_noerr n _ w he, reported_snd]
  exact ⟨reported_fst he, hs⟩

end

theorem eff_taintNode (add : Bool) (i : Nat) (w : World) : Eff (· = setTaint add) w (taintNode add i w).2 := by
  rw [taintNode_eq]; exact eff_patch w
theorem eff_condSet (i : Nat) (w : World) : Eff (· = setCond true) w (condSet i w).2 := by
  rw [condSet_eq]; exact eff_patch w
theorem eff_condClear (i : Nat) (w : World) : Eff (· = setCond false) w (condClear i w).2 := by
  rw [condClear_eq]; exact eff_patch w

/-- for a node that is gone the Get answers NotFound, which is not an error -/
theorem untaint_quiet (i : Nat) (w : World) (hc : Calm w) :
    (taintNode false i w).1 = false ∧
      ((candAt w i).gone = false → (candAt (taintNode false i w).2 i).taint = false) := by
  rw [taintNode_eq]; exact patch_quiet hc (fun _ => rfl) rfl

theorem clear_quiet (i : Nat) (w : World) (hc : Calm w) :
    (condClear i w).1 = false ∧ ((candAt w i).gone = false → (candAt (condClear i w).2 i).cond = false) := by
  rw [condClear_eq]; exact patch_quiet hc (fun _ => rfl) rfl

/-- the updates the API-level helpers make write API bits only: the queue entry, the deletion mark and `gone` stay -/
def apiUpd (f : Cand → Cand) : Prop := ∀ c, (f c).owner = c.owner ∧ (f c).mark = c.mark ∧ (f c).gone = c.gone

theorem taint_api {b : Bool} : ∀ f, f = setTaint b → apiUpd f := fun _ h _ => h ▸ ⟨rfl, rfl, rfl⟩
theorem cond_api {b : Bool} : ∀ f, f = setCond b → apiUpd f := fun _ h _ => h ▸ ⟨rfl, rfl, rfl⟩
theorem deleting_api : ∀ f, f = setDeleting → apiUpd f := fun _ h _ => h ▸ ⟨rfl, rfl, rfl⟩

/-! ### sweeps: one operation per listed candidate, errors collected -/

def sweep (op : Nat → World → Bool × World) : List Nat → World → Bool × World
  | [], w => (false, w)
  | i :: is, w => ((op i w).1 || (sweep op is (op i w).2).1, (sweep op is (op i w).2).2)

theorem untaintAllE_eq : ∀ (l : List Nat) (w : World), untaintAllE l w = sweep (taintNode false) l w
  | [], _ => rfl
  | i :: is, w => by
    unfold untaintAllE
    simp only [untaintAllE_eq is, sweep]

theorem clearAllE_eq : ∀ (l : List Nat) (w : World), clearAllE l w = sweep condClear l w
  | [], _ => rfl
  | i :: is, w => by
    unfold clearAllE
    simp only [clearAllE_eq is, sweep]

theorem untaintAll_eq : ∀ (l : List Nat) (w : World), untaintAll l w = (sweep (taintNode false) l w).2
  | [], _ => rfl
  | _ :: is, _ => untaintAll_eq is _

theorem clearAll_eq : ∀ (l : List Nat) (w : World), clearAll l w = (sweep condClear l w).2
  | [], _ => rfl
  | _ :: is, _ => clearAll_eq is _

theorem eff_sweep {F} {op : Nat → World → Bool × World} (h : ∀ i w, Eff F w (op i w).2) :
    ∀ (l : List Nat) (w : World), Eff F w (sweep op l w).2
  | [], w => Eff.refl w
  | i :: is, w => (h i w).trans (eff_sweep h is _)

theorem sweep_quiet {op : Nat → World → Bool × World} {f : Cand → Cand} {p : Cand → Prop}
    (heff : ∀ i w, Eff (· = f) w (op i w).2)
    (hop : ∀ i w, Calm w → (op i w).1 = false ∧ ((candAt w i).gone = false → p (candAt (op i w).2 i)))
    (hf : ∀ c, p (f c)) (hg : ∀ c, (f c).gone = c.gone) :
    ∀ (l : List Nat) (w : World), Calm w →
      (sweep op l w).1 = false ∧ ∀ i ∈ l, (candAt w i).gone = false → p (candAt (sweep op l w).2 i)
  | [], _, _ => ⟨rfl, nofun⟩
  | i :: is, w, hc => by
    obtain ⟨h1, h2⟩ := hop i w hc
    have he := heff i w
    obtain ⟨h3, h4⟩ := sweep_quiet heff hop hf hg is _ (calm_eff he hc)
    refine ⟨by simp only [sweep, h1, h3, Bool.or_self], fun j hj hgone => ?_⟩
    rcases List.mem_cons.mp hj with e | e
    · subst e
      exact (eff_sweep heff is _).candPred (fun g (hg' : g = f) c _ => hg' ▸ hf c) j (h2 hgone)
    · exact h4 j e (by rw [he.field1 (·.gone) hg j]; exact hgone)

/-- untaint, then clear the condition, over the same nodes: the API part of giving a command up, and the cleanup
    pass of the disruption controller -/
def rollback (l : List Nat) (w : World) : Bool × World := sweep condClear l (sweep (taintNode false) l w).2

/-- the updates a rollback makes: API bits only (`apiUpd`), and `deleting` stays as well -/
def tcUpd (f : Cand → Cand) : Prop := apiUpd f ∧ ∀ c, (f c).deleting = c.deleting
theorem tc_api : ∀ f, tcUpd f → apiUpd f := fun _ h => h.1

theorem eff_untaintSweep (l : List Nat) (w : World) : Eff tcUpd w (sweep (taintNode false) l w).2 :=
  (eff_sweep (eff_taintNode false) l w).mono (fun f h => ⟨taint_api f h, fun _ => h ▸ rfl⟩)

theorem eff_rollback (l : List Nat) (w : World) : Eff tcUpd w (rollback l w).2 :=
  (eff_untaintSweep l w).trans ((eff_sweep eff_condClear l _).mono (fun f h => ⟨cond_api f h, fun _ => h ▸ rfl⟩))

theorem rollback_quiet (l : List Nat) {w : World} (hc : Calm w) :
    (sweep (taintNode false) l w).1 = false ∧ (rollback l w).1 = false ∧
    ∀ i ∈ l, (candAt w i).gone = false →
      (candAt (rollback l w).2 i).taint = false ∧ (candAt (rollback l w).2 i).cond = false := by
  have he1 := eff_sweep (eff_taintNode false) l w
  obtain ⟨h1, h2⟩ := sweep_quiet (p := fun c => c.taint = false) (eff_taintNode false) untaint_quiet
    (fun _ => rfl) (fun _ => rfl) l w hc
  obtain ⟨h3, h4⟩ := sweep_quiet (p := fun c => c.cond = false) eff_condClear clear_quiet
    (fun _ => rfl) (fun _ => rfl) l _ (calm_eff he1 hc)
  refine ⟨h1, h3, fun i hi hg => ⟨?_, h4 i hi (by rw [he1.field1 (·.gone) (fun _ => rfl) i]; exact hg)⟩⟩
  rw [rollback, (eff_sweep eff_condClear l _).field1 (·.taint) (fun _ => rfl) i]
  exact h2 i hi hg

theorem eff_markOne (i : Nat) (w : World) : Eff apiUpd w (markOne i w).2 := by
  have h1 := (eff_taintNode true i w).mono taint_api
  fun_cases markOne i w with
  | case1 w1 h => rw [h] at h1; exact h1
  | case2 w1 h => rw [h] at h1; exact h1.trans ((eff_condSet i w1).mono cond_api)

theorem eff_markAll : ∀ (l : List Nat) (w : World), Eff apiUpd w (markAll l w).2.2
  | [], w => Eff.refl w
  | i :: is, w => by
    unfold markAll
    simp only
    exact (eff_markOne i w).trans (eff_markAll is _)

theorem markAll_subset : ∀ (l : List Nat) (w : World), ∀ j ∈ (markAll l w).1, j ∈ l
  | [], w => by simp [markAll]
  | i :: is, w => by
    unfold markAll
    simp only
    intro j hj
    split at hj
    · exact List.mem_cons_of_mem _ (markAll_subset is _ j hj)
    · rcases List.mem_cons.mp hj with e | e
      · simp [e]
      · exact List.mem_cons_of_mem _ (markAll_subset is _ j e)

theorem delTry_spec (ci : Nat) (snap : List RApi) (n : Nat) (w : World) :
    Eff (· = setDeleting) w (delTry ci snap n w).2.2 ∧
      ∀ e ∈ (delTry ci snap n w).2.1, e.repls = snap ∧ e.cand = ci := by
  fun_induction delTry ci snap n w with
  | case1 w => exact ⟨Eff.refl w, nofun⟩
  | case2 _ w w1 h | case4 _ w w1 h | case5 w w1 h => exact ⟨Eff.of_call h, by simp⟩
  | case3 _ w w1 h => exact ⟨Eff.upd ci _ rfl (Eff.of_call h), by simp⟩
  | case6 n w w1 h _ e evs w2 h2 ih =>
    rw [h2] at ih
    refine ⟨(Eff.of_call h).trans ih.1, fun e he => ?_⟩
    rcases List.mem_cons.mp he with he | he
    · subst he; exact ⟨rfl, rfl⟩
    · exact ih.2 e he

theorem delAll_spec (snap : List RApi) : ∀ (l : List Nat) (w : World),
    Eff (· = setDeleting) w (delAll snap l w).2.2 ∧ ∀ e ∈ (delAll snap l w).2.1, e.repls = snap ∧ e.cand ∈ l
  | [], w => ⟨Eff.refl w, nofun⟩
  | ci :: cs, w => by
    unfold delAll
    simp only
    obtain ⟨h1, h2⟩ := delTry_spec ci snap w.retrySteps w
    obtain ⟨h3, h4⟩ := delAll_spec snap cs (delTry ci snap w.retrySteps w).2.2
    refine ⟨h1.trans h3, fun x hx => ?_⟩
    rcases List.mem_append.mp hx with hx | hx
    · obtain ⟨a, b⟩ := h2 x hx; exact ⟨a, by simp [b]⟩
    · obtain ⟨a, b⟩ := h4 x hx; exact ⟨a, by simp [b]⟩

theorem foldl_setCand_frame (f : Cand → Cand) : ∀ (l : List Nat) (w : World),
    (l.foldl (fun w i => setCand w i f) w).cmds = w.cmds ∧
    (l.foldl (fun w i => setCand w i f) w).cands.length = w.cands.length
  | [], w => by simp
  | i :: is, w => by
    simp only [List.foldl_cons]
    obtain ⟨h1, h2⟩ := foldl_setCand_frame f is (setCand w i f)
    exact ⟨h1, by simp [h2]⟩

theorem foldl_setCand_at (f : Cand → Cand) (hf : ∀ c, f (f c) = f c) : ∀ (l : List Nat) (w : World) (j : Nat),
    candAt (l.foldl (fun w i => setCand w i f) w) j =
      if j ∈ l ∧ j < w.cands.length then f (candAt w j) else candAt w j
  | [], w, j => by simp
  | i :: is, w, j => by
    simp only [List.foldl_cons]
    rw [foldl_setCand_at f hf is (setCand w i f) j, candAt_setCand]
    simp only [setCand_length, List.mem_cons]
    by_cases hji : j = i
    · subst hji
      by_cases hl : j < w.cands.length
      · by_cases hm : j ∈ is <;> simp [hl, hm, hf]
      · simp [hl]
    · simp [hji]

end Karp.OrchQueue
