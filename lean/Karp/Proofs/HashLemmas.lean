/-
Lemmas about the model of `NodePool.Hash()` (`Karp/Model/Hash.lean`): what each struct visit unfolds to for the field
table generated from the Go source, permutation invariance of the set / map hashes, and the "no masking" lemmas
behind the partial sensitivity theorem.
-/
import Karp.Model.Hash
import Karp.Proofs.ListLemmas

namespace Karp.Hash

variable {U : Type}

/-! ### What the walk unfolds to with the generated field table

Every struct of the table is found under its own name because the qualified names are distinct (`fieldsOf_structs`,
by `decide` on the name list); the fold over the fields of a row is then checked by unfolding.  The lemmas stop compiling when a
hashed struct gains, loses, renames or re-tags a field — which is the point. -/

theorem fieldsOf_structs : ∀ r ∈ Karp.Gen.C15Hash.structs, fieldsOf r.1 = some r.2 := by
  intro r hr
  have hn : (Karp.Gen.C15Hash.structs.map (·.1)).Nodup := by decide +kernel
  unfold fieldsOf
  rw [find?_key_of_nodup (·.1) _ hn r hr]

theorem structHash_row (P : Prims U) (i : Nat) (hi : i < Karp.Gen.C15Hash.structs.length)
    (vals : List (String × Option U)) :
    structHash P Karp.Gen.C15Hash.structs[i].1 vals =
      Karp.Gen.C15Hash.structs[i].2.2.foldl (fieldStep P vals) (P.bytes (utf8 Karp.Gen.C15Hash.structs[i].2.1)) := by
  unfold structHash; rw [fieldsOf_structs _ (List.getElem_mem hi)]

theorem structHash_template (P : Prims U) (m s : Option U) :
    structHash P tTemplate [("ObjectMeta", m), ("Spec", s)] =
      inc P "Spec" s (inc P "ObjectMeta" m (P.bytes (utf8 "NodeClaimTemplate"))) :=
  structHash_row P 0 (by decide) _

theorem structHash_meta (P : Prims U) (l a : Option U) :
    structHash P tMeta [("Labels", l), ("Annotations", a)] =
      inc P "Annotations" a (inc P "Labels" l (P.bytes (utf8 "ObjectMeta"))) :=
  structHash_row P 1 (by decide) _

/-- `Requirements` (tagged `hash:"ignore"`) does not occur on the right-hand side -/
theorem structHash_spec (P : Prims U) (a b c d e f : Option U) :
    structHash P tSpec [("Taints", a), ("StartupTaints", b), ("Requirements", c), ("NodeClassRef", d),
      ("TerminationGracePeriod", e), ("ExpireAfter", f)] =
    inc P "ExpireAfter" f (inc P "TerminationGracePeriod" e (inc P "NodeClassRef" d (inc P "StartupTaints" b
      (inc P "Taints" a (P.bytes (utf8 "NodeClaimTemplateSpec")))))) :=
  structHash_row P 2 (by decide) _

/-- `Raw` (tagged `hash:"ignore"`) does not occur on the right-hand side -/
theorem structHash_nillable (P : Prims U) (d r : Option U) :
    structHash P tNillable [("Duration", d), ("Raw", r)] = inc P "Duration" d (P.bytes (utf8 "NillableDuration")) :=
  structHash_row P 7 (by decide) _

theorem structHash_taint (P : Prims U) (k v e t : Option U) :
    structHash P tTaint [("Key", k), ("Value", v), ("Effect", e), ("TimeAdded", t)] =
      inc P "TimeAdded" t (inc P "Effect" e (inc P "Value" v (inc P "Key" k (P.bytes (utf8 "Taint"))))) :=
  structHash_row P 3 (by decide) _

theorem structHash_ref (P : Prims U) (k n g : Option U) :
    structHash P tRef [("Kind", k), ("Name", n), ("Group", g)] =
      inc P "Group" g (inc P "Name" n (inc P "Kind" k (P.bytes (utf8 "NodeClassReference")))) :=
  structHash_row P 5 (by decide) _

theorem structHash_duration (P : Prims U) (d : Option U) :
    structHash P tDuration [("Duration", d)] = inc P "Duration" d (P.bytes (utf8 "Duration")) :=
  structHash_row P 6 (by decide) _

theorem structHash_time (P : Prims U) (t : Option U) :
    structHash P tTime [("Time", t)] = inc P "Time" t (P.bytes (utf8 "Time")) :=
  structHash_row P 4 (by decide) _

/-- `utf8 s` is the byte sequence of `s`, read off the byte array. -/
theorem utf8_eq_bytes (s : String) : utf8 s = s.toByteArray.data.toList.map (·.toNat) := by
  rw [← String.utf8Encode_toList, List.utf8Encode, List.data_toByteArray, utf8, List.map_flatMap]

/-! ### Lawful primitives: what the theorems assume of `xor` -/

structure Lawful (P : Prims U) : Prop where
  xor_comm : ∀ a b, P.xor a b = P.xor b a
  xor_assoc : ∀ a b c, P.xor (P.xor a b) c = P.xor a (P.xor b c)

theorem fnvPrims_lawful : Lawful fnvPrims :=
  ⟨fun a b => Nat.xor_comm a b, fun a b c => Nat.xor_assoc a b c⟩

theorem Lawful.right_comm {P : Prims U} (h : Lawful P) (z x y : U) :
    P.xor (P.xor z x) y = P.xor (P.xor z y) x := by
  rw [h.xor_assoc, h.xor_comm x y, ← h.xor_assoc]

theorem hSet_perm {P : Prims U} (h : Lawful P) {l₁ l₂ : List U} (p : l₁.Perm l₂) : hSet P l₁ = hSet P l₂ := by
  unfold hSet
  exact List.Perm.foldl_eq' p (fun x _ y _ z => h.right_comm z x y) P.zero

/-! ### Equality of optional collections up to order -/

def OptPerm {α : Type} (a b : Option (List α)) : Prop :=
  match a, b with
  | none, none => True
  | some x, some y => x.Perm y
  | _, _ => False

theorem OptPerm.refl {α : Type} (a : Option (List α)) : OptPerm a a := by
  cases a <;> simp [OptPerm]

theorem OptPerm.isNone_eq {α : Type} {a b : Option (List α)} (h : OptPerm a b) : a.isNone = b.isNone := by
  cases a <;> cases b <;> simp_all [OptPerm]

theorem isPerm_optPerm {α : Type} [BEq α] [LawfulBEq α] (x y : Option (List α))
    (hp : (x.getD []).isPerm (y.getD []) = true) (hs : (x.isSome == y.isSome) = true) : OptPerm x y := by
  cases x <;> cases y <;> simp [OptPerm] at *
  exact List.isPerm_iff.mp hp

theorem hTaints_optPerm {P : Prims U} (h : Lawful P) {a b : Option (List Taint)} (p : OptPerm a b) :
    hTaints P a = hTaints P b := by
  cases a <;> cases b <;> simp only [OptPerm] at p
  · rfl
  · exact congrArg some (hSet_perm h (p.map (hTaint P)))

theorem hMap_optPerm {P : Prims U} (h : Lawful P) {a b : Option (List (String × String))} (p : OptPerm a b) :
    hMap P a = hMap P b := by
  cases a <;> cases b <;> simp only [OptPerm] at p
  · rfl
  · exact congrArg (fun x => some (P.fin x)) (hSet_perm h (p.map (hEntry P)))

/-! ### The template hash, unfolded -/

theorem hMeta_eq (P : Prims U) (t : Template) :
    hMeta P t = if t.metaIsZero then none
      else some (inc P "Annotations" (hMap P t.annotations) (inc P "Labels" (hMap P t.labels) (P.bytes (utf8 "ObjectMeta")))) := by
  unfold hMeta; rw [structHash_meta]

theorem hExpire_eq (P : Prims U) (d : Option Int) (raw : Option String) :
    hExpire P d raw = if d.isNone && raw.isNone then none
      else some (inc P "Duration" (d.map (fun v => P.bytes (i64bytes v))) (P.bytes (utf8 "NillableDuration"))) := by
  unfold hExpire; rw [structHash_nillable]

theorem hRef_eq (P : Prims U) (r : Option NodeClassRef) :
    hRef P r = r.map (fun r => inc P "Group" (hStr P r.group) (inc P "Name" (hStr P r.name)
      (inc P "Kind" (hStr P r.kind) (P.bytes (utf8 "NodeClassReference"))))) := by
  simp only [hRef, structHash_ref]

theorem hTGP_eq (P : Prims U) (d : Option Int) :
    hTGP P d = d.map (fun v => inc P "Duration" (if v = 0 then none else some (P.bytes (i64bytes v)))
      (P.bytes (utf8 "Duration"))) := by
  simp only [hTGP, structHash_duration]

theorem hTimeAdded_eq (P : Prims U) (ta : Option (Option Int)) :
    hTimeAdded P ta = ta.map (fun inner => inc P "Time" (inner.map (fun s => P.bytes (timeBytes s)))
      (P.bytes (utf8 "Time"))) := by
  simp only [hTimeAdded, structHash_time]

theorem hTaint_eq (P : Prims U) : hTaint P = fun t => inc P "TimeAdded" (hTimeAdded P t.timeAdded)
    (inc P "Effect" (hStr P t.effect) (inc P "Value" (hStr P t.value) (inc P "Key" (hStr P t.key)
      (P.bytes (utf8 "Taint"))))) :=
  funext fun _ => structHash_taint P _ _ _ _

theorem hSpec_eq (P : Prims U) (t : Template) :
    hSpec P t = if t.specIsZero then none
      else some (inc P "ExpireAfter" (hExpire P t.expireAfter t.expireAfterRaw) (inc P "TerminationGracePeriod" (hTGP P t.tgp)
        (inc P "NodeClassRef" (hRef P t.nodeClassRef) (inc P "StartupTaints" (hTaints P t.startupTaints)
          (inc P "Taints" (hTaints P t.taints) (P.bytes (utf8 "NodeClaimTemplateSpec"))))))) := by
  unfold hSpec; rw [structHash_spec]

theorem hashTemplate_eq (P : Prims U) (t : Template) :
    hashTemplate P t = inc P "Spec" (hSpec P t) (inc P "ObjectMeta" (hMeta P t) (P.bytes (utf8 "NodeClaimTemplate"))) := by
  unfold hashTemplate; rw [structHash_template]

theorem specIsZero_of_ref (t : Template) (h : t.nodeClassRef.isSome = true) : t.specIsZero = false := by
  obtain ⟨r, hr⟩ := Option.isSome_iff_exists.mp h
  simp [Template.specIsZero, hr]

theorem specIsZero_of_expireAfter (t : Template) (h : t.expireAfter.isSome = true) : t.specIsZero = false := by
  obtain ⟨d, hd⟩ := Option.isSome_iff_exists.mp h
  simp [Template.specIsZero, hd]

theorem hExpire_raw (P : Prims U) (d : Option Int) (r r' : Option String)
    (h : d.isSome = true ∨ r.isNone = r'.isNone) : hExpire P d r = hExpire P d r' := by
  rcases h with h | h
  · obtain ⟨v, rfl⟩ := Option.isSome_iff_exists.mp h
    simp [hExpire_eq]
  · simp [hExpire_eq, h]

/-! ### No masking: with collision-free primitives a changed field value changes the struct hash -/

/-- the named hypothesis of the sensitivity theorem: the primitive hash has no collision (false of any 64-bit hash in
    general; true of FNV on the handful of values of one comparison with overwhelming probability) -/
structure CollisionFree (P : Prims U) : Prop where
  fin_inj : ∀ a b, P.fin a = P.fin b → a = b
  ord_inj : ∀ a b c d, P.ord a b = P.ord c d → a = c ∧ b = d
  xor_cancel : ∀ a b c, P.xor a b = P.xor a c → b = c

theorem inc_acc_inj {P : Prims U} (hL : Lawful P) (hC : CollisionFree P) (n : String) (v : Option U) (h h' : U)
    (e : inc P n v h = inc P n v h') : h = h' := by
  cases v with
  | none => exact e
  | some vh =>
    simp only [inc] at e
    have := hC.fin_inj _ _ e
    rw [hL.xor_comm h, hL.xor_comm h'] at this
    exact hC.xor_cancel _ _ _ this

theorem inc_val_inj {P : Prims U} (hC : CollisionFree P) (n : String) (a b : U) (h : U)
    (e : inc P n (some a) h = inc P n (some b) h) : a = b := by
  simp only [inc] at e
  exact (hC.ord_inj _ _ _ _ (hC.xor_cancel _ _ _ (hC.fin_inj _ _ e))).2

theorem inc_opt_inj {P : Prims U} (hC : CollisionFree P) (n : String) (x y : Option U) (h : U)
    (hs : x.isSome = y.isSome) (e : inc P n x h = inc P n y h) : x = y := by
  cases x <;> cases y <;> simp at hs
  · rfl
  · rw [inc_val_inj hC n _ _ h e]

/-! ### Invariance of the template hash -/

/-- the drift-relevant content of two templates agrees up to the order of the maps and lists -/
structure SameUpToOrder (a b : Template) : Prop where
  labels : OptPerm a.labels b.labels
  annotations : OptPerm a.annotations b.annotations
  taints : OptPerm a.taints b.taints
  startupTaints : OptPerm a.startupTaints b.startupTaints
  nodeClassRef : a.nodeClassRef = b.nodeClassRef
  tgp : a.tgp = b.tgp
  expireAfter : a.expireAfter = b.expireAfter

theorem hashTemplate_congr (P : Prims U) (a b : Template)
    (hmz : a.metaIsZero = b.metaIsZero) (hsz : a.specIsZero = b.specIsZero)
    (hl : hMap P a.labels = hMap P b.labels) (han : hMap P a.annotations = hMap P b.annotations)
    (ht : hTaints P a.taints = hTaints P b.taints) (hst : hTaints P a.startupTaints = hTaints P b.startupTaints)
    (hr : hRef P a.nodeClassRef = hRef P b.nodeClassRef) (hg : hTGP P a.tgp = hTGP P b.tgp)
    (he : hExpire P a.expireAfter a.expireAfterRaw = hExpire P b.expireAfter b.expireAfterRaw) :
    hashTemplate P a = hashTemplate P b := by
  rw [hashTemplate_eq, hashTemplate_eq, hMeta_eq, hMeta_eq, hSpec_eq, hSpec_eq, hmz, hsz, hl, han, ht, hst, hr, hg, he]

/-- two templates that agree up to order hash alike whatever their `requirements` and the spelling of `expireAfter` —
    provided the `Spec` field is zero for both or for neither (`reflect.Value.IsZero` looks at ignored fields too), and
    `Raw` is nil for both or neither unless a duration is set -/
theorem hash_invariant (P : Prims U) (hL : Lawful P) (a b : Template) (h : SameUpToOrder a b)
    (hz : a.specIsZero = b.specIsZero)
    (hraw : a.expireAfter.isSome = true ∨ a.expireAfterRaw.isNone = b.expireAfterRaw.isNone) :
    hashTemplate P a = hashTemplate P b := by
  refine hashTemplate_congr P a b ?_ hz (hMap_optPerm hL h.labels) (hMap_optPerm hL h.annotations)
    (hTaints_optPerm hL h.taints) (hTaints_optPerm hL h.startupTaints) (congrArg _ h.nodeClassRef) (congrArg _ h.tgp) ?_
  · simp only [Template.metaIsZero, h.labels.isNone_eq, h.annotations.isNone_eq]
  · rw [← h.expireAfter]; exact hExpire_raw P _ _ _ hraw

/-! ### Duplicates in a set hash -/

theorem hSet_cons_cons_self (P : Prims U) (hx : ∀ z a, P.xor (P.xor z a) a = z) (a : U) (l : List U) :
    hSet P (a :: a :: l) = hSet P l := by
  unfold hSet; rw [List.foldl_cons, List.foldl_cons, hx]

theorem hTaints_cons_cons_self (P : Prims U) (hx : ∀ z a, P.xor (P.xor z a) a = z) (t : Taint) (l : List Taint) :
    hTaints P (some (t :: t :: l)) = hTaints P (some l) :=
  congrArg some (hSet_cons_cons_self P hx _ _)

theorem fnvPrims_xor_undo (z a : Nat) : fnvPrims.xor (fnvPrims.xor z a) a = z := by
  show (z ^^^ a) ^^^ a = z
  rw [Nat.xor_assoc, Nat.xor_self, Nat.xor_zero]

/-! ### The hypotheses are satisfiable: a collision-free, lawful primitive set (for non-vacuity) -/

def pair (a b : Nat) : Nat := (a + b) * (a + b) + a

theorem pair_sum_le (a b c d : Nat) (h : pair a b = pair c d) : a + b ≤ c + d := by
  unfold pair at h
  generalize hs : a + b = s at h ⊢
  generalize ht : c + d = t at h ⊢
  -- a smaller sum has a smaller square, by more than the summand `c ≤ t` can make up
  apply Nat.le_of_not_lt
  intro hlt
  have h1 : (t + 1) * (t + 1) ≤ s * s := Nat.mul_le_mul hlt hlt
  rw [Nat.add_mul, Nat.mul_add, Nat.one_mul, Nat.mul_one] at h1
  omega

theorem pair_sum (a b c d : Nat) (h : pair a b = pair c d) : a + b = c + d :=
  Nat.le_antisymm (pair_sum_le a b c d h) (pair_sum_le c d a b h.symm)

theorem pair_inj (a b c d : Nat) (h : pair a b = pair c d) : a = c ∧ b = d := by
  have hs := pair_sum a b c d h
  unfold pair at h
  rw [hs] at h
  omega

theorem nat_xor_cancel (a b c : Nat) (h : a ^^^ b = a ^^^ c) : b = c := by
  have : a ^^^ (a ^^^ b) = a ^^^ (a ^^^ c) := by rw [h]
  rw [← Nat.xor_assoc, ← Nat.xor_assoc, Nat.xor_self, Nat.zero_xor, Nat.zero_xor] at this
  exact this

def symPrims : Prims Nat where
  bytes l := l.foldl (fun h b => h * 257 + b + 1) 0
  ord := pair
  fin a := a
  xor := Nat.xor
  zero := 0

theorem symPrims_lawful : Lawful symPrims := ⟨fun a b => Nat.xor_comm a b, fun a b c => Nat.xor_assoc a b c⟩

theorem symPrims_collisionFree : CollisionFree symPrims :=
  ⟨fun _ _ h => h, fun a b c d h => pair_inj a b c d h, fun a b c h => nat_xor_cancel a b c h⟩

end Karp.Hash
