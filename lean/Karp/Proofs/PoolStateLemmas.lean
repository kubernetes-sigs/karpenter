/-
Helper lemmas for the static-pool part of C03: the `NodePoolState` model refines the ledger
specification (`Karp.Spec.PoolLedger`).
-/
import Karp.Model.PoolState
import Karp.Spec.PoolLedger

namespace Karp.PoolState
open Karp.Spec.PoolLedger
open scoped List

theorem mem_sInsert (l : List Name) (x y : Name) : y ∈ sInsert l x ↔ y ∈ l ∨ y = x := by
  unfold sInsert; split <;> simp <;> grind

theorem mem_sDelete (l : List Name) (x y : Name) : y ∈ sDelete l x ↔ y ∈ l ∧ y ≠ x := by
  unfold sDelete; simp

theorem nodup_sDelete (l : List Name) (x : Name) (h : l.Nodup) : (sDelete l x).Nodup := by
  unfold sDelete; exact h.filter _

theorem sDelete_append (l₁ l₂ : List Name) (x : Name) : sDelete (l₁ ++ l₂) x = sDelete l₁ x ++ sDelete l₂ x :=
  List.filter_append ..

theorem mem_all (e : Entry) (x : Name) : x ∈ e.all ↔ x ∈ e.active ∨ x ∈ e.deleting ∨ x ∈ e.pending := by
  simp [Entry.all]

theorem total_eq (e : Entry) : e.total = e.all.length := by
  simp [Entry.total, Entry.all, Nat.add_assoc]

inductive Phase | active | deleting | pending

def Entry.move (e : Entry) (nc : Name) : Phase → Entry
  | .active => { active := sInsert e.active nc, deleting := sDelete e.deleting nc, pending := sDelete e.pending nc }
  | .deleting => { active := sDelete e.active nc, deleting := sInsert e.deleting nc, pending := sDelete e.pending nc }
  | .pending => { active := sDelete e.active nc, deleting := sDelete e.deleting nc, pending := sInsert e.pending nc }

def Entry.remove (e : Entry) (nc : Name) : Entry :=
  { active := sDelete e.active nc, deleting := sDelete e.deleting nc, pending := sDelete e.pending nc }

theorem nodup_insert_delete (a r : List Name) (x : Name) (h : (a ++ r).Nodup) :
    (sInsert a x ++ sDelete r x).Nodup := by
  have hrest : (a ++ sDelete r x).Nodup := h.sublist (List.filter_sublist.append_left a)
  unfold sInsert
  split
  · exact hrest
  · rename_i hx
    have hperm : a ++ [x] ++ sDelete r x ~ x :: (a ++ sDelete r x) := by
      rw [List.append_assoc]; exact List.perm_middle
    rw [hperm.nodup_iff, List.nodup_cons, List.mem_append, mem_sDelete]
    exact ⟨fun h' => h'.elim hx (fun h'' => h''.2 rfl), hrest⟩

theorem mem_insert_delete (a r : List Name) (x y : Name) :
    y ∈ sInsert a x ++ sDelete r x ↔ y ∈ a ++ r ∨ y = x := by
  simp only [List.mem_append, mem_sInsert, mem_sDelete]
  by_cases hy : y = x
  · simp [hy]
  · simp [hy]

theorem move_perm (e : Entry) (nc : Name) (ph : Phase) :
    ∃ a r, e.all ~ a ++ r ∧ (e.move nc ph).all ~ sInsert a nc ++ sDelete r nc := by
  cases ph
  · exact ⟨e.active, e.deleting ++ e.pending, .of_eq (List.append_assoc ..),
      .of_eq (by simp only [Entry.move, Entry.all, sDelete_append, List.append_assoc])⟩
  · refine ⟨e.deleting, e.active ++ e.pending, ?_, ?_⟩
    · simp only [Entry.all, ← List.append_assoc]
      exact List.perm_append_comm.append_right _
    · simp only [Entry.move, Entry.all, sDelete_append, ← List.append_assoc]
      exact List.perm_append_comm.append_right _
  · refine ⟨e.pending, e.active ++ e.deleting, List.perm_append_comm, ?_⟩
    simp only [Entry.move, Entry.all, sDelete_append]
    exact List.perm_append_comm

theorem nodup_move (e : Entry) (nc : Name) (ph : Phase) (h : e.all.Nodup) : (e.move nc ph).all.Nodup := by
  obtain ⟨a, r, h1, h2⟩ := move_perm e nc ph
  exact h2.nodup_iff.mpr (nodup_insert_delete a r nc (h1.nodup_iff.mp h))

theorem mem_move (e : Entry) (nc x : Name) (ph : Phase) : x ∈ (e.move nc ph).all ↔ x ∈ e.all ∨ x = nc := by
  obtain ⟨a, r, h1, h2⟩ := move_perm e nc ph
  rw [h2.mem_iff, mem_insert_delete, h1.mem_iff]

theorem remove_all (e : Entry) (nc : Name) : (e.remove nc).all = sDelete e.all nc := by
  simp only [Entry.remove, Entry.all, sDelete_append]

theorem nodup_remove (e : Entry) (nc : Name) (h : e.all.Nodup) : (e.remove nc).all.Nodup := by
  rw [remove_all]; exact nodup_sDelete _ _ h

theorem mem_remove (e : Entry) (nc x : Name) : x ∈ (e.remove nc).all ↔ x ∈ e.all ∧ x ≠ nc := by
  rw [remove_all, mem_sDelete]

theorem remove_empty (nc : Name) : ({} : Entry).remove nc = {} := by
  simp [Entry.remove, sDelete]

@[simp] theorem entryOf_ensure (s : State) (np x : Name) : entryOf (ensure s np) x = entryOf s x := by
  unfold entryOf ensure
  cases h : s.pools np <;> simp [upd]
  split <;> simp_all

@[simp] theorem reservedOf_ensure (s : State) (np x : Name) : reservedOf (ensure s np) x = reservedOf s x := by
  unfold reservedOf ensure
  cases h : s.limits np <;> simp [upd]
  split <;> simp_all

@[simp] theorem mapping_ensure (s : State) (np : Name) : (ensure s np).mapping = s.mapping := rfl

theorem pools_ensure_other (s : State) (np x : Name) (h : x ≠ np) : (ensure s np).pools x = s.pools x := by
  unfold ensure
  cases h' : s.pools np <;> simp [upd, h]

theorem limits_ensure (s : State) (np : Name) : (ensure s np).limits np = some (reservedOf s np) := by
  unfold ensure reservedOf
  cases h : s.limits np <;> simp [h]

theorem upd_self {α : Type} (f : Name → α) (k : Name) : upd f k (f k) = f :=
  funext fun x => by unfold upd; split <;> simp [*]

def mark (s : State) (np nc : Name) : Phase → State
  | .active => markActive s np nc
  | .deleting => markDeleting s np nc
  | .pending => markPending s np nc

theorem entryOf_setPools (s : State) (np x : Name) (e : Entry) :
    entryOf { s with pools := upd s.pools np (some e) } x = if x = np then e else entryOf s x := by
  by_cases h : x = np <;> simp [entryOf, upd, h]

theorem reservedOf_setLimits (s : State) (np x : Name) (v : Int) :
    reservedOf { s with limits := upd s.limits np (some v) } x = if x = np then v else reservedOf s x := by
  by_cases h : x = np <;> simp [reservedOf, upd, h]

theorem mark_eq (s : State) (np nc : Name) (ph : Phase) :
    mark s np nc ph =
      { ensure s np with pools := upd (ensure s np).pools np (some ((entryOf s np).move nc ph)) } := by
  cases ph <;> simp only [mark, markActive, markDeleting, markPending, Entry.move, entryOf_ensure]

theorem entryOf_mark (s : State) (np nc x : Name) (ph : Phase) :
    entryOf (mark s np nc ph) x = if x = np then (entryOf s np).move nc ph else entryOf s x := by
  rw [mark_eq, entryOf_setPools, entryOf_ensure]

@[simp] theorem reservedOf_mark (s : State) (np nc x : Name) (ph : Phase) :
    reservedOf (mark s np nc ph) x = reservedOf s x := by
  rw [mark_eq]; exact reservedOf_ensure s np x

@[simp] theorem mapping_mark (s : State) (np nc : Name) (ph : Phase) : (mark s np nc ph).mapping = s.mapping := by
  rw [mark_eq]; rfl

theorem pools_mark_other (s : State) (np nc x : Name) (ph : Phase) (h : x ≠ np) :
    (mark s np nc ph).pools x = s.pools x := by
  rw [mark_eq]
  exact (upd_other _ _ _ _ h).trans (pools_ensure_other s np x h)

@[simp] theorem entryOf_setMapping (s : State) (np nc x : Name) : entryOf (setMapping s np nc) x = entryOf s x := by
  unfold setMapping
  split
  · rfl
  · exact entryOf_ensure s np x

@[simp] theorem reservedOf_setMapping (s : State) (np nc x : Name) :
    reservedOf (setMapping s np nc) x = reservedOf s x := by
  unfold setMapping
  split
  · rfl
  · exact reservedOf_ensure s np x

theorem mapping_setMapping (s : State) (np nc : Name) (h1 : np ≠ 0) (h2 : nc ≠ 0) :
    (setMapping s np nc).mapping = upd s.mapping nc np := by
  simp [setMapping, h1, h2]

theorem pools_setMapping_other (s : State) (np nc x : Name) (h : x ≠ np) :
    (setMapping s np nc).pools x = s.pools x := by
  unfold setMapping
  split
  · rfl
  · exact pools_ensure_other s np x h

theorem update_eq (s : State) (np nc : Name) (marked : Bool) (h : np ≠ 0) :
    update s np nc marked = mark (setMapping s np nc) np nc (if marked then .deleting else .active) := by
  unfold update
  rw [if_neg h]
  cases marked <;> rfl

theorem counts_eq (s : State) (np : Name) :
    counts s np = ((entryOf s np).active.length, (entryOf s np).deleting.length, (entryOf s np).pending.length) := by
  unfold counts entryOf
  cases s.pools np <;> simp

theorem counts_total (s : State) (np : Name) :
    (counts s np).1 + (counts s np).2.1 + (counts s np).2.2 = (entryOf s np).total := by
  rw [counts_eq]; rfl

/-- the grant of `ReserveNodeCount` -/
def clampGrant (room wanted : Int) : Int := if room < 0 then 0 else if wanted > room then room else wanted

theorem clampGrant_bounds (room wanted : Int) (hw : 0 ≤ wanted) :
    0 ≤ clampGrant room wanted ∧ clampGrant room wanted ≤ wanted ∧
    (0 < clampGrant room wanted → clampGrant room wanted ≤ room) ∧
    (wanted ≤ room → clampGrant room wanted = wanted) := by
  fun_cases clampGrant room wanted <;> omega

/-- `ReserveNodeCount` as one update of the counter: by the clamp, which is 0 when the pool is over its limit (the code
    then leaves the counter alone) -/
theorem reserve_eq (s : State) (np : Name) (limit wanted : Int) :
    reserve s np limit wanted =
      let g := clampGrant (limit - ((entryOf s np).total : Int) - reservedOf s np) wanted
      ({ ensure s np with limits := upd (ensure s np).limits np (some (reservedOf s np + g)) }, g) := by
  unfold reserve clampGrant
  simp only [counts_total, entryOf_ensure, reservedOf_ensure]
  split
  · refine Prod.ext ?_ rfl
    simp only [Int.add_zero, ← limits_ensure]
    rw [upd_self]
  · rfl

theorem reserve_grant (s : State) (np : Name) (limit wanted : Int) :
    (reserve s np limit wanted).2 = clampGrant (limit - ((entryOf s np).total : Int) - reservedOf s np) wanted := by
  rw [reserve_eq]

theorem expectedGrant_eq (L : Ledger) (np : Name) (limit wanted : Int) :
    expectedGrant L np limit wanted = clampGrant (limit - (L.count np : Int) - L.outstanding np) wanted := rfl

theorem gcCond_repaired_iff (e : Entry) (r : Option Int) :
    gcCond .repaired e r = true ↔ e.active = [] ∧ e.deleting = [] ∧ e.pending = [] ∧ r.getD 0 = 0 := by
  simp [gcCond, gcCondOf, and_assoc]

theorem gcCondOf_mono (sets : List Nat) (b : Bool) (e : Entry) (r : Option Int)
    (h : gcCond .repaired e r = true) : gcCondOf sets b e r = true := by
  rw [gcCond_repaired_iff] at h
  obtain ⟨h1, h2, h3, h4⟩ := h
  simp [gcCondOf, h1, h2, h3, h4]

/-- an entry is dropped only when it is left empty with nothing reserved, which the projections cannot tell from
    keeping it -/
theorem cleanup_repaired (s : State) (nc x : Name) :
    entryOf (cleanup .repaired s nc) x =
      (if x = s.mapping nc then (entryOf s (s.mapping nc)).remove nc else entryOf s x) ∧
    reservedOf (cleanup .repaired s nc) x = reservedOf s x := by
  unfold cleanup
  simp only
  cases hp : s.pools (s.mapping nc) with
  | none =>
    refine ⟨?_, rfl⟩
    by_cases hx : x = s.mapping nc
    · simp [entryOf, hx, hp, remove_empty]
    · simp [entryOf, hx]
  | some e =>
    have he : entryOf s (s.mapping nc) = e := by simp [entryOf, hp]
    simp only
    split
    · rename_i hg
      obtain ⟨h1, h2, h3, h4⟩ := (gcCond_repaired_iff _ _).mp hg
      simp only at h1 h2 h3
      by_cases hx : x = s.mapping nc
      · subst hx; simp [entryOf, reservedOf, upd, hp, Entry.remove, h1, h2, h3, h4]
      · simp [entryOf, reservedOf, upd, hx]
    · exact ⟨by rw [← he]; exact entryOf_setPools s _ x _, rfl⟩

theorem mapping_cleanup (v : Variant) (s : State) (nc : Name) :
    (cleanup v s nc).mapping = upd s.mapping nc 0 := by
  unfold cleanup
  simp only
  cases s.pools (s.mapping nc) with
  | none => rfl
  | some e => simp only; split <;> rfl

theorem pools_cleanup_zero (v : Variant) (s : State) (nc : Name) (h : s.pools 0 = none) :
    (cleanup v s nc).pools 0 = none := by
  unfold cleanup
  simp only
  cases hp : s.pools (s.mapping nc) with
  | none => simpa using h
  | some e =>
    have hne : s.mapping nc ≠ 0 := by intro h0; rw [h0, h] at hp; cases hp
    have : (0 : Name) ≠ s.mapping nc := fun h' => hne h'.symm
    simp only
    split <;> simp [upd, this, h]

/-- the state stands for the ledger; pool name `0`, which `State.init` maps every NodeClaim to, is no pool -/
structure Refines (s : State) (L : Ledger) : Prop where
  pool0 : s.pools 0 = none
  mapping : ∀ nc, s.mapping nc = (L.owner nc).getD 0
  ownerNZ : ∀ nc np, L.owner nc = some np → np ≠ 0
  nodup : ∀ np, (entryOf s np).all.Nodup
  mem : ∀ np nc, nc ∈ (entryOf s np).all ↔ L.owner nc = some np
  reserved : ∀ np, reservedOf s np = L.outstanding np
  knownNodup : L.known.Nodup
  knownMem : ∀ nc, nc ∈ L.known ↔ (L.owner nc).isSome = true

theorem refines_init : Refines State.init Ledger.init := by
  refine ⟨rfl, ?_, ?_, ?_, ?_, ?_, ?_, ?_⟩ <;> simp [State.init, Ledger.init, entryOf, reservedOf, Entry.all]

theorem count_eq {s : State} {L : Ledger} (h : Refines s L) (np : Name) : (entryOf s np).total = L.count np := by
  rw [total_eq]
  unfold Ledger.count Ledger.claimsOf
  apply List.Perm.length_eq
  rw [List.perm_ext_iff_of_nodup (h.nodup np) (h.knownNodup.filter _)]
  intro nc
  rw [h.mem np nc]
  simp only [List.mem_filter, beq_iff_eq, h.knownMem]
  constructor
  · intro ho; simp [ho]
  · intro ⟨_, ho⟩; exact ho

theorem Refines.frame {s s' : State} {L : Ledger} {out : Name → Int} (h : Refines s L)
    (hp : s'.pools 0 = none) (hm : ∀ c, s'.mapping c = s.mapping c) (he : ∀ x, entryOf s' x = entryOf s x)
    (hr : ∀ x, reservedOf s' x = out x) : Refines s' { L with outstanding := out } :=
  ⟨hp, fun c => (hm c).trans (h.mapping c), h.ownerNZ, fun x => (he x).symm ▸ h.nodup x,
    fun x => (he x).symm ▸ h.mem x, hr, h.knownNodup, h.knownMem⟩

theorem refines_mark {s : State} {L : Ledger} (h : Refines s L) (np nc : Name) (ph : Phase)
    (hnp : np ≠ 0) (ho : L.owner nc = some np) : Refines (mark s np nc ph) L := by
  refine ⟨?_, ?_, h.ownerNZ, ?_, ?_, ?_, h.knownNodup, h.knownMem⟩
  · rw [pools_mark_other _ _ _ _ _ (fun h' => hnp h'.symm)]; exact h.pool0
  · simpa using h.mapping
  · intro x; rw [entryOf_mark]; split
    · exact nodup_move _ _ _ (h.nodup np)
    · exact h.nodup x
  · intro x c; rw [entryOf_mark]; split
    · rename_i hx; subst hx
      rw [mem_move, h.mem, or_iff_left_iff_imp]
      rintro rfl
      exact ho
    · exact h.mem x c
  · intro x; simpa using h.reserved x

theorem refines_create {s : State} {L : Ledger} (h : Refines s L) (np nc : Name)
    (hnp : np ≠ 0) (hnc : nc ≠ 0) (ho : L.owner nc = none ∨ L.owner nc = some np) (ph : Phase) :
    Refines (mark (setMapping s np nc) np nc ph) (L.create np nc) := by
  have hz : (0 : Name) ≠ np := fun h' => hnp h'.symm
  cases hown : L.owner nc with
  | some p =>
    -- the claim is known and belongs to `np`: the ledger stays, the mapping already says so
    obtain rfl : p = np := by
      rw [hown] at ho
      exact ho.elim nofun Option.some.inj
    rw [show L.create p nc = L by simp [Ledger.create, hown]]
    refine refines_mark (h.frame ?_ (fun c => ?_) (entryOf_setMapping s p nc)
      (fun x => (reservedOf_setMapping s p nc x).trans (h.reserved x))) p nc ph hnp hown
    · rw [pools_setMapping_other _ _ _ _ hz]; exact h.pool0
    · simp only [mapping_setMapping _ _ _ hnp hnc, upd]
      split
      · rename_i hc; rw [hc, h.mapping, hown]; rfl
      · rfl
  | none =>
    -- a new claim: it enters the ledger and the entry of `np`
    have hnk : nc ∉ L.known := by rw [h.knownMem]; simp [hown]
    rw [show L.create np nc = { L with owner := upd L.owner nc (some np), known := nc :: L.known } by
      simp [Ledger.create, hown]]
    refine ⟨?_, fun c => ?_, fun c p hcp => ?_, fun x => ?_, fun x c => ?_, fun x => ?_,
      List.nodup_cons.mpr ⟨hnk, h.knownNodup⟩, fun c => ?_⟩
    · rw [pools_mark_other _ _ _ _ _ hz, pools_setMapping_other _ _ _ _ hz]; exact h.pool0
    · simp only [mapping_mark, mapping_setMapping _ _ _ hnp hnc, upd]
      split
      · rfl
      · exact h.mapping c
    · simp only [upd] at hcp
      split at hcp
      · exact Option.some.inj hcp ▸ hnp
      · exact h.ownerNZ c p hcp
    · rw [entryOf_mark]; split
      · rw [entryOf_setMapping]; exact nodup_move _ _ _ (h.nodup np)
      · rw [entryOf_setMapping]; exact h.nodup x
    · rw [entryOf_mark]
      simp only [entryOf_setMapping, upd]
      split <;> split
      · rename_i hx hc; subst hx hc; simp [mem_move]
      · rename_i hx hc; subst hx; rw [mem_move, h.mem]; simp [hc]
      · rename_i hx hc; subst hc; rw [h.mem, hown]; simp; exact fun h' => hx h'.symm
      · exact h.mem x c
    · simpa using h.reserved x
    · simp only [List.mem_cons, upd]
      split
      · rename_i hc; simp [hc]
      · rename_i hc; simp [h.knownMem, hc]

theorem refines_cleanup {s : State} {L : Ledger} (h : Refines s L) (nc : Name) :
    Refines (cleanup .repaired s nc) (L.delete nc) := by
  refine ⟨pools_cleanup_zero _ _ _ h.pool0, fun c => ?_, fun c p hcp => ?_, fun x => ?_, fun x c => ?_,
    fun x => ?_, h.knownNodup.filter _, fun c => ?_⟩
  · simp only [mapping_cleanup, Ledger.delete, upd]
    split
    · rfl
    · exact h.mapping c
  · simp only [Ledger.delete, upd] at hcp
    split at hcp
    · cases hcp
    · exact h.ownerNZ c p hcp
  · rw [(cleanup_repaired s nc x).1]; split
    · exact nodup_remove _ _ (h.nodup _)
    · exact h.nodup x
  · -- the claim leaves the entry of its pool `s.mapping nc`; it was in no other entry
    have hown : L.owner nc = some x → x = s.mapping nc := fun ho => by rw [h.mapping nc, ho]; rfl
    rw [(cleanup_repaired s nc x).1]
    simp only [Ledger.delete, upd]
    split <;> split
    · rename_i hx hc; subst hc; simp [mem_remove]
    · rename_i hx hc; rw [mem_remove, h.mem, ← hx]; simp [hc]
    · rename_i hx hc; subst hc; rw [h.mem]; exact ⟨fun ho => absurd (hown ho) hx, nofun⟩
    · exact h.mem x c
  · rw [(cleanup_repaired s nc x).2]; exact h.reserved x
  · simp only [Ledger.delete, List.mem_filter, bne_iff_ne, ne_eq, upd]
    split
    · rename_i hc; simp [hc]
    · rename_i hc; simp [h.knownMem, hc]

theorem reserve_spec {s : State} {L : Ledger} (h : Refines s L) (np : Name) (limit wanted : Int) :
    (reserve s np limit wanted).2 = expectedGrant L np limit wanted := by
  rw [reserve_grant, expectedGrant_eq, count_eq h, h.reserved]

theorem entryOf_reserve (s : State) (np x : Name) (limit wanted : Int) :
    entryOf (reserve s np limit wanted).1 x = entryOf s x := by
  rw [reserve_eq]; exact entryOf_ensure s np x

theorem mapping_reserve (s : State) (np : Name) (limit wanted : Int) :
    (reserve s np limit wanted).1.mapping = s.mapping := by
  rw [reserve_eq]; rfl

theorem pools_reserve_other (s : State) (np x : Name) (limit wanted : Int) (hx : x ≠ np) :
    (reserve s np limit wanted).1.pools x = s.pools x := by
  rw [reserve_eq]; exact pools_ensure_other s np x hx

theorem reservedOf_reserve (s : State) (np x : Name) (limit wanted : Int) :
    reservedOf (reserve s np limit wanted).1 x =
      if x = np then reservedOf s np + (reserve s np limit wanted).2 else reservedOf s x := by
  rw [reserve_eq]
  simp only [reservedOf_setLimits, reservedOf_ensure]

theorem refines_reserve {s : State} {L : Ledger} (h : Refines s L) (np : Name) (limit wanted : Int) (hnp : np ≠ 0) :
    Refines (reserve s np limit wanted).1
      { L with outstanding := upd L.outstanding np (L.outstanding np + (reserve s np limit wanted).2) } := by
  refine h.frame ?_ (fun c => by rw [mapping_reserve]) (fun x => entryOf_reserve s np x limit wanted) (fun x => ?_)
  · rw [pools_reserve_other _ _ _ _ _ (fun h' => hnp h'.symm)]; exact h.pool0
  · simp only [reservedOf_reserve, h.reserved]; rfl

/-- a missing counter reads 0 and stays missing -/
theorem release_repaired (s : State) (np : Name) (k : Int) (hk0 : 0 ≤ k) :
    ∃ s', release .repaired s np k = some s' ∧ s'.pools = s.pools ∧ s'.mapping = s.mapping ∧
      ∀ x, reservedOf s' x =
        if x = np then (if reservedOf s np - k < 0 then 0 else reservedOf s np - k) else reservedOf s x := by
  unfold release
  cases hl : s.limits np with
  | none =>
    refine ⟨s, rfl, rfl, rfl, fun x => ?_⟩
    split
    · rename_i hx; subst hx; simp only [reservedOf, hl, Option.getD_none]; split <;> omega
    · rfl
  | some cur =>
    refine ⟨_, rfl, rfl, rfl, fun x => ?_⟩
    rw [reservedOf_setLimits]
    simp only [reservedOf, hl, Option.getD_some]

theorem refines_release {s : State} {L : Ledger} (h : Refines s L) (np : Name) (k : Int)
    (hk0 : 0 ≤ k) (hk : k ≤ L.outstanding np) :
    ∃ s', release .repaired s np k = some s' ∧
      Refines s' { L with outstanding := upd L.outstanding np (L.outstanding np - k) } := by
  obtain ⟨s', hs', hpools, hmapping, hres⟩ := release_repaired s np k hk0
  refine ⟨s', hs', h.frame (hpools ▸ h.pool0) (fun c => by rw [hmapping]) (fun x => by unfold entryOf; rw [hpools]) (fun x => ?_)⟩
  rw [hres, h.reserved, h.reserved]
  simp only [upd]
  split
  · exact if_neg (by omega)
  · rfl

theorem expectedGrant_bounds (L : Ledger) (np : Name) (limit wanted : Int) (hw : 0 ≤ wanted) :
    0 ≤ expectedGrant L np limit wanted ∧ expectedGrant L np limit wanted ≤ wanted ∧
    (0 < expectedGrant L np limit wanted →
      (L.count np : Int) + L.outstanding np + expectedGrant L np limit wanted ≤ limit) := by
  obtain ⟨h0, hle, hroom, _⟩ := clampGrant_bounds (limit - (L.count np : Int) - L.outstanding np) wanted hw
  rw [expectedGrant_eq]
  exact ⟨h0, hle, fun hpos => by have := hroom hpos; omega⟩

theorem grantSafe_expected (L : Ledger) (np : Name) (limit wanted : Int) (hw : 1 ≤ wanted) :
    grantSafe L np limit (expectedGrant L np limit wanted) = true := by
  obtain ⟨h0, _, hroom⟩ := expectedGrant_bounds L np limit wanted (by omega)
  simp only [grantSafe, Bool.and_eq_true, Bool.or_eq_true, beq_iff_eq, decide_eq_true_eq]
  exact ⟨h0, (Int.lt_or_eq_of_le h0).symm.imp Eq.symm hroom⟩

theorem wf_owned {L : Ledger} {np nc : Name} (h : (np != 0 && nc != 0 && L.owner nc == some np) = true) :
    np ≠ 0 ∧ L.owner nc = some np := by
  simp only [Bool.and_eq_true, bne_iff_ne, ne_eq, beq_iff_eq] at h
  exact ⟨h.1.1, h.2⟩

theorem step_repaired {s : State} {L : Ledger} (h : Refines s L) (op : Op) (hwf : wf L op = true) :
    okStep L op (step .repaired s op).2 = true ∧
    Refines (step .repaired s op).1 (advance L op (step .repaired s op).2) := by
  cases op with
  | setMapping np nc => cases hwf
  | reset => cases hwf
  | markActive np nc => exact ⟨rfl, refines_mark h np nc .active (wf_owned hwf).1 (wf_owned hwf).2⟩
  | markDeleting np nc => exact ⟨rfl, refines_mark h np nc .deleting (wf_owned hwf).1 (wf_owned hwf).2⟩
  | markPending np nc => exact ⟨rfl, refines_mark h np nc .pending (wf_owned hwf).1 (wf_owned hwf).2⟩
  | cleanup nc => exact ⟨rfl, refines_cleanup h nc⟩
  | count np =>
    refine ⟨?_, h⟩
    simp only [okStep, judge, step, counts_total, count_eq h]
    simp
  | reserve np limit wanted =>
    simp only [wf, Bool.and_eq_true, bne_iff_ne, ne_eq, decide_eq_true_eq] at hwf
    refine ⟨?_, refines_reserve h np limit wanted hwf.1⟩
    simp [okStep, judge, step, reserve_spec h, grantSafe_expected L np limit wanted hwf.2]
  | release np k =>
    simp only [wf, Bool.and_eq_true, bne_iff_ne, ne_eq, decide_eq_true_eq] at hwf
    obtain ⟨s', hs', href⟩ := refines_release h np k hwf.1.2 hwf.2
    simp only [step, hs']
    exact ⟨rfl, href⟩
  | update np nc marked =>
    simp only [wf, Bool.and_eq_true, bne_iff_ne, ne_eq, Bool.or_eq_true, beq_iff_eq] at hwf
    refine ⟨rfl, ?_⟩
    simp only [step, update_eq s np nc marked hwf.1.1]
    exact refines_create h np nc hwf.1.1 hwf.1.2 hwf.2 _

theorem gcCond_agree {e : Entry} {r : Option Int} (h : (gcCond .asIs e r && !gcCond .repaired e r) = false) :
    gcCond .asIs e r = gcCond .repaired e r := by
  cases hR : gcCond .repaired e r with
  | true => exact gcCondOf_mono _ _ e r hR
  | false => simpa [hR] using h

theorem step_agree (s : State) (op : Op) (h : lossy s op = false) : step .asIs s op = step .repaired s op := by
  cases op with
  | cleanup nc =>
    simp only [step, cleanup]
    simp only [lossy] at h
    cases hp : s.pools (s.mapping nc) with
    | none => rfl
    | some e =>
      simp only [hp] at h
      simp only [gcCond_agree h]
  | release np k =>
    simp only [lossy] at h
    simp only [step, release]
    cases hl : s.limits np with
    | none =>
      simp only [hl, Option.isNone_none, Bool.true_and, Bool.not_eq_false'] at h
      simp [h]
    | some c => rfl
  | _ => rfl

theorem observations_agree (ops : List Op) : ∀ s, safeTrace s ops = true →
    observations .asIs s ops = observations .repaired s ops := by
  induction ops with
  | nil => intro _ _; rfl
  | cons op ops ih =>
    intro s h
    simp only [safeTrace, Bool.and_eq_true, Bool.not_eq_true'] at h
    have ha := step_agree s op h.1
    simp only [observations]
    rw [← ha, ih _ h.2]

end Karp.PoolState
