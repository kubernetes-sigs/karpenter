/-
C11 helper lemmas: the decidable checks on a history (`wStatic`, evaluated by the driver) provide the owners the theorems
quantify over.
-/
import Karp.Proofs.ClusterStatePodRun

namespace Karp.ClusterState
open Karp.Spec.ClusterAbs

def ownersOf (h : List Event) : Owners :=
  { nodeOf := fun pid => (((nodeSets h).find? (fun n => epid n = pid)).map (·.name)).getD ""
    claimOf := fun pid => (((claimSets h).find? (fun c => c.pid = pid)).map (·.name)).getD ""
    managed := fun name => (((claimSets h).find? (fun c => c.name = name)).map (·.managed)).getD false }

def dsOfHist (h : List Event) : String → Bool :=
  fun name => (((podSets h).find? (fun p => p.name = name)).map (·.ds)).getD false

theorem find_getD {α β : Type} (l : List α) (p : α → Bool) (f : α → β) (d : β) (a : α) (ha : a ∈ l) (hp : p a = true)
    (hall : ∀ b ∈ l, p b = true → f b = f a) : ((l.find? p).map f).getD d = f a := by
  cases hf : l.find? p with
  | none => rw [List.find?_eq_none] at hf; exact absurd hp (hf a ha)
  | some b => exact hall b (List.mem_of_find?_eq_some hf) (List.find?_some hf)

theorem owners_of_wStatic (h : List Event) (hs : wStatic h = true) :
    (∀ e ∈ h, (ownersOf h).okEvent e) ∧ (∀ e ∈ h, podEventOK (dsOfHist h) e) := by
  simp only [wStatic, wPids, wClaims, wPods, wNames, Bool.and_eq_true, List.all_eq_true, Bool.or_eq_true, decide_eq_true_eq, ne_eq,
    decide_not, Bool.not_eq_eq_eq_not, Bool.not_true, decide_eq_false_iff_not] at hs
  obtain ⟨⟨⟨hpids, hclaims⟩, hpods⟩, hnames⟩ := hs
  constructor
  · intro e he
    cases e with
    | setNode n =>
      have hm : n ∈ nodeSets h := List.mem_filterMap.mpr ⟨_, he, rfl⟩
      refine ⟨find_getD (nodeSets h) (fun x => epid x = epid n) (·.name) "" n hm (by simp) (fun n' hm' hp' => ?_), hnames n hm⟩
      exact (hpids.1 n' hm' n hm).resolve_left (fun hne => hne (by simpa using hp'))
    | setClaim c =>
      have hm : c ∈ claimSets h := List.mem_filterMap.mpr ⟨_, he, rfl⟩
      refine ⟨fun hp => find_getD (claimSets h) (fun x => x.pid = c.pid) (·.name) "" c hm (by simp) (fun c' hm' hp' => ?_),
        find_getD (claimSets h) (fun x => x.name = c.name) (·.managed) false c hm (by simp) (fun c' hm' hp' => ?_)⟩
      · have hpe : c'.pid = c.pid := by simpa using hp'
        rcases hpids.2 c' hm' c hm with (h1 | h1) | h1
        · rw [hpe] at h1; exact absurd h1 hp
        · exact absurd hpe h1
        · exact h1
      · exact (((hclaims c' hm').2 c hm).resolve_left (fun hne => hne (by simpa using hp'))).2
    | delNode _ | delClaim _ | setPod _ | delPod _ | recNode _ | recClaim _ | recPod _ | mark _ | unmark _ | nominate _ => trivial
  · intro e he
    cases e with
    | setPod p =>
      have hm : p ∈ podSets h := List.mem_filterMap.mpr ⟨_, he, rfl⟩
      refine find_getD (podSets h) (fun x => x.name = p.name) (·.ds) false p hm (by simp) (fun p' hm' hp' => ?_)
      exact (hpods p' hm' p hm).resolve_left (fun hne => hne (by simpa using hp'))
    | setNode _ | delNode _ | setClaim _ | delClaim _ | delPod _ | recNode _ | recClaim _ | recPod _ | mark _ | unmark _ | nominate _ => trivial

end Karp.ClusterState
