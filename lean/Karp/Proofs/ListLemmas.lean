/-
Association lists read with `List.lookup` (among them the finite map whose `put` is a cons over a filter that erases the key),
lists of elements with distinct keys, `contains` / `any` / `countP`: the facts about core `List` functions that the lemma files
of several models share.  Core Lean only, no model.
-/
namespace Karp
variable {α β γ : Type} [DecidableEq α]

theorem lookup_cons_ite (a : α) (b : β) (l : List (α × β)) (k : α) :
    List.lookup k ((a, b) :: l) = if k = a then some b else l.lookup k := by
  rw [List.lookup_cons]
  by_cases h : k = a
  · rw [if_pos h, beq_iff_eq.mpr h]
  · rw [if_neg h, beq_false_of_ne h]

theorem lookup_map_val (m : List (α × β)) (f : α → β → γ) (k : α) :
    (m.map (fun p => (p.1, f p.1 p.2))).lookup k = (m.lookup k).map (f k) := by
  induction m with
  | nil => rfl
  | cons p m ih =>
    obtain ⟨a, b⟩ := p
    rw [List.map_cons, lookup_cons_ite, lookup_cons_ite]
    by_cases h : k = a
    · rw [if_pos h, if_pos h, h]; rfl
    · rw [if_neg h, if_neg h]; exact ih

theorem lookup_filter_key (m : List (α × β)) (q : α → Bool) (k : α) :
    (m.filter (fun p => q p.1)).lookup k = if q k then m.lookup k else none := by
  induction m with
  | nil => simp
  | cons p ps ih =>
    obtain ⟨k', v'⟩ := p
    rw [List.filter_cons]
    by_cases h : k = k'
    · subst h; by_cases hq : q k = true <;> simp [hq, ih]
    · by_cases hq : q k' = true <;> simp [hq, h, ih, lookup_cons_ite]

theorem lookup_mem (m : List (α × β)) (k : α) (e : β) (h : m.lookup k = some e) : (k, e) ∈ m := by
  obtain ⟨l₁, l₂, rfl, _⟩ := List.lookup_eq_some_iff.mp h
  exact List.mem_append_right _ List.mem_cons_self

/-- Erasing the key `k` by a filter, however the model spells the test `· ≠ k` (`decide (· ≠ k)`, `· != k`). -/
theorem lookup_erase (m : List (α × β)) (k k' : α) (q : α → Bool) (hq : ∀ x, q x = true ↔ x ≠ k) :
    (m.filter (fun e => q e.1)).lookup k' = if k' = k then none else m.lookup k' := by
  rw [lookup_filter_key]
  by_cases h : k' = k
  · rw [if_pos h, if_neg (fun hh => (hq k').mp hh h)]
  · rw [if_neg h, if_pos ((hq k').mpr h)]

theorem lookup_put (m : List (α × β)) (k k' : α) (v : β) (q : α → Bool) (hq : ∀ x, q x = true ↔ x ≠ k) :
    ((k, v) :: m.filter (fun e => q e.1)).lookup k' = if k' = k then some v else m.lookup k' := by
  rw [lookup_cons_ite, lookup_erase m k k' q hq]
  by_cases h : k' = k
  · rw [if_pos h, if_pos h]
  · rw [if_neg h, if_neg h, if_neg h]

theorem mem_keys_iff_lookup (m : List (α × β)) (k : α) : k ∈ m.map (·.1) ↔ (m.lookup k).isSome = true := by
  rw [List.lookup_isSome_iff, List.mem_map]
  exact ⟨fun ⟨p, hp, e⟩ => ⟨p, hp, beq_iff_eq.mpr e.symm⟩, fun ⟨p, hp, e⟩ => ⟨p, hp, (beq_iff_eq.mp e).symm⟩⟩

theorem lookup_of_mem {m : List (α × β)} (hn : (m.map (·.1)).Nodup) {k : α} {v : β} (h : (k, v) ∈ m) :
    m.lookup k = some v := by
  induction m with
  | nil => cases h
  | cons e m ih =>
    obtain ⟨k0, v0⟩ := e
    rw [List.map_cons, List.nodup_cons] at hn
    rw [lookup_cons_ite]
    rcases List.mem_cons.mp h with h | h
    · cases h; rw [if_pos rfl]
    · rw [if_neg (fun e : k = k0 => hn.1 (e ▸ List.mem_map_of_mem (f := (·.1)) h)), ih hn.2 h]

/-- A table keyed by a function of its rows is read by finding the row. -/
theorem lookup_map_key {κ : Type} (l : List κ) (key : κ → α) (f : κ → β) (k : α) :
    (l.map (fun p => (key p, f p))).lookup k = (l.find? (fun p => key p == k)).map f := by
  induction l with
  | nil => rfl
  | cons a l ih =>
    rw [List.map_cons, lookup_cons_ite, List.find?_cons, ih]
    by_cases h : k = key a
    · rw [if_pos h, beq_iff_eq.mpr h.symm]; rfl
    · rw [if_neg h, beq_false_of_ne (Ne.symm h)]

omit [DecidableEq α] in
theorem nodup_keys_filter {m : List (α × β)} (hn : (m.map (·.1)).Nodup) (p : α × β → Bool) :
    ((m.filter p).map (·.1)).Nodup :=
  (List.filter_sublist.map _).nodup hn

omit [DecidableEq α] in
theorem nodup_keys_put {m : List (α × β)} (hn : (m.map (·.1)).Nodup) (k : α) (v : β) (q : α → Bool)
    (hq : ∀ x, q x = true ↔ x ≠ k) : (((k, v) :: m.filter (fun e => q e.1)).map (·.1)).Nodup := by
  rw [List.map_cons, List.nodup_cons]
  refine ⟨fun hm => ?_, nodup_keys_filter hn _⟩
  obtain ⟨x, hx, hx1⟩ := List.mem_map.mp hm
  exact (hq _).mp (List.mem_filter.mp hx).2 hx1

/-- Among elements with distinct keys, looking for an element's key finds that element. -/
theorem find?_key_of_nodup {α κ : Type} [BEq κ] [LawfulBEq κ] (key : α → κ) : ∀ (l : List α), (l.map key).Nodup →
    ∀ a ∈ l, l.find? (fun x => key x == key a) = some a
  | x :: l, hn, a, ha => by
    rw [List.map_cons, List.nodup_cons] at hn
    rcases List.mem_cons.mp ha with rfl | ha
    · exact List.find?_cons_of_pos (beq_self_eq_true _)
    · have hx : (key x == key a) = false :=
        Bool.eq_false_iff.mpr fun h => hn.1 (eq_of_beq h ▸ List.mem_map_of_mem ha)
      rw [List.find?_cons, hx]
      exact find?_key_of_nodup key l hn.2 a ha

theorem contains_filter {α : Type} [BEq α] [LawfulBEq α] (l : List α) (p : α → Bool) (v : α) :
    (l.filter p).contains v = (l.contains v && p v) := by
  simp only [List.contains_eq_mem, List.mem_filter, Bool.decide_and, Bool.decide_eq_true]

theorem any_iff {α : Type} [BEq α] [LawfulBEq α] (l : List α) (p : α → Bool) :
    l.any p = true ↔ ∃ v, (l.contains v && p v) = true := by
  simp only [List.any_eq_true, Bool.and_eq_true, List.contains_iff_mem]

/-- Core's `List.countP_set` without its truncated subtraction. -/
theorem countP_set_add {α : Type} (p : α → Bool) {l : List α} {w : Nat} {old : α} (h : l[w]? = some old) (v : α) :
    (l.set w v).countP p + (if p old then 1 else 0) = l.countP p + (if p v then 1 else 0) := by
  obtain ⟨hw, rfl⟩ := List.getElem?_eq_some_iff.mp h
  have := List.boole_getElem_le_countP (p := p) hw
  rw [List.countP_set hw]
  omega

end Karp
