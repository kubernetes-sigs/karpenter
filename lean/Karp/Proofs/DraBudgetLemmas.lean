/-
Helper lemmas for the shared-counter half of C17 (`Karp.DraBudget`): the budget the tracker keeps is exactly
`initial − Σ over NodeClaims of the max over instance types` along every sequence of commits and releases, and it never
goes negative when every commit passed the allocator's guard.
-/
import Karp.Model.DraBudget
import Karp.Proofs.DraTrackerLemmas

namespace Karp.DraBudget
open Karp.DraTracker (dedupe dedupe_spec)

theorem foldmax_le_iff (l : List (IT × Int)) :
    ∀ a b : Int, l.foldl (fun m x => max m x.2) a ≤ b ↔ a ≤ b ∧ ∀ x ∈ l, x.2 ≤ b := by
  induction l with
  | nil => intro a b; simp
  | cons y r ih => intro a b; rw [List.foldl_cons, ih, Int.max_le, List.forall_mem_cons, and_assoc]

theorem maxOf_le_iff (l : List (IT × Int)) (b : Int) : maxOf l ≤ b ↔ 0 ≤ b ∧ ∀ x ∈ l, x.2 ≤ b :=
  foldmax_le_iff l 0 b

theorem maxOf_nonneg (l : List (IT × Int)) : 0 ≤ maxOf l := ((maxOf_le_iff l _).mp (Int.le_refl _)).1

theorem le_maxOf (l : List (IT × Int)) (x : IT × Int) (h : x ∈ l) : x.2 ≤ maxOf l :=
  ((maxOf_le_iff l _).mp (Int.le_refl _)).2 x h

theorem maxOf_le (l : List (IT × Int)) (b : Int) (hb : 0 ≤ b) (h : ∀ x ∈ l, x.2 ≤ b) : maxOf l ≤ b :=
  (maxOf_le_iff l b).mpr ⟨hb, h⟩

theorem maxOf_nil : maxOf [] = 0 := rfl

theorem maxOf_filter_le (l : List (IT × Int)) (p : IT × Int → Bool) : maxOf (l.filter p) ≤ maxOf l :=
  maxOf_le _ _ (maxOf_nonneg l) (fun x hx => le_maxOf l x (List.mem_filter.mp hx).1)

theorem val_cases (l : List (IT × Int)) (j : IT) : val l j = 0 ∨ (j, val l j) ∈ l := by
  fun_induction val l j with
  | case1 => exact .inl rfl
  | case2 i v r j h =>
    rw [eq_of_beq h]
    exact .inr (List.mem_cons_self ..)
  | case3 i v r j h ih => exact ih.imp_right (List.mem_cons_of_mem _)

theorem val_ind (P : Int → Prop) (l : List (IT × Int)) (j : IT) (h0 : P 0) (h : ∀ x ∈ l, P x.2) : P (val l j) := by
  rcases val_cases l j with e | hm
  · rw [e]; exact h0
  · exact h _ hm

theorem val_le_maxOf (l : List (IT × Int)) (j : IT) : val l j ≤ maxOf l :=
  val_ind (· ≤ maxOf l) l j (maxOf_nonneg l) (le_maxOf l)

theorem val_of_mem (l : List (IT × Int)) (hn : (l.map (·.1)).Nodup) (j : IT) (v : Int) (h : (j, v) ∈ l) : val l j = v := by
  induction l with
  | nil => cases h
  | cons y r ih =>
    obtain ⟨i, w⟩ := y
    rw [List.map_cons, List.nodup_cons] at hn
    rw [val]
    rcases List.mem_cons.mp h with h | h
    · cases h
      rw [beq_self_eq_true]
      rfl
    · have hne : i ≠ j := fun e => hn.1 (e ▸ List.mem_map_of_mem (f := (·.1)) h)
      rw [beq_false_of_ne hne]
      exact ih hn.2 h

theorem merge_keys_nodup (old new : List (IT × Int)) : ((merge old new).map (·.1)).Nodup := by
  unfold merge
  rw [List.map_map]
  show (List.map id _).Nodup
  rw [List.map_id]
  exact (dedupe_spec _).1

theorem mem_merge (old new : List (IT × Int)) (x : IT × Int) (h : x ∈ merge old new) : x.2 = val old x.1 + val new x.1 := by
  unfold merge at h
  obtain ⟨j, _, rfl⟩ := List.mem_map.mp h
  rfl

theorem merge_nonneg (old new : List (IT × Int)) (ho : ∀ x ∈ old, 0 ≤ x.2) (hn : ∀ x ∈ new, 0 ≤ x.2) :
    ∀ x ∈ merge old new, 0 ≤ x.2 := by
  intro x hx
  rw [mem_merge old new x hx]
  exact Int.add_nonneg (val_ind (0 ≤ ·) old x.1 (Int.le_refl 0) ho) (val_ind (0 ≤ ·) new x.1 (Int.le_refl 0) hn)

/-- a guarded allocation raises the NodeClaim's maximum by at most the remaining budget -/
theorem maxOf_merge_le (old new : List (IT × Int)) (R : Int) (hR : 0 ≤ R) (hn : ∀ x ∈ new, x.2 ≤ R) :
    maxOf (merge old new) ≤ maxOf old + R := by
  refine maxOf_le _ _ (Int.add_nonneg (maxOf_nonneg old) hR) fun x hx => ?_
  rw [mem_merge old new x hx]
  exact Int.add_le_add (val_le_maxOf old x.1) (val_ind (· ≤ R) new x.1 hR hn)

/-- … and never lowers it -/
theorem maxOf_le_merge (old new : List (IT × Int)) (hk : (old.map (·.1)).Nodup) (hn : ∀ x ∈ new, 0 ≤ x.2) :
    maxOf old ≤ maxOf (merge old new) := by
  refine maxOf_le _ _ (maxOf_nonneg _) fun x hx => ?_
  obtain ⟨j, v⟩ := x
  have hj : j ∈ dedupe (old.map (·.1) ++ new.map (·.1)) :=
    ((dedupe_spec _).2 j).mpr (List.mem_append_left _ (List.mem_map_of_mem (f := (·.1)) hx))
  have h1 := le_maxOf (merge old new) (j, val old j + val new j) (List.mem_map.mpr ⟨j, hj, rfl⟩)
  have h2 := val_of_mem old hk j v hx
  have h3 := val_ind (0 ≤ ·) new j (Int.le_refl 0) hn
  show v ≤ _
  omega

theorem lookup_none_of_not_mem (s : List (NC × List (IT × Int))) (nc : NC) (h : nc ∉ s.map (·.1)) : s.lookup nc = none :=
  List.lookup_eq_none_iff.mpr fun _ hp => bne_iff_ne.mpr fun e => h (e ▸ List.mem_map_of_mem hp)

theorem storedOf_mem (s : List (NC × List (IT × Int))) (nc : NC) (l : List (IT × Int)) (h : s.lookup nc = some l) : (nc, l) ∈ s := by
  obtain ⟨l₁, l₂, e, _⟩ := List.lookup_eq_some_iff.mp h
  rw [e]
  exact List.mem_append_right _ (List.mem_cons_self ..)

theorem mem_setNC {s : List (NC × List (IT × Int))} {nc : NC} {l : List (IT × Int)} {e : NC × List (IT × Int)}
    (h : e ∈ setNC s nc l) : e = (nc, l) ∨ e ∈ s :=
  (List.mem_cons.mp h).imp_right fun h => (List.mem_filter.mp h).1

theorem storedOf_cons (n : NC) (l : List (IT × Int)) (r : List (NC × List (IT × Int))) (nc : NC) :
    storedOf ((n, l) :: r) nc = if nc == n then l else storedOf r nc := by
  unfold storedOf
  rw [List.lookup_cons]
  cases nc == n <;> rfl

theorem worst_filter (s : List (NC × List (IT × Int))) (nc : NC) (hk : (s.map (·.1)).Nodup) :
    worst (s.filter (fun e => e.1 != nc)) = worst s - maxOf (storedOf s nc) := by
  induction s with
  | nil => rfl
  | cons e r ih =>
    obtain ⟨n, l⟩ := e
    rw [List.map_cons, List.nodup_cons] at hk
    rw [List.filter_cons, storedOf_cons]
    by_cases h : n = nc
    · have hf : r.filter (fun e => e.1 != n) = r := List.filter_eq_self.mpr fun e he =>
        bne_iff_ne.mpr fun eq => hk.1 (List.mem_map.mpr ⟨e, he, eq⟩)
      cases h
      rw [bne_self_eq_false, beq_self_eq_true, if_neg Bool.false_ne_true, if_pos rfl, hf]
      show worst r = maxOf l + worst r - maxOf l
      omega
    · have := ih hk.2
      rw [if_pos (bne_iff_ne.mpr h), beq_false_of_ne (Ne.symm h), if_neg Bool.false_ne_true]
      show maxOf l + worst (r.filter (fun e => e.1 != nc)) = maxOf l + worst r - maxOf (storedOf r nc)
      omega

theorem worst_setNC (s : List (NC × List (IT × Int))) (nc : NC) (l : List (IT × Int)) (hk : (s.map (·.1)).Nodup) :
    worst (setNC s nc l) = worst s - maxOf (storedOf s nc) + maxOf l := by
  rw [setNC, worst, worst_filter s nc hk]
  show maxOf l + _ = _
  omega

theorem keys_filter_nodup (s : List (NC × List (IT × Int))) (nc : NC) (hk : (s.map (·.1)).Nodup) :
    ((s.filter (fun e => e.1 != nc)).map (·.1)).Nodup :=
  (List.filter_sublist.map _).nodup hk

theorem keys_setNC_nodup (s : List (NC × List (IT × Int))) (nc : NC) (l : List (IT × Int)) (hk : (s.map (·.1)).Nodup) :
    ((setNC s nc l).map (·.1)).Nodup := by
  rw [setNC, List.map_cons, List.nodup_cons]
  refine ⟨fun hm => ?_, keys_filter_nodup s nc hk⟩
  obtain ⟨x, hx, hx1⟩ := List.mem_map.mp hm
  exact bne_iff_ne.mp (List.mem_filter.mp hx).2 hx1

/-- `init` is the budget `InitRemainingCounters` computed -/
structure Inv (init : Int) (st : St) : Prop where
  sum : st.remaining + worst st.stored = init
  keys : (st.stored.map (·.1)).Nodup
  itKeys : ∀ e ∈ st.stored, (e.2.map (·.1)).Nodup
  nonneg : ∀ e ∈ st.stored, ∀ x ∈ e.2, 0 ≤ x.2
  rem : 0 ≤ st.remaining

theorem inv_init (init : Int) (h : 0 ≤ init) : Inv init (St.init init) :=
  ⟨Int.add_zero _, List.nodup_nil, fun _ h => (nomatch h), fun _ h => (nomatch h), h⟩

theorem storedOf_props {init : Int} {st : St} (I : Inv init st) (nc : NC) :
    ((storedOf st.stored nc).map (·.1)).Nodup ∧ ∀ x ∈ storedOf st.stored nc, 0 ≤ x.2 := by
  unfold storedOf
  cases h : st.stored.lookup nc with
  | none => exact ⟨List.nodup_nil, fun _ h => (nomatch h)⟩
  | some l => exact ⟨I.itKeys _ (storedOf_mem _ _ _ h), I.nonneg _ (storedOf_mem _ _ _ h)⟩

/-- the books stay balanced when the entry of `nc` becomes `l` and the budget pays the difference of the two maxima:
    what both `commitCounters` and `releaseCounters` do -/
theorem Inv.set {init : Int} {st : St} (I : Inv init st) (nc : NC) (l : List (IT × Int))
    (hk : (l.map (·.1)).Nodup) (hn : ∀ x ∈ l, 0 ≤ x.2) (r : Int)
    (hr : r = st.remaining + maxOf (storedOf st.stored nc) - maxOf l) (h0 : 0 ≤ r) :
    Inv init { remaining := r, stored := setNC st.stored nc l } := by
  have hw := worst_setNC st.stored nc l I.keys
  have hs := I.sum
  refine ⟨by show r + worst (setNC st.stored nc l) = init; omega, keys_setNC_nodup _ _ _ I.keys, fun e he => ?_, fun e he => ?_, h0⟩
  · rcases mem_setNC he with rfl | he
    · exact hk
    · exact I.itKeys e he
  · rcases mem_setNC he with rfl | he
    · exact hn
    · exact I.nonneg e he

theorem Inv.drop {init : Int} {st : St} (I : Inv init st) (nc : NC) (r : Int)
    (hr : r = st.remaining + maxOf (storedOf st.stored nc)) :
    Inv init { remaining := r, stored := st.stored.filter (fun e => e.1 != nc) } := by
  have hw := worst_filter st.stored nc I.keys
  have hs := I.sum
  have := I.rem
  have := maxOf_nonneg (storedOf st.stored nc)
  exact ⟨by show r + worst (st.stored.filter (fun e => e.1 != nc)) = init; omega, keys_filter_nodup _ _ I.keys, fun e he => I.itKeys e (List.mem_filter.mp he).1,
    fun e he => I.nonneg e (List.mem_filter.mp he).1, by show 0 ≤ r; omega⟩

theorem commit_inv (init : Int) (st : St) (I : Inv init st) (nc : NC) (new : List (IT × Int)) (hf : fits st new = true) :
    Inv init (st.commit nc new) := by
  unfold St.commit
  split
  · exact I
  · have hnew : ∀ x ∈ new, 0 ≤ x.2 ∧ x.2 ≤ st.remaining := fun x hx => by
      simpa using List.all_eq_true.mp hf x hx
    obtain ⟨hok, hon⟩ := storedOf_props I nc
    have hup := maxOf_merge_le (storedOf st.stored nc) new st.remaining I.rem (fun x hx => (hnew x hx).2)
    have hlo := maxOf_le_merge (storedOf st.stored nc) new hok (fun x hx => (hnew x hx).1)
    exact I.set nc _ (merge_keys_nodup _ _) (merge_nonneg _ _ hon (fun x hx => (hnew x hx).1)) _
      (by split <;> omega) (by split <;> omega)

theorem release_inv (init : Int) (st : St) (I : Inv init st) (nc : NC) (its : List IT) : Inv init (st.release nc its) := by
  unfold St.release
  cases h : st.stored.lookup nc with
  | none => exact I
  | some old =>
    have hm := storedOf_mem _ _ _ h
    have hso : storedOf st.stored nc = old := by rw [storedOf, h]; rfl
    have hle := maxOf_filter_le old (fun x => !its.contains x.1)
    have hnn := maxOf_nonneg (old.filter (fun x => !its.contains x.1))
    have hr := I.rem
    have := maxOf_nonneg old
    dsimp only
    by_cases hemp : (old.filter (fun x => !its.contains x.1)).isEmpty = true
    · -- nothing left for this NodeClaim: its entry is dropped
      rw [if_pos hemp, List.isEmpty_iff.mp hemp, maxOf_nil]
      exact I.drop nc _ (by rw [hso]; split <;> omega)
    · rw [if_neg hemp]
      exact I.set nc (old.filter (fun x => !its.contains x.1)) ((List.filter_sublist.map _).nodup (I.itKeys _ hm))
        (fun x hx => I.nonneg _ hm x (List.mem_filter.mp hx).1) _ (by rw [hso]; split <;> omega) (by split <;> omega)

theorem run_inv (init : Int) (ops : List Op) (st : St) (I : Inv init st) (hg : guarded st ops = true) :
    Inv init (run st ops) := by
  fun_induction guarded st ops with
  | case1 => exact I
  | case2 st nc new ops ih =>
    rw [Bool.and_eq_true] at hg
    exact ih (commit_inv init st I nc new hg.1) hg.2
  | case3 st nc its ops ih => exact ih (release_inv init st I nc its) hg

theorem deduct_eq (pre : List String) : ∀ (ds : List (String × Int)) (r : Int), deduct pre r ds = r - preConsumed pre ds := by
  intro ds
  induction ds with
  | nil => intro r; simp [deduct, preConsumed]
  | cons d rest ih =>
    intro r
    have := ih (if pre.contains d.1 then r - d.2 else r)
    simp only [deduct, List.foldl_cons, preConsumed] at this ⊢
    rw [this]
    split <;> omega

theorem preConsumed_append (pre : List String) (a b : List (String × Int)) :
    preConsumed pre (a ++ b) = preConsumed pre a + preConsumed pre b := by
  induction a with
  | nil => simp [preConsumed]
  | cons d r ih => simp only [List.cons_append, preConsumed, ih]; omega

end Karp.DraBudget
