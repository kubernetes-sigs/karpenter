/-
C11 helper lemmas: a Node or NodeClaim reconcile preserves the object-layer invariant, hence every event does; the invariant
along whole histories, for the model itself (via the simulation).
-/
import Karp.Proofs.ClusterStateOInv
import Karp.Proofs.ClusterStateSim

namespace Karp.ClusterState
open Karp.Spec.ClusterAbs

theorem nodeStored_pid (v : NodeObj) : (nodeStored v).pid = epid v := by unfold nodeStored epid; split <;> rfl

theorem nodeKey_some {v : NodeObj} {k : String} (h : nodeKey v = some k) : k = epid v := by
  revert h
  fun_cases nodeKey v
  · intro h; cases h
  · intro h; cases h
  · intro h; exact (Option.some.inj h).symm

theorem cleanupNode_spec {w : Owners} {o : OC} (h : Struct w o) (name : String) :
    ∃ o2, o.cleanupNode name = some o2 ∧ (Struct w o2 ∧ Step o o2 ("n", name) ∧ o2.cn = o.cn) ∧
      o2.nn = Map.erase o.nn name ∧ (∀ k, Map.get o.nn name ≠ some k → Map.get o2.nodes k = Map.get o.nodes k) := by
  unfold OC.cleanupNode
  cases hg : Map.get o.nn name with
  | none => exact ⟨o, rfl, ⟨h, Step.refl o _, rfl⟩, (Map.erase_of_get_none _ _ hg).symm, fun _ _ => rfl⟩
  | some id =>
    obtain ⟨s, _, hs, _, _⟩ := h.nf name id hg
    dsimp only
    rw [if_pos (h.nn_ne hg), hs]
    have hd := detachNode_step h hg hs
    exact ⟨_, rfl, ⟨hd.1, hd.2, rfl⟩, rfl, fun k hk => by rw [get_detachNode, if_neg (fun e => hk (by rw [e]))]⟩

theorem cleanupNodeClaim_spec {w : Owners} {o : OC} (h : Struct w o) (name : String) :
    ∃ o2, o.cleanupNodeClaim name = some o2 ∧ (Struct w o2 ∧ Step o o2 ("c", name) ∧ o2.nn = o.nn) ∧
      o2.cn = Map.erase o.cn name ∧ (∀ k, Map.get o.cn name ≠ some k → Map.get o2.nodes k = Map.get o.nodes k) := by
  unfold OC.cleanupNodeClaim
  cases hg : Map.get o.cn name with
  | none =>
    have f := forgetClaim_step h (Or.inl hg)
    exact ⟨_, rfl, ⟨f.1, f.2, rfl⟩, rfl, fun _ _ => rfl⟩
  | some id =>
    dsimp only
    by_cases hid : id ≠ ""
    · rw [if_pos hid]
      obtain ⟨s, _, hs, _, _⟩ := (h.cf name id hg).2 hid
      rw [hs]
      have hd := detachClaim_step h hg hid hs
      exact ⟨_, rfl, ⟨hd.1, hd.2, rfl⟩, rfl, fun k hk => by rw [get_detachClaim, if_neg (fun e => hk (by rw [e]))]⟩
    · rw [if_neg hid]
      have f := forgetClaim_step h (Or.inr (by rw [hg, Decidable.not_not.mp hid]))
      exact ⟨_, rfl, ⟨f.1, f.2, rfl⟩, rfl, fun _ _ => rfl⟩

/-- the cleanup that precedes an install under `pid` runs only if the name is known under another provider id, so the
    entry under `pid` is the one it was. `P` is whatever the cleanup is known to preserve. -/
theorem rekeyed_spec {P : OC → Prop} {o : OC} (names : OC → Map String) {cleanup : Option OC} {name pid : String} (h0 : P o)
    (hc : ∃ o2, cleanup = some o2 ∧ P o2 ∧ names o2 = Map.erase (names o) name ∧
      (∀ k, Map.get (names o) name ≠ some k → Map.get o2.nodes k = Map.get o.nodes k)) :
    ∃ o2, (if Cluster.rekeyed (names o) name pid = true then cleanup else some o) = some o2 ∧ P o2 ∧
      (Map.get (names o2) name = none ∨ Map.get (names o2) name = some pid) ∧
      Map.put (names o2) name pid = Map.put (names o) name pid ∧ (Map.NoDup (names o) → Map.NoDup (names o2)) ∧
      Map.get o2.nodes pid = Map.get o.nodes pid := by
  by_cases hrk : Cluster.rekeyed (names o) name pid = true
  · rw [if_pos hrk]
    obtain ⟨o2, ho2, hp, hn2, hget2⟩ := hc
    refine ⟨o2, ho2, hp, Or.inl (by rw [hn2, Map.get_erase_self]), by rw [hn2, Map.put_erase],
      fun hnd => by rw [hn2]; exact Map.noDup_erase hnd name, hget2 pid (rekeyed_true hrk)⟩
  · rw [if_neg hrk]
    refine ⟨o, rfl, h0, ?_, rfl, id, rfl⟩
    unfold Cluster.rekeyed at hrk
    cases hg : Map.get (names o) name with
    | none => exact Or.inl rfl
    | some id0 =>
      rw [hg] at hrk
      have : id0 = pid := by simpa using hrk
      rw [this]; exact Or.inr rfl

theorem oinv_recNode {w : Owners} {o : OC} {api : Api} {g : Ghost} (h : OInv w o api g) (hapi : ApiOK w api) (name : String)
    (hw : wFilterStep g api (.recNode name) = true) :
    ∃ o', o.step api (.recNode name) = some o' ∧ OInv w o' api (g.step api (.recNode name)) := by
  simp only [OC.step, Ghost.step]
  cases hv : Map.get api.nodes name with
  | none =>
    obtain ⟨o2, ho2, ⟨st2, step2, hcn2⟩, hnn2, _⟩ := cleanupNode_spec h.st name
    refine ⟨o2, ho2, ?_⟩
    refine oinv_of_step h hapi st2 step2 rfl rfl rfl (show o2.nn = Map.erase g.obsNodes name by rw [hnn2, h.m1])
      (by rw [hcn2]; exact h.m2) (by rw [hnn2]; exact Map.noDup_erase h.n1 name) (by rw [hcn2]; exact h.n2)
      ⟨fun _ => ?_, fun e => absurd e (by decide)⟩
    unfold NodeCons
    rw [hv]; dsimp only
    rw [hnn2, Map.get_erase_self]
  | some v =>
    dsimp only
    have hvname : v.name = name := (hapi.nodes name v hv).1
    have hvok : w.okNode v := (hapi.nodes name v hv).2
    rw [OC.updateNode_eq]
    cases hk : nodeKey v with
    | none =>
      -- the cache ignores this version; by the precondition no earlier version of this name is tracked
      have hnone : Map.get o.nn name = none := by
        rw [h.m1]; simpa [wFilterStep, hv, hk, Map.has_eq] using hw
      refine ⟨o, rfl, ?_⟩
      refine oinv_of_step h hapi h.st (Step.refl o _) rfl rfl rfl
        (show o.nn = Map.erase g.obsNodes name by rw [← h.m1, Map.erase_of_get_none _ _ hnone]) h.m2 h.n1 h.n2
        ⟨fun _ => ?_, fun e => absurd e (by decide)⟩
      unfold NodeCons
      rw [hv]; dsimp only
      rw [hk]; exact hnone
    | some k =>
      dsimp only
      rw [Option.isSome_some, if_pos rfl, OC.newStateFromNode_eq]
      have hke : k = epid v := nodeKey_some hk
      have hpid : (nodeStored v).pid = k := by rw [nodeStored_pid, hke]
      have hname : (nodeStored v).name = name := by rw [nodeStored_name, hvname]
      have hk0 : k ≠ "" := by
        rw [hke]; unfold epid
        split
        · exact hvok.2
        · assumption
      have hown : w.nodeOf (nodeStored v).pid = (nodeStored v).name := by
        rw [hpid, hke, nodeStored_name]; exact hvok.1
      rw [hpid, hname]
      -- if the name is known under another id, the old state node loses its Node first
      obtain ⟨o2, ho2, ⟨st2, step2, hcn2⟩, hnn2, hput2, hnd2, hget2⟩ :=
        rekeyed_spec (pid := k) OC.nn ⟨h.st, Step.refl o _, rfl⟩ (cleanupNode_spec h.st name)
      rw [ho2]
      refine ⟨_, rfl, ?_⟩
      have hi := installNode_step st2 (nodeStored v) (by rw [hpid]; exact hk0) hown (by rw [hname, ← hvname]; exact hvok.2)
        (by rw [hname, hpid]; exact hnn2)
      rw [hpid, hget2, hname] at hi
      refine oinv_of_step h hapi hi.1 ⟨step2.nodes.trans hi.2.nodes, step2.claims.trans hi.2.claims, ?_⟩ rfl rfl rfl
        (show Map.put o2.nn (nodeStored v).name (nodeStored v).pid = Map.put g.obsNodes name k by rw [hname, hpid, hput2, h.m1])
        (show o2.cn = g.obsClaims by rw [hcn2]; exact h.m2) (Map.noDup_put (hnd2 h.n1) _ _)
        (show Map.NoDup o2.cn by rw [hcn2]; exact h.n2) ⟨fun _ => ?_, fun e => absurd e (by decide)⟩
      · exact Map.forall_upd (get_installNode o2 _ _) step2.carry
          (fun s' e => by rw [← Option.some.inj e, hpid]; exact ⟨rfl, rfl⟩)
      · unfold NodeCons
        rw [hv]; dsimp only
        rw [hk]; dsimp only
        exact ⟨_, by rw [get_installNode, hpid, if_pos rfl], rfl⟩

theorem oinv_recClaim {w : Owners} {o : OC} {api : Api} {g : Ghost} (h : OInv w o api g) (hapi : ApiOK w api) (name : String)
    (hw : wClaimStep g api (.recClaim name) = true) :
    ∃ o', o.step api (.recClaim name) = some o' ∧ OInv w o' api (g.step api (.recClaim name)) := by
  simp only [OC.step, Ghost.step]
  cases hv : Map.get api.claims name with
  | none =>
    obtain ⟨o2, ho2, ⟨st2, step2, hnn2⟩, hcn2, _⟩ := cleanupNodeClaim_spec h.st name
    refine ⟨o2, ho2, ?_⟩
    refine oinv_of_step h hapi st2 step2 rfl rfl rfl (by rw [hnn2]; exact h.m1)
      (show o2.cn = Map.erase g.obsClaims name by rw [hcn2, h.m2]) (by rw [hnn2]; exact h.n1)
      (by rw [hcn2]; exact Map.noDup_erase h.n2 name) ⟨fun e => absurd e (by decide), fun _ => ?_⟩
    unfold ClaimCons
    rw [hv]; dsimp only
    rw [hcn2, Map.get_erase_self]
  | some cl =>
    dsimp only
    have hclname : cl.name = name := (hapi.claims name cl hv).1
    have hclok : w.okClaim cl := (hapi.claims name cl hv).2
    cases hm : cl.managed with
    | true =>
      simp only [Bool.not_true, Bool.false_eq_true, if_false, if_true]
      have hmg : w.managed name = true := by rw [← hclname, hclok.2, hm]
      rw [OC.updateNodeClaim_eq]
      by_cases hp : cl.pid ≠ ""
      · rw [if_pos hp, OC.installClaim_eq, hclname]
        have hown : w.claimOf cl.pid = cl.name := hclok.1 hp
        -- if the name is known under another id, the old state node loses its NodeClaim first
        obtain ⟨o2, ho2, ⟨st2, step2, hnn2⟩, hcn2, hput2, hnd2, hget2⟩ :=
          rekeyed_spec (pid := cl.pid) OC.cn ⟨h.st, Step.refl o _, rfl⟩ (cleanupNodeClaim_spec h.st name)
        rw [ho2]
        refine ⟨o2.putClaim cl ((Map.get o.nodes cl.pid).getD {}), by rw [← hclname]; rfl, ?_⟩
        have hi := putClaim_step st2 cl hp hown (by rw [hclname]; exact hmg) (by rw [hclname]; exact hcn2)
        rw [hget2, hclname] at hi
        refine oinv_of_step h hapi hi.1 ⟨step2.nodes.trans hi.2.nodes, step2.claims.trans hi.2.claims, ?_⟩ rfl rfl rfl
          (show o2.nn = g.obsNodes by rw [hnn2]; exact h.m1)
          (show Map.put o2.cn cl.name cl.pid = Map.put g.obsClaims name cl.pid by rw [hclname, hput2, h.m2])
          (show Map.NoDup o2.nn by rw [hnn2]; exact h.n1) (Map.noDup_put (hnd2 h.n2) _ _)
          ⟨fun e => absurd e (by decide), fun _ => ?_⟩
        · exact Map.forall_upd (get_putClaim o2 cl _) step2.carry (fun s' e => by rw [← Option.some.inj e]; exact ⟨rfl, rfl⟩)
        · unfold ClaimCons
          rw [hv]; dsimp only; rw [if_pos hm]
          refine ⟨?_, fun _ => ⟨_, by rw [get_putClaim, if_pos rfl], rfl⟩⟩
          show Map.get (Map.put o2.cn cl.name cl.pid) name = some cl.pid
          rw [hclname, Map.get_put_self]
      · -- not launched yet: only the name is recorded
        rw [if_neg hp]
        have hpe : cl.pid = "" := Decidable.not_not.mp hp
        refine ⟨_, rfl, ?_⟩
        have hcn : Map.get o.cn name = none ∨ Map.get o.cn name = some "" := by
          simp only [wClaimStep, hv, hm, hpe] at hw
          rw [h.m2]
          cases hx : Map.get g.obsClaims name with
          | none => exact Or.inl rfl
          | some p =>
            rw [hx] at hw
            have : p = "" := by simpa using hw
            rw [this]; exact Or.inr rfl
        have hi := recordUnlaunched_step h.st hcn hmg
        rw [hclname, hpe]
        refine oinv_of_step h hapi hi.1 hi.2 rfl rfl rfl h.m1
          (show Map.put o.cn name "" = Map.put g.obsClaims name "" by rw [h.m2]) h.n1 (Map.noDup_put h.n2 _ _)
          ⟨fun e => absurd e (by decide), fun _ => ?_⟩
        unfold ClaimCons
        rw [hv]; dsimp only; rw [if_pos hm]
        refine ⟨?_, fun hx => absurd hpe hx⟩
        show Map.get (Map.put o.cn name "") name = some cl.pid
        rw [Map.get_put_self, hpe]
    | false =>
      simp only [Bool.not_false, Bool.false_eq_true, if_false, if_true]
      refine ⟨o, rfl, ?_⟩
      refine oinv_of_step h hapi h.st (Step.refl o _) rfl rfl rfl h.m1 h.m2 h.n1 h.n2 ⟨fun e => absurd e (by decide), fun _ => ?_⟩
      unfold ClaimCons
      rw [hv]; dsimp only; rw [hm]
      simp only [Bool.false_eq_true, if_false]
      cases hx : Map.get o.cn name with
      | none => rfl
      | some id =>
        have := (h.st.cf name id hx).1
        rw [← hclname, hclok.2, hm] at this
        cases this

theorem oinv_step {w : Owners} {o : OC} {api : Api} {g : Ghost} (h : OInv w o api g) (hapi : ApiOK w api) (e : Event)
    (he : w.okEvent e) (hw : wStep g (api.step e) e = true) :
    ∃ o', o.step (api.step e) e = some o' ∧ OInv w o' (api.step e) (g.step (api.step e) e) := by
  have hw1 : wFilterStep g (api.step e) e = true := by
    unfold wStep at hw; exact (Bool.and_eq_true _ _ ▸ hw).1
  have hw2 : wClaimStep g (api.step e) e = true := by
    unfold wStep at hw; exact (Bool.and_eq_true _ _ ▸ hw).2
  cases e with
  | setNode n =>
    exact ⟨o, rfl, oinv_api h "n" n.name (fun _ hne => Map.get_put_ne _ _ _ _ (hne rfl)) (fun _ _ => rfl)⟩
  | delNode k =>
    exact ⟨o, rfl, oinv_api h "n" k (fun _ hne => Map.get_erase_ne _ _ _ (hne rfl)) (fun _ _ => rfl)⟩
  | setClaim c =>
    exact ⟨o, rfl, oinv_api h "c" c.name (fun _ _ => rfl) (fun _ hne => Map.get_put_ne _ _ _ _ (hne rfl))⟩
  | delClaim k =>
    exact ⟨o, rfl, oinv_api h "c" k (fun _ _ => rfl) (fun _ hne => Map.get_erase_ne _ _ _ (hne rfl))⟩
  | setPod p => exact ⟨o, rfl, oinv_api h "p" p.name (fun _ _ => rfl) (fun _ _ => rfl)⟩
  | delPod k => exact ⟨o, rfl, oinv_api h "p" k (fun _ _ => rfl) (fun _ _ => rfl)⟩
  | recNode name => exact oinv_recNode h hapi name hw1
  | recClaim name => exact oinv_recClaim h hapi name hw2
  | recPod name => exact ⟨o, rfl, oinv_recPod h name⟩
  | mark pid => exact ⟨_, rfl, (oinv_mark h pid).1⟩
  | unmark pid => exact ⟨_, rfl, (oinv_mark h pid).2.1⟩
  | nominate pid => exact ⟨_, rfl, (oinv_mark h pid).2.2⟩

def ghostRun (g : Ghost) (api : Api) : List Event → Ghost
  | [] => g
  | e :: es => ghostRun (g.step (api.step e) e) (api.step e) es

def apiRun (api : Api) : List Event → Api
  | [] => api
  | e :: es => apiRun (api.step e) es

def wRun (g : Ghost) (api : Api) : List Event → Bool
  | [] => true
  | e :: es => wStep g (api.step e) e && wRun (g.step (api.step e) e) (api.step e) es

theorem run_inv {fx : Fixes} {I : Cluster → Api → Ghost → Prop} {ok : Event → Prop}
    (hstep : ∀ (c : Cluster) (api : Api) (g : Ghost) (e : Event), I c api g → ok e → wStep g (api.step e) e = true →
      ∃ c' r, c.step fx (api.step e) e = .ok (c', r) ∧ I c' (api.step e) (g.step (api.step e) e))
    (es : List Event) :
    ∀ (c : Cluster) (api : Api) (g : Ghost), I c api g → (∀ e ∈ es, ok e) → wRun g api es = true →
      ∃ c', run fx c api es = .ok (c', apiRun api es) ∧ I c' (apiRun api es) (ghostRun g api es) := by
  induction es with
  | nil =>
    intro c api g h _ _
    exact ⟨c, rfl, h⟩
  | cons e es ih =>
    intro c api g h hok hw
    simp only [wRun, Bool.and_eq_true] at hw
    obtain ⟨c1, r, hc, h1⟩ := hstep c api g e h (hok e List.mem_cons_self) hw.1
    obtain ⟨c', hr, h'⟩ := ih c1 _ _ h1 (fun e' hm => hok e' (List.mem_cons_of_mem _ hm)) hw.2
    refine ⟨c', ?_, h'⟩
    simp only [run, hc]
    exact hr

theorem step_oinv (fx : Fixes) (w : Owners) (c : Cluster) (api : Api) (g : Ghost) (e : Event)
    (h : ∃ o, (proj c).Eqv o ∧ OInv w o api g ∧ ApiOK w api) (hok : w.okEvent e) (hw : wStep g (api.step e) e = true) :
    ∃ c' r, c.step fx (api.step e) e = .ok (c', r) ∧
      ∃ o', (proj c').Eqv o' ∧ OInv w o' (api.step e) (g.step (api.step e) e) ∧ ApiOK w (api.step e) := by
  obtain ⟨o, he, hi, ha⟩ := h
  obtain ⟨o1, ho1, hi1⟩ := oinv_step hi ha e hok hw
  have hsim := sim_step fx c o he (api.step e) e
  rw [ho1] at hsim
  cases hc : c.step fx (api.step e) e with
  | error err => rw [hc] at hsim; simp at hsim
  | ok cr =>
    rw [hc] at hsim
    exact ⟨cr.1, cr.2, rfl, o1, hsim, hi1, apiOK_step ha e hok⟩

/-- along any well-formed history the model never dereferences nil, and its projection satisfies the object-layer
    invariant -/
theorem run_oinv (fx : Fixes) (w : Owners) (es : List Event) :
    ∀ (c : Cluster) (o : OC) (api : Api) (g : Ghost), (proj c).Eqv o → OInv w o api g → ApiOK w api →
      (∀ e ∈ es, w.okEvent e) → wRun g api es = true →
      ∃ c' o', run fx c api es = .ok (c', apiRun api es) ∧ (proj c').Eqv o' ∧ OInv w o' (apiRun api es) (ghostRun g api es) ∧
        ApiOK w (apiRun api es) := by
  intro c o api g he hi ha hok hw
  obtain ⟨c', hr, o', h'⟩ := run_inv (step_oinv fx w) es c api g ⟨o, he, hi, ha⟩ hok hw
  exact ⟨c', o', hr, h'⟩

end Karp.ClusterState
